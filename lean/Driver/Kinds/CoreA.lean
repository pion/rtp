import Driver.Common
import Driver.PacketIO
import Rtp.Pred.C01
import Rtp.Pred.C04
import Rtp.Pred.C20
namespace Rtp.Kinds.CoreA
open Rtp Rtp.Proto Rtp.Model

/-- the quantifier of C01 (shared by C04 and C20): a well-formed packet whose extension profile is
    not one of the two-byte profiles with appbits (0x1001–0x100F), which `Pred.C01.extsLegal`
    classifies as legacy like the library does (see `appbitsProfile`) -/
def wfQ (p : Packet) : Bool := Pred.C01.wfP p && !hdrAppbits p.header

theorem wfQ_wfP (p : Packet) : wfQ p = true → Pred.C01.wfP p = true := by
  simp only [wfQ, Bool.and_eq_true]; exact fun h => h.1

/-- `c01.rt  <packet> <prev bytes> => size marshal unFresh unDirty hsize hmarshal hun` -/
def c01rt : Handler :=
  mkHandler (do let p ← rdPacket; let prev ← Rd.bytes; pure (p, prev))
    (do let size ← Rd.nat; let m ← rdBytesRes; let uf ← rdPktRes; let ud ← rdPktRes
        let hs ← Rd.nat; let hm ← rdBytesRes; let hu ← rdHdrRes
        pure ({ size := size, marshal := m, unFresh := uf, unDirty := ud, hsize := hs, hmarshal := hm, hun := hu } : Pred.C01.Obs))
    (fun (p, prev) => Pred.C01.modelObs p prev)
    (fun (p, _) o => Pred.C01.pred p o)
    (fun (p, _) => wfQ p)

/-- `c04.to  <packet> <dst bytes> => size hsize marshal hmarshal pto pbuf hto hbuf` -/
def c04to : Handler :=
  mkHandler (do let p ← rdPacket; let dst ← Rd.bytes; pure (p, dst))
    (do let size ← Rd.nat; let hs ← Rd.nat; let m ← rdBytesRes; let hm ← rdBytesRes
        let pto ← Rd.res Rd.nat; let pbuf ← Rd.bytes; let hto ← Rd.res Rd.nat; let hbuf ← Rd.bytes
        pure ({ size := size, hsize := hs, marshal := m, hmarshal := hm, pto := pto, pbuf := pbuf,
                hto := hto, hbuf := hbuf } : Pred.C04.Obs))
    (fun (p, dst) => Pred.C04.modelObs p dst)
    (fun (p, dst) o => Pred.C04.pred p dst o)
    (fun (p, _) => wfQ p)

def rdNils (withPayload : Bool) : Rd Pred.C20.Nils := do
  let c ← Rd.bool
  let p ← if withPayload then Rd.bool else pure false
  let e ← Rd.bool
  let l ← Rd.list Rd.bool
  pure { csrc := c, payload := p, exts := e, extPl := l }

def rdSide : Rd Pred.C20.Side := do
  let p ← rdPacket; let r ← Rd.u16; pure { pkt := p, rawProfile := r }

/-- `<kind> <a> <b> <bytes>` -/
def rdMut : Rd Pred.C20.Mut := do
  let k ← Rd.nat; let a ← Rd.nat; let b ← Rd.nat; let bs ← Rd.bytes
  match k with
  | 0 => pure .none
  | 1 => pure (.payloadByte a)
  | 2 => pure (.csrcEntry a)
  | 3 => pure (.extByte a b)
  | 4 => if a < 256 then pure (.setExt a.toUInt8 bs) else Rd.fail
  | 5 => if a < 256 then pure (.delExt a.toUInt8) else Rd.fail
  | _ => Rd.fail

/-- The observation with what C20's text does not speak of overwritten by the expected values, so
    that `Pred.C20.pred` ignores it:
    * `clonePO`, `hPO` — the deprecated `Header.PayloadOffset` ("Deprecated: will be removed in a future version" in packet.go; a
      by-product of Unmarshal, not one of the header fields of C01's "every header field");
    * `cloneRaw` — the deprecated `Packet.Raw` of the clone (nil: Clone drops it);
    * `cloneNils`, `hNils` — whether an EMPTY slice (CSRC, payload, `Extensions`, an extension
      element's value) is nil or not: a zero-length value is the same value either way.
    All five are nonetheless compared with the model (correspondence). -/
def c20canon (x : Pred.C20.Input) (o : Pred.C20.Obs) : Pred.C20.Obs :=
  { o with clonePO := x.po, hPO := x.po, cloneRaw := none, cloneNils := x.nils, hNils := { x.nils with payload := false } }

/-- C20 as worded: equal in all header fields, extensions, payload and padding size; no shared
    memory; the untouched side unchanged by a mutation of the other -/
def c20predR (x : Pred.C20.Input) (o : Pred.C20.Obs) : Bool := Pred.C20.pred x (c20canon x o)

theorem c20predR_of_pred (x : Pred.C20.Input) (o : Pred.C20.Obs) :
    Pred.C20.pred x o = true → c20predR x o = true := by
  intro h
  simp only [Pred.C20.pred, Pred.C20.equal, Pred.C20.disjoint, Pred.C20.independent,
    Bool.and_eq_true] at h
  simp only [c20predR, c20canon, Pred.C20.pred, Pred.C20.equal, Pred.C20.disjoint,
    Pred.C20.independent, Bool.and_eq_true, beq_self_eq_true, and_true]
  exact ⟨⟨⟨⟨h.1.1.1.1.1.1.1.1, h.1.1.1.1.1.1.2⟩, h.1.1.1.1.1.2⟩, h.1.2⟩, h.2⟩

/-- `c20.clone  <packet> payloadOffset raw <nils> <mut> <onClone>
      => marshal0 <clone side> <nils> clonePO cloneRaw ovPayload ovCsrc ovExtArr ovExtPl
         <hclone header> hRaw <hnils> hPO hovCsrc hovExtArr hovExtPl <other side> otherMarshal
         <hclone header after the mutation> hAfterRaw` -/
def c20clone : Handler :=
  mkHandler
    (do let p ← rdPacket; let po ← Rd.nat; let raw ← Rd.obytes; let n ← rdNils true; let m ← rdMut; let s ← Rd.bool
        pure ({ p := p, po := po, raw := raw, nils := n, mutn := m, onClone := s } : Pred.C20.Input))
    (do let m0 ← rdBytesRes
        let c ← rdSide; let cn ← rdNils true; let cpo ← Rd.nat; let craw ← Rd.obytes
        let o1 ← Rd.bool; let o2 ← Rd.bool; let o3 ← Rd.bool; let o4 ← Rd.bool
        let hc ← rdHeader; let hr ← Rd.u16; let hn ← rdNils false; let hpo ← Rd.nat
        let h1 ← Rd.bool; let h2 ← Rd.bool; let h3 ← Rd.bool
        let ot ← rdSide; let om ← rdBytesRes
        let ha ← rdHeader; let har ← Rd.u16
        pure ({ marshal0 := m0, clone := c, cloneNils := cn, clonePO := cpo, cloneRaw := craw, hPO := hpo, hAfter := ha,
                hAfterRaw := har, ovPayload := o1, ovCsrc := o2, ovExtArr := o3,
                ovExtPl := o4, hclone := hc, hRaw := hr, hNils := hn, hovCsrc := h1, hovExtArr := h2,
                hovExtPl := h3, other := ot, otherMarshal := om } : Pred.C20.Obs))
    Pred.C20.modelObs
    c20predR
    (fun x => wfQ x.p)

/-- `c01.reuse  <packet> <prev bytes> => res (len(h.Extensions), len(h.CSRC))` : the RAW lengths of
    the two slice fields of a receiver that decoded `prev` first and then Marshal(packet).  "Equal in
    every extension id and value" includes that no element of the EARLIER packet survives in the
    exported `Extensions` field, also while the X flag is clear (where the accessors hide it). -/
def c01reuse : Handler :=
  mkHandler (do let p ← rdPacket; let prev ← Rd.bytes; pure (p, prev))
    (Rd.res (do let a ← Rd.nat; let b ← Rd.nat; pure (a, b)))
    (fun (p, prev) =>
      let dirty : Packet := match pktUnmarshal {} prev with | .ok q => q | _ => {}
      match pktMarshal p with
      | .ok bs => (pktUnmarshal dirty bs).map (fun q => (q.header.exts.length, q.header.csrc.length))
      | _ => .err .other)
    (fun (p, _) o => !Pred.C01.wfP p ||
      o == .ok ((if p.header.extension then p.header.exts.length else 0), p.header.csrc.length))
    (fun (p, _) => wfQ p)

/-- `c01.inplace  <inner packet> <outer packet> <prev bytes> mode => r1 r2` : unwrapping an
    encapsulated packet in place — the receiver decodes Marshal(outer with payload := Marshal(inner)),
    then `recv.Unmarshal(recv.Payload)` (mode 1: `recv.Payload = buf` by hand, `recv.Unmarshal(buf)`).
    r1 / r2 : the receiver after the first / second decode, through the public accessors. -/
def c01inplace : Handler :=
  mkHandler (do let i ← rdPacket; let o ← rdPacket; let prev ← Rd.bytes; let m ← Rd.nat
                pure ({ inner := i, outer := o, prev := prev, mode := m } : Pred.C01.InplaceIn))
    (do let a ← rdPktRes; let b ← rdPktRes; pure (a, b))
    Pred.C01.inplaceModel
    Pred.C01.inplacePred
    (fun x => wfQ x.inner && (x.mode == 1 || wfQ x.outer))

def handlers : List (String × Handler) :=
  [("c01.inplace", c01inplace), ("c01.reuse", c01reuse), ("c01.rt", c01rt), ("c04.to", c04to), ("c20.clone", c20clone)]
end Rtp.Kinds.CoreA
