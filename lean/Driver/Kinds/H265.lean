/-
  Driver/Kinds/H265.lean — the case kinds for H265: C14 (c14.acc.*, c14.dec, c14.rt, c14.rt.donlfu) and
  the H265 parts of C08 / C09 (c08.h265, c09.h265, c09.h265.sub).  Token grammar (mirrored by harness/kinds_h265.go):

    hdr     <f> <type> <layer> <tid>
    packet  single hdr <opt u16> <bytes>
          | ap hdr <opt u16> [<size>] <nal> <n> (<opt u8> [<size>] <nal>)*        sizes only in views
          | fu hdr <s> <e> <futype> <opt u16> <bytes>
          | paci hdr <a> <ctype> <phs> <f0> <f1> <f2> <y> <phes> <bytes>
    view    packet(with sizes) + for paci: <opt (tl0 irap s e res)>               | nilpkt
-/
import Driver.Common
import Rtp.Model.H265Obs
namespace Rtp.Kinds.H265
open Rtp Rtp.Proto Rtp.Pred Rtp.Spec.Rfc7798
open Rtp.Model.H265

def rdHdr : Rd Hdr := do
  let f ← Rd.bool; let t ← Rd.u8; let l ← Rd.u8; let i ← Rd.u8
  pure { f := f, type := t, layer := l, tid := i }

def rdTsci : Rd Tsci := do
  let a ← Rd.u8; let b ← Rd.u8; let s ← Rd.bool; let e ← Rd.bool; let r ← Rd.u8
  pure { tl0 := a, irap := b, s := s, e := e, res := r }

/-- a packet; with `sizes` the NALUSize of every aggregation unit is read too and compared with
    the unit's length (second component) -/
def rdPacket (sizes : Bool) : Rd (Packet × Bool) := do
  let tag ← Rd.tok
  match tag with
  | "single" => do
    let h ← rdHdr; let d ← Rd.opt Rd.u16; let p ← Rd.bytes
    pure (.single h d p, true)
  | "ap" => do
    let h ← rdHdr; let d ← Rd.opt Rd.u16
    let unit : Rd (Bytes × Bool) := do
      if sizes then
        let s ← Rd.nat; let n ← Rd.bytes; pure (n, s == n.length)
      else
        let n ← Rd.bytes; pure (n, true)
    let (first, ok0) ← unit
    let rest ← Rd.list (do let dd ← Rd.opt Rd.u8; let (n, ok) ← unit; pure ((dd, n), ok))
    pure (.ap h d first (rest.map (·.1)), ok0 && rest.all (·.2))
  | "fu" => do
    let h ← rdHdr; let s ← Rd.bool; let e ← Rd.bool; let t ← Rd.u8; let d ← Rd.opt Rd.u16
    let p ← Rd.bytes
    pure (.fu h s e t d p, true)
  | "paci" => do
    let h ← rdHdr; let a ← Rd.bool; let c ← Rd.u8; let phs ← Rd.u8
    let f0 ← Rd.bool; let f1 ← Rd.bool; let f2 ← Rd.bool; let y ← Rd.bool
    let phes ← Rd.bytes; let p ← Rd.bytes
    pure (.paci h a c phs f0 f1 f2 y phes p, true)
  | _ => Rd.fail

def rdView : Rd Parsed := do
  let (p, ok) ← rdPacket true
  let t ← match p with
    | .paci .. => Rd.opt rdTsci
    | _ => pure none
  pure { pkt := p, tsci := t, sizesOk := ok }

/-- `nilpkt` | view -/
def rdViewOpt : Rd (Option Parsed) := fun s =>
  match s with
  | "nilpkt" :: r => some (none, r)
  | _ => (rdView.map some) s

/-! ### c14.acc -/

def accHdr : Handler :=
  mkHandler Rd.u16
    (do let f ← Rd.bool; let t ← Rd.u8; let v ← Rd.bool; let l ← Rd.u8; let i ← Rd.u8
        let a ← Rd.bool; let u ← Rd.bool; let p ← Rd.bool
        pure ({ f := f, type := t, vcl := v, layer := l, tid := i, agg := a, fu := u, paci := p } : C14.HdrAcc))
    hdrAcc C14.hdrAccOk

def accFu : Handler :=
  mkHandler Rd.u8
    (do let s ← Rd.bool; let e ← Rd.bool; let t ← Rd.u8; pure ({ s := s, e := e, type := t } : C14.FuAcc))
    fuAcc C14.fuAccOk

def accPaci : Handler :=
  mkHandler Rd.u16
    (do let a ← Rd.bool; let c ← Rd.u8; let p ← Rd.u8; let f0 ← Rd.bool; let f1 ← Rd.bool
        let f2 ← Rd.bool; let y ← Rd.bool
        pure ({ a := a, cType := c, phs := p, f0 := f0, f1 := f1, f2 := f2, y := y } : C14.PaciAcc))
    paciAcc C14.paciAccOk

/-- `<a> <b> <c0> <count> => <count> (opt tsci)*` -/
def accTsci : Handler :=
  mkHandler (do let a ← Rd.u8; let b ← Rd.u8; let c ← Rd.nat; let n ← Rd.nat; pure (a, b, c, n))
    (Rd.list (Rd.opt rdTsci))
    (fun (a, b, c, n) => tsciAcc a b c n)
    (fun (a, b, c, _) o => C14.tsciAccOk a b c o)

/-! ### c14.dec -/

def rdResParsed : Rd (Res Parsed) := do
  let t ← Rd.tok
  match t with
  | "ok" => do let v ← rdView; pure (.ok v)
  | "err" => do let _ ← Rd.tok; pure (.err .other)
  | "panic" => pure .panic
  | _ => Rd.fail

/-- What RFC 7798 requires of a packet beyond its field layout (`Packet.WF`), i.e. what "well-formed
    payload" means in C14's quantifier: the units of an aggregation packet are NAL units (F = 0, a plain
    type 0–47, at least one payload octet after the two header octets) and the packet's LayerId / TID
    are the minima over them (§4.4.2); a PACI packet does not contain a PACI packet (§4.4.4). -/
def semanticOK : Packet → Bool
  | .ap h _ first rest =>
    let units := first :: rest.map (·.2)
    units.all (fun u => decide (3 ≤ u.length) && !(Hdr.ofNal u).f && decide ((Hdr.ofNal u).type.toNat < 48)) &&
    h.layer.toNat == minLayer units && h.tid.toNat == minTid units
  | .paci _ _ c _ _ _ _ _ _ _ => c != 50
  | _ => true

/-- `C14.decOk` without the demand on `IsPartitionHead`, which the statement of C14 never mentions:
    the observed `head` is replaced by the value `decOk` compares it with -/
def decOkRelaxed (mode : Bool) (desc : Packet) (cut : Option Nat) (fed : Bytes) (o : C14.DecObs) : Bool :=
  C14.decOk mode desc cut fed { o with head := C14.headSpec desc }

/-- the theorems are about `C14.decOk`; it implies what the driver evaluates -/
theorem decOk_imp_relaxed (mode : Bool) (desc : Packet) (cut : Option Nat) (fed : Bytes) (o : C14.DecObs) :
    C14.decOk mode desc cut fed o = true → decOkRelaxed mode desc cut fed o = true := by
  unfold decOkRelaxed C14.decOk
  cases cut with
  | none =>
    simp only [Bool.and_eq_true, beq_self_eq_true, and_true]
    exact fun h => h.1
  | some n => exact id

/-- `<mode> <packet> <opt cut> <fed bytes> <before: list bytes> <after: list bytes> <sub> => <res view> <head> <res view>`.
    Exact decoding is demanded of well-formed payloads only: field layout (`Packet.WF`) and RFC 7798
    semantics (`semanticOK`); on the others the code is compared with the model only.
    `before` / `after` are the payloads the SAME H265Packet parsed before / after the payload under
    test (both empty: a fresh receiver); the view is read from the packet object the caller kept, after
    all of them.  H265Packet decodes each payload on its own, so neither the model's answer nor what
    C14 demands ("decode every well-formed … payload to exactly the encoded field values") depends on
    them; they are part of the input so that a failing case shows the receiver's history.
    `<sub>` = 1: the receiver is not an H265Packet but the exported sub-parser of the described form
    (H265SingleNALUnitPacket / H265AggregationPacket), ONE value for `before`, the payload and `after`;
    the view is written from what its accessors returned right after the payload was decoded, kept
    by the caller and re-read after `after`.  The model answers with that sub-parser (`decObsSub`).
    The second `<res view>` of the observation is what a second receiver reports: ONE H265Packet with
    SetZeroAllocation(true) that parsed `before` and then the payload, its accessors read at once;
    H265Packet decodes each payload on its own in that mode too (model: `decode`), and the same
    predicate is evaluated on it. -/
def dec : Handler :=
  mkHandler
    (do let m ← Rd.bool; let (p, _) ← rdPacket false; let c ← Rd.opt Rd.nat; let b ← Rd.bytes
        let _before ← Rd.list Rd.bytes; let _after ← Rd.list Rd.bytes; let sub ← Rd.bool
        pure (m, p, c, b, sub))
    (do let r ← rdResParsed; let h ← Rd.bool; let z ← rdResParsed
        pure (({ res := r, head := h } : C14.DecObs), z))
    (fun (m, p, _, b, sub) => (if sub then decObsSub m p b else decObs m b, decode m (some b)))
    -- the predicate once on the receiver under test, once more on the zero-allocation receiver
    (fun (m, p, c, b, _) (o, z) => decOkRelaxed m p c b o && decOkRelaxed m p c b { o with res := z })
    (fun (m, p, c, _, _) => p.WF m && semanticOK p &&
      (match c with | none => true | some n => decide (n < (encode p).length)))

/-! ### c14.rt -/

structure RtIn where
  mtu : UInt16
  calls : List RtCall

/-- `<mtu> <n> (<addDONL> <skipAgg> <units>)* <rx>`: one payloader, before every call the caller sets
    the exported fields `AddDONL` / `SkipAggregation` to that call's values (constant in most
    histories); each call's packets are parsed with the DONL setting of that call.  `rx` = 1: every
    payload of the history was parsed by ONE H265Packet (0: a fresh one per payload).  In both cases
    the views in the observation are read from the decoded packets the caller kept, after the last
    payload was parsed.  The parser decodes each payload on its own: the model and the predicate do
    not depend on `rx`. -/
def rdRtIn : Rd RtIn := do
  let m ← Rd.u16
  let cs ← Rd.list (do
    let a ← Rd.bool; let s ← Rd.bool
    let f ← Rd.list (do let sc ← Rd.nat; let u ← Rd.bytes; pure (sc, u))
    pure (({ addDONL := a, skipAgg := s } : Cfg), f))
  let _rx ← Rd.bool
  pure { mtu := m, calls := cs }

/-- `<payload> <res view> <head> <res view>`: the second view is what the second receiver reports — ONE
    H265Packet with SetZeroAllocation(true) for the whole history, read right after the payload was
    decoded -/
def rdPktObs : Rd (C14.PktObs × Res Parsed) := do
  let p ← Rd.bytes; let r ← rdResParsed; let h ← Rd.bool; let z ← rdResParsed
  pure ({ payload := p, res := r, head := h }, z)

abbrev RtObs2 := List (Option (List (C14.PktObs × Res Parsed)))

def rdRtObs : Rd RtObs2 :=
  Rd.list (do
    let t ← Rd.tok
    match t with
    | "panic" => pure none
    | "ok" => do let l ← Rd.list rdPktObs; pure (some l)
    | _ => Rd.fail)

/-- the observation of the receiver under test / of the zero-allocation receiver -/
def RtObs2.main (o : RtObs2) : List (Option (List C14.PktObs)) := o.map (·.map (·.map (·.1)))
def RtObs2.zero (o : RtObs2) : List (Option (List C14.PktObs)) :=
  o.map (·.map (·.map fun (p, z) => { p with res := z }))

/-- `C14.callOk` without what the statement of C14 does not say: that payloads fit the MTU (that is
    C08; the MTU occurs in `callOk` only in that conjunct, which is left out — an MTU argument raised
    to the longest payload would not fit `UInt16`), and what `IsPartitionHead` answers. -/
def callOkRelaxed (cfg : Cfg) (units : List Bytes) (o : List C14.PktObs) : Bool :=
  match o.mapM (fun p => p.res.toOption) with
  | none => false
  | some ps =>
    ps.all (·.sizesOk) &&
    (o.zip ps).all (fun (p, v) => encode v.pkt == p.payload && shapeOk cfg.addDONL v.pkt) &&
    depack none (ps.map (·.pkt)) == some units

theorem callOk_imp_relaxed (cfg : Cfg) (mtu : UInt16) (units : List Bytes) (o : List C14.PktObs) :
    C14.callOk cfg mtu units o = true → callOkRelaxed cfg units o = true := by
  unfold C14.callOk callOkRelaxed
  cases o.mapM (fun p => p.res.toOption) with
  | none => simp
  | some ps =>
    simp only [Bool.and_eq_true, List.all_eq_true]
    rintro ⟨_, ⟨hs, hz⟩, hd⟩
    refine ⟨⟨hs, fun x hx => ?_⟩, hd⟩
    have := hz x hx
    obtain ⟨p, v⟩ := x
    simp only at this ⊢
    exact ⟨this.1.1, this.2⟩

def rtOkRelaxedF : List RtCall → List (Option (List C14.PktObs)) → Bool
  | [], [] => true
  | (cfg, f) :: fs, some o :: os => callOkRelaxed cfg (f.map (·.2)) o && rtOkRelaxedF fs os
  | _, _ => false

/-- likewise for `C14.rtOkF` -/
theorem rtOkF_imp_relaxed (mtu : UInt16) (fs : List RtCall) (os : List (Option (List C14.PktObs))) :
    C14.rtOkF mtu fs os = true → rtOkRelaxedF fs os = true := by
  induction fs generalizing os with
  | nil => cases os <;> simp [C14.rtOkF, rtOkRelaxedF]
  | cons f fs ih =>
    obtain ⟨cfg, f⟩ := f
    match os with
    | [] => simp [C14.rtOkF]
    | none :: _ => simp [C14.rtOkF]
    | some o :: os =>
      simp only [C14.rtOkF, rtOkRelaxedF, Bool.and_eq_true]
      exact fun h => ⟨callOk_imp_relaxed _ _ _ _ h.1, ih _ h.2⟩

/-- the recorded defect `c14_donl_fu` undone on the receiving side: a non-first fragmentation unit
    (S = 0) carries two stray DONL octets in front of its payload -/
def stripDonl : Packet → Packet
  | .fu h false e t d p => .fu h false e t d (p.drop 2)
  | p => p

/-- the call's packets satisfy C14 once the recorded defect is undone (whatever the cut points) -/
def callExplained (cfg : Cfg) (units : List Bytes) (o : List C14.PktObs) : Bool :=
  cfg.addDONL &&
  match o.mapM (fun p => p.res.toOption) with
  | none => false
  | some ps =>
    ps.all (·.sizesOk) &&
    (o.zip ps).all (fun (p, v) => encode v.pkt == p.payload && shapeOk cfg.addDONL v.pkt) &&
    depack none (ps.map (fun v => stripDonl v.pkt)) == some units

/-- every call is fine as it is or — if it was made with AddDONL — explained by the recorded defect -/
def rtExplainedF : List RtCall → List (Option (List C14.PktObs)) → Bool
  | [], [] => true
  | (cfg, f) :: fs, some o :: os =>
    (callOkRelaxed cfg (f.map (·.2)) o || callExplained cfg (f.map (·.2)) o) && rtExplainedF fs os
  | _, _ => false

/-- `wf` is exactly the hypothesis of `c14_rt_flip_partial` (`rtWFF`; on a history with constant options:
    `rtWF`, the hypothesis of `c14_roundtrip_partial`): outside it nothing is claimed (correspondence only;
    `rtNoPanic` is evaluated there but does not count) -/
def rt : Handler :=
  -- H265Packet decodes each payload on its own with SetZeroAllocation(true) too: the model gives the
  -- second receiver the same result, and the predicate is evaluated on both
  mkHandler rdRtIn rdRtObs (fun i => (rtObsF i.mtu 0 i.calls).map (·.map (·.map fun p => (p, p.res))))
    (fun i o =>
      let f := fun o => if rtWFF i.mtu i.calls then rtOkRelaxedF i.calls o else C14.rtNoPanic o
      f o.main && f o.zero)
    (fun i => rtWFF i.mtu i.calls)
    (fun i _ => if rtKFF i.mtu 0 i.calls then some "c14_donl_fu" else none)
    -- a failure inside the region counts as the KNOWN finding also when the bytes differ from the
    -- model's (other cut points, …), as long as undoing the recorded defect makes the predicate hold;
    -- a call made without AddDONL is never excused
    (fun i o => rtWFF i.mtu i.calls && rtExplainedF i.calls o.main && rtExplainedF i.calls o.zero)

/-! ### c08.h265 -/

def c08 : Handler :=
  mkHandler (do let a ← Rd.bool; let s ← Rd.bool; let cs ← rdCalls; pure (({ addDONL := a, skipAgg := s } : Cfg), cs))
    rdPayObsList
    (fun (cfg, cs) => c08Obs cfg cs)
    (fun (_, cs) os => C08.histOk false cs os)
    (fun _ => true)
    -- with AddDONL the bytes of a fragmented unit are those of the known finding c14_donl_fu: if the
    -- finding is repaired, fragments differ from the model there (and must still satisfy C08)
    (fun (cfg, cs) _ => if cfg.addDONL && (payloadHist cfg 0 cs).any (·.any isFU) then some "c14_donl_fu" else none)

/-! ### c09.h265 -/

abbrev Dep := C09.DepObs (Option Parsed)

def rdDep : Rd Dep := do
  let r ← Rd.resC Rd.bytes
  let md ← rdViewOpt
  let h ← Rd.bool; let t0 ← Rd.bool; let t1 ← Rd.bool
  let ap ← Rd.bool; let fs ← Rd.bool; let ts ← Rd.bool
  pure { res := r, md := md, head := h, tail0 := t0, tail1 := t1, auxPanic := ap, freshSame := fs, twinSame := ts }

def c09 : Handler :=
  mkHandler (do let d ← Rd.bool; let ps ← Rd.list Rd.obytes; pure (d, ps))
    (Rd.list rdDep)
    (fun (d, ps) => depHist d ps)
    (fun _ os => C09.histOk true os)

/-- `<which 0..3> <donl> <obytes> => <res view>`: a sub-parser called directly on a fresh receiver.
    Correspondence only: C09 lists "H265 with and without DONL", i.e. H265Packet (kind `c09.h265`),
    not the four sub-packet parsers it dispatches to, so C09 claims nothing about calling those on
    arbitrary bytes (that they do not panic is `c09_nopanic_h265_sub`). -/
def sub : Handler :=
  mkHandler (do let w ← Rd.nat; let d ← Rd.bool; let p ← Rd.obytes; pure (w, d, p)) rdResParsed
    (fun (w, d, p) => subDecode w d p)
    (fun _ _ => true)

def handlers : List (String × Handler) :=
  [("c14.acc.hdr", accHdr), ("c14.acc.fu", accFu), ("c14.acc.paci", accPaci), ("c14.acc.tsci", accTsci),
   ("c14.dec", dec), ("c14.rt", rt), ("c14.rt.donlfu", rt), ("c08.h265", c08), ("c09.h265", c09), ("c09.h265.sub", sub)]
end Rtp.Kinds.H265
