/-
  Driver/Kinds/Av1.lean — the case kinds for AV1 (C13, C15 AV1 half, C08/C09 AV1 parts).

  token formats (mirrored by harness/kinds_av1.go)
    hdr     <type> (none | some <t> <s> <r>) <hasSize> <reserved1>
    obu     hdr <payload bytes>
    obuW    obu <width>            (c13.rt: width of the obu_size field, 0 = minimal)
    c09.av1packet input: <reuse> <n> (<obytes> <always>)*   (always: ReadFrames also after a refusal)
    view    <z> <y> <w> <n> <list bytes>
-/
import Driver.Common
import Rtp.Model.AV1Obs
namespace Rtp.Kinds.Av1
open Rtp Rtp.Proto Rtp.Model Rtp.Model.AV1 Rtp.Spec.Av1Rtp

/-! ### readers -/

def rdHdr : Rd ObuHeader := do
  let t ← Rd.u8
  let e ← Rd.opt (do let a ← Rd.u8; let b ← Rd.u8; let c ← Rd.u8
                     pure ({ temporalID := a, spatialID := b, reserved3 := c } : ExtHdr))
  let s ← Rd.bool; let r ← Rd.bool
  pure { type := t, ext := e, hasSize := s, reserved1 := r }

def rdObu : Rd Obu := do let h ← rdHdr; let p ← Rd.bytes; pure { hdr := h, payload := p }

def rdView : Rd Pred.C13.PktView := do
  let z ← Rd.bool; let y ← Rd.bool; let w ← Rd.nat; let n ← Rd.bool; let es ← Rd.list Rd.bytes
  pure { z := z, y := y, w := w, n := n, elems := es }

/-! ### c13.rt -/

structure RtIn where
  mtu : UInt16
  obus : List (Obu × Nat)      -- each OBU with the width of its `obu_size` field (0 = minimal)
  stream : Bytes

/-- `<mtu> <list (obu <width>)> <stream>`; the stream the harness built with its own serialiser must
    be the specification's serialisation of the OBU list with size fields of those widths (otherwise
    the case is a harness error).  The model is run on the stream: it sees the raw bytes. -/
def rdRtIn : Rd RtIn := do
  let m ← Rd.u16
  let os ← Rd.list (do let o ← rdObu; let w ← Rd.nat; pure (o, w))
  let s ← Rd.bytes
  if serialiseW os == s then pure { mtu := m, obus := os, stream := s } else Rd.fail

def rdRtObs : Rd Pred.C13.RtObs := do
  let t ← Rd.tok
  match t with
  | "panic" => pure { panicked := true, payloads := [], views := [], frames := [], depack := [] }
  | "ok" => do
    let ps ← Rd.list Rd.bytes
    let vs ← Rd.list (Rd.resC rdView)
    let fs ← Rd.list (Rd.list Rd.bytes)
    let ds ← Rd.list (Rd.resC Rd.bytes)
    pure { panicked := false, payloads := ps, views := vs, frames := fs, depack := ds }
  | _ => Rd.fail

/-- the longest payload observed, but at least `mtu` -/
def mtuOrLongest (mtu : Nat) (ps : List Bytes) : Nat := ps.foldr (fun p m => max p.length m) mtu

/-- C13 as worded, on what the implementation did (the predicate the driver evaluates).  It is
    `Pred.C13.rt` without what the statement of C13 does not say:
    * that payloads fit the MTU (that is C08): `rulesOK` is evaluated at an MTU no payload exceeds, which
      only switches off its length conjunct (the MTU occurs nowhere else in `rulesOK`);
    * the Z/Y/W/N fields and the element split shown by the deprecated `AV1Packet` (`views` is not looked
      at): the text only says that the deprecated path "reassembles the same OBUs";
    * the form in which the frame assembler hands out the OBUs: without size fields (`normalise`) or with
      them (`normaliseSized`) they are "the same OBUs".
    Outside `rtWF` (the quantifier of C13) nothing is claimed: `wf = false` there, correspondence only. -/
def rtRelaxed (mtu : Nat) (obus : List Obu) (o : Pred.C13.RtObs) : Bool :=
  !o.panicked &&
  (!Pred.C13.rtWF mtu obus ||
    (rulesOK (mtuOrLongest mtu o.payloads) o.payloads &&
     denote o.payloads == some (normalise obus) &&
     (o.frames.flatten == normalise obus || o.frames.flatten == normaliseSized obus) &&
     o.depack.length == o.payloads.length &&
     (Pred.C13.okBytes o.depack).map List.flatten == some (normaliseSized obus).flatten))

theorem le_mtuOrLongest (mtu : Nat) (ps : List Bytes) : mtu ≤ mtuOrLongest mtu ps := by
  induction ps with
  | nil => exact Nat.le_refl _
  | cons p ps ih => exact Nat.le_trans ih (Nat.le_max_right _ _)

theorem rulesOK_mono {m m' : Nat} (h : m ≤ m') (ps : List Bytes) :
    rulesOK m ps = true → rulesOK m' ps = true := by
  unfold rulesOK
  simp only [Bool.and_eq_true, List.all_eq_true, decide_eq_true_eq]
  rintro ⟨hl, hr⟩
  exact ⟨fun p hp => Nat.le_trans (hl p hp) h, hr⟩

/-- the theorems are about `Pred.C13.rt`; it implies what the driver evaluates -/
theorem rt_imp_rtRelaxed (mtu : Nat) (obus : List Obu) (o : Pred.C13.RtObs) :
    Pred.C13.rt mtu obus o = true → rtRelaxed mtu obus o = true := by
  unfold Pred.C13.rt rtRelaxed
  simp only [Bool.and_eq_true, Bool.or_eq_true]
  rintro ⟨hp, h⟩
  refine ⟨hp, ?_⟩
  rcases h with h | ⟨⟨⟨⟨⟨⟨hr, hd⟩, _⟩, _⟩, hf⟩, hl⟩, hk⟩
  · exact Or.inl h
  · exact Or.inr ⟨⟨⟨⟨rulesOK_mono (le_mtuOrLongest _ _) _ hr, hd⟩, Or.inl hf⟩, hl⟩, hk⟩

/-- with size fields of chosen widths: the same claim about the same OBUs whenever the widths are ones
    the AV1 specification allows (minimal, or 1 … 8 bytes that hold the value); never a panic -/
def rtRelaxedW (mtu : Nat) (ows : List (Obu × Nat)) (o : Pred.C13.RtObs) : Bool :=
  !o.panicked && (!widthsOK ows || rtRelaxed mtu (ows.map (·.1)) o)

theorem rt_imp_rtRelaxedW (mtu : Nat) (ows : List (Obu × Nat)) (o : Pred.C13.RtObs) :
    Pred.C13.rt mtu (ows.map (·.1)) o = true → rtRelaxedW mtu ows o = true := by
  intro h
  have h1 := rt_imp_rtRelaxed mtu _ o h
  have h2 : (!o.panicked) = true := by
    unfold rtRelaxed at h1
    simp only [Bool.and_eq_true] at h1
    exact h1.1
  simp [rtRelaxedW, h1, h2]

def rt : Handler :=
  mkHandler rdRtIn rdRtObs (fun i => rtObs i.mtu i.stream)
    (fun i o => rtRelaxedW i.mtu.toNat i.obus o)
    (fun i => Pred.C13.rtWF i.mtu.toNat (i.obus.map (·.1)) && widthsOK i.obus)

/-! ### c13.leb, c13.lebrd -/

def rdRead : Rd (Option (UInt64 × Nat)) := Rd.opt (do let v ← Rd.u64; let k ← Rd.nat; pure (v, k))

def leb : Handler :=
  mkHandler (do let n ← Rd.u64; let t ← Rd.bytes; pure (n, t))
    (do let w ← Rd.bytes; let r ← rdRead; pure ({ written := w, read := r } : Pred.C13.LebObs))
    (fun (n, t) => lebObs n t)
    (fun (n, _) o => Pred.C13.leb n o)
    (fun (n, _) => decide (n.toNat < 2 ^ 32))

/-- ReadLeb128 on arbitrary bytes: correspondence with `readLebGo` only -/
def lebrd : Handler :=
  mkHandler Rd.bytes rdRead (fun b => readLebGo b) (fun _ _ => true)

/-! ### c13.obuhdr, c13.obumar -/

def rdResHdr : Rd (Res ObuHeader) := Rd.resC rdHdr

/-- `c13.obuhdr <bytes> <edits> => …` — `edits` (0 | 1, for the record; not an input of the model): the
    same bytes were parsed before and the caller wrote through the header it got then (its fields and
    the extension header behind the exported pointer) before the parse under test -/
def obuhdr : Handler :=
  mkHandler (do let b ← Rd.bytes; let _edits ← Rd.nat; pure b)
    (do let p ← rdResHdr; let s ← Rd.nat; let b ← Rd.bytes; let r ← rdResHdr
        pure ({ parsed := p, size := s, bytes := b, reparsed := r } : Pred.C13.HdrObs))
    hdrObs (fun bs o => Pred.C13.hdr bs o)

def obumar : Handler :=
  mkHandler rdHdr
    (do let b ← Rd.bytes; let s ← Rd.nat; let r ← rdResHdr
        pure ({ bytes := b, size := s, reparsed := r } : Pred.C13.MarObs))
    marObs
    (fun h o => Pred.C13.mar h o)
    (fun h => hdrWF h)

/-- `c13.obuwire <obu> => <bytes>` : OBU.Marshal of a whole OBU.  C13 speaks of "OBU header
    parse/marshal" only (c13.obuhdr, c13.obumar), not of this export: correspondence with the model only
    (nothing is demanded of the code beyond it). -/
def obuwire : Handler :=
  mkHandler rdObu Rd.bytes (fun o => o.wire) (fun _ _ => true) (fun o => hdrWF o.hdr)

/-- `c13.encleb <n> => <u64>` : EncodeLEB128.  C13's "LEB128 write/read" are WriteToLeb128/ReadLeb128
    (c13.leb), not this export: correspondence with the model only. -/
def encleb : Handler :=
  mkHandler Rd.u64 Rd.u64 (fun n => encodeLeb128Go 10 n 0) (fun _ _ => true)
    (fun n => decide (n.toNat < 2 ^ 56))

/-! ### c15.av1 -/

def resync : Handler :=
  mkHandler (do let pre ← Rd.list Rd.obytes; let fr ← Rd.list Rd.bytes; pure (pre, fr))
    (do let u ← Rd.list (Rd.resC Rd.bytes); let f ← Rd.list (Rd.resC Rd.bytes)
        pure ({ used := u, fresh := f } : Pred.C15Av1.Obs))
    (fun (pre, fr) => resyncObs pre fr)
    (fun (_, fr) o => Pred.C15Av1.resync fr o)
    (fun (_, fr) => Pred.C15Av1.frameStarts fr)

/-! ### c08.av1 -/

def c08 : Handler :=
  mkHandler rdCalls rdPayObsList
    c08Obs
    (fun calls os => Pred.C08.histOk false calls os)

/-! ### c09.av1 -/

def rdDepObs : Rd (Pred.C09.DepObs Pred.C09Av1.Md) := do
  let r ← Rd.resC Rd.bytes
  let z ← Rd.bool; let y ← Rd.bool; let n ← Rd.bool
  let h ← Rd.bool; let t0 ← Rd.bool; let t1 ← Rd.bool
  let ap ← Rd.bool; let fs ← Rd.bool; let ts ← Rd.bool
  pure { res := r, md := { z := z, y := y, n := n }, head := h, tail0 := t0, tail1 := t1,
         auxPanic := ap, freshSame := fs, twinSame := ts }

def c09 : Handler :=
  -- input: the SetZeroAllocation option (no effect on AV1Depacketizer: the model ignores it), payloads
  mkHandler (do let _z ← Rd.bool; let ps ← Rd.list Rd.obytes; pure ps) (Rd.list rdDepObs) (depObsOf {})
    (fun _ os => Pred.C09.histOk false os)

/-! ### c09.av1packet -/

def rdPktCall : Rd Pred.C09Av1.PktCall := do
  let r ← Rd.resC Rd.bytes
  let z ← Rd.bool; let y ← Rd.bool; let w ← Rd.nat; let n ← Rd.bool
  let es ← Rd.list Rd.bytes
  let fr ← Rd.resC (Rd.list Rd.bytes)
  let ts ← Rd.bool
  pure { res := r, z := z, y := y, w := w, n := n, elems := es, frames := fr, twinSame := ts }

/-- C09's ownership sentence names H264Packet and AV1Depacketizer only; for the deprecated
    AV1Packet + frame.AV1 path the text claims no panic, so the twin probe is not evaluated
    (`twinSame` stays in the observation: correspondence). -/
def pktHistOkR (os : List Pred.C09Av1.PktCall) : Bool :=
  Pred.C09Av1.histOk (os.map (fun o => { o with twinSame := true }))

theorem pktHistOkR_of_histOk (os : List Pred.C09Av1.PktCall) :
    Pred.C09Av1.histOk os = true → pktHistOkR os = true := by
  simp only [pktHistOkR, Pred.C09Av1.histOk, List.all_map, List.all_eq_true]
  intro h o ho
  have := h o ho
  simp [Pred.C09Av1.callOk] at this ⊢
  exact ⟨this.1.1, this.1.2⟩

def c09pkt : Handler :=
  -- input: `<reuse> <n> (<obytes> <always>)*` — `always`: ReadFrames is called after this Unmarshal
  -- even if it refused the payload (otherwise only after a successful one)
  mkHandler (do let r ← Rd.bool
                let ps ← Rd.list (do let p ← Rd.obytes; let a ← Rd.bool; pure (p, a))
                pure (r, ps)) (Rd.list rdPktCall)
    (fun (r, ps) => pktCallsOf r {} [] ps)
    (fun _ os => pktHistOkR os)

def handlers : List (String × Handler) :=
  [("c13.rt", rt), ("c13.leb", leb), ("c13.lebrd", lebrd), ("c13.obuhdr", obuhdr),
   ("c13.obumar", obumar), ("c13.obuwire", obuwire), ("c13.encleb", encleb), ("c15.av1", resync), ("c08.av1", c08), ("c09.av1", c09),
   ("c09.av1packet", c09pkt)]
end Rtp.Kinds.Av1
