/-
  Driver/Kinds/H264.lean — the case kinds about H264 (C10, C15 H264 half, C08/C09 H264 parts).

  c10.rt    <disable> <avc> <ncalls> (<mtu> <bare> <nunits> (<four> <nal>)*)*
            => panic | ok <ncalls> (<npkts> (<payload> <head> <res>)*)*
  c10.dec   <avc> <nitems> (s <nal> | a <hdr> <rfc> <n> <nal>* | f <hdr> <n> <chunk>*)*
            => panic | ok <npkts> (<payload> <head> <res>)*
  c15.h264  <avc> <npre> <payload>* <nframe> <payload>*
            => panic | ok <n> <res>* <n> <res>*
  c08.h264  <n> <disable>* <calls> => <n> PayObs*      (DisableStapA per call)
  c10.rtfork   <disable> <avc> <fork> <ncalls> (<lane> <mtu> <bare> <nunits> (<four> <nal>)*)*
            => panic | ok <n0> (<npkts> (<payload> <head> <res>)*)* <n1> (<npkts> (<payload> <head> <res>)*)*
            the payloader struct is copied by value after <fork> calls; call k >= fork goes to copy <lane>;
            observation = per copy, the calls it received over its life (those before the fork included)
  c08.h264fork <fork> <n> <lane>* <n> <disable>* <calls> => <n> PayObs*   (in call order)
  c09.h264  <zeroAlloc> <avc> <n> <obytes>* => <n> (<res> <isAVC> <head> <tail0> <tail1> <auxPanic> <freshSame> <twinSame>)*
-/
import Driver.Common
import Rtp.Model.H264Obs
import Rtp.Model.H264Fork
namespace Rtp.Kinds.H264
open Rtp Rtp.Proto Rtp.Pred Rtp.Model.H264 Rtp.Model.H264.Obs Rtp.Model.H264.Fork Rtp.Spec.Rfc6184

def rdRtCall : Rd C10.RtCall := do
  let m ← Rd.u16; let b ← Rd.bool
  let us ← Rd.list (do let f ← Rd.bool; let n ← Rd.bytes; pure (f, n))
  pure { mtu := m, bare := b, units := us }

def rdRtInput : Rd C10.RtInput := do
  let d ← Rd.bool; let a ← Rd.bool; let cs ← Rd.list rdRtCall
  pure { disable := d, avc := a, calls := cs }

def rdPkt : Rd C10.PktObs := do
  let p ← Rd.bytes; let h ← Rd.bool; let r ← Rd.resC Rd.bytes
  pure { payload := p, head := h, res := r }

def rdRtObs : Rd C10.RtObs := do
  let t ← Rd.tok
  match t with
  | "panic" => pure { panicked := true, calls := [] }
  | "ok" => do let cs ← Rd.list (Rd.list rdPkt); pure { panicked := false, calls := cs }
  | _ => Rd.fail

def rdItem : Rd Item := do
  let t ← Rd.tok
  match t with
  | "s" => do let n ← Rd.bytes; pure (.single n)
  | "a" => do
    -- <hdr> <rfc> <n> <nal>*: with rfc = 1 the Go encoder claims to have followed the RFC's
    -- F/NRI rule; a header different from `Spec.Rfc6184.stapHdr` is then a protocol error (the two
    -- independently written encoders disagree), reported loudly by the driver
    let h ← Rd.u8; let rfc ← Rd.bool; let ns ← Rd.list Rd.bytes
    if rfc && h != stapHdr ns then Rd.fail else pure (.stapA h ns)
  | "f" => do let h ← Rd.u8; let cs ← Rd.list Rd.bytes; pure (.fuA h cs)
  | _ => Rd.fail

def rdDecInput : Rd C10.DecInput := do
  let a ← Rd.bool; let p ← Rd.list rdItem
  pure { avc := a, plan := p }

def rdDecObs : Rd C10.DecObs := do
  let t ← Rd.tok
  match t with
  | "panic" => pure { panicked := true, pkts := [] }
  | "ok" => do let ps ← Rd.list rdPkt; pure { panicked := false, pkts := ps }
  | _ => Rd.fail

def rdC15Input : Rd C15H264.Input := do
  let a ← Rd.bool; let pre ← Rd.list Rd.bytes; let fr ← Rd.list Rd.bytes
  pure { avc := a, pre := pre, frame := fr }

def rdC15Obs : Rd C15H264.Obs := do
  let t ← Rd.tok
  match t with
  | "panic" => pure { panicked := true, after := [], fresh := [] }
  | "ok" => do
    let a ← Rd.list (Rd.resC Rd.bytes); let f ← Rd.list (Rd.resC Rd.bytes)
    pure { panicked := false, after := a, fresh := f }
  | _ => Rd.fail

def rdH264DepObs : Rd (C09.DepObs Bool) := do
  let r ← Rd.resC Rd.bytes
  let md ← Rd.bool; let h ← Rd.bool; let t0 ← Rd.bool; let t1 ← Rd.bool
  let ap ← Rd.bool; let fs ← Rd.bool; let tw ← Rd.bool
  pure { res := r, md := md, head := h, tail0 := t0, tail1 := t1, auxPanic := ap, freshSame := fs, twinSame := tw }

/-! ### what the driver evaluates for C10

  `C10.rtOk` / `C10.decOk` (the predicates the theorems of Props/C10.lean are about) fix more than
  the text of C10 says; the driver evaluates the weaker `rtOkR` / `decOkR` and restricts the
  verdict to the property's quantifier with `rtWF` / `decWF`:
  * "in Annex-B or AVC framing": an Annex-B stream may put 00 00 01 or 00 00 00 01 in front of a
    unit; `Spec.Rfc6184.frameAnnexB` fixes the 4-byte form.  `annexBLoose` accepts either, unit by
    unit (each expected unit is consumed by its length, so the match is deterministic).
  * "Annex-B access units": a buffer without any start code (`bare`) is not an Annex-B stream.
  * "any RFC 6184 single/STAP-A/FU-A stream": RFC 6184 §5.8 forbids fragmenting a NAL unit of type
    0 or 24–31 into FU-As and §5.7.1 aggregates NAL units (a header octet, hence ≥ 1 byte, and here
    of the types 1–23 the property is about); `Item.wf` admits more. -/

/-- `out` is `units` in order, each preceded by a 3- or a 4-byte start code -/
def annexBLoose : List Bytes → Bytes → Bool
  | [], out => out.isEmpty
  | n :: ns, out =>
    match out with
    | 0 :: 0 :: 1 :: r => n.isPrefixOf r && annexBLoose ns (r.drop n.length)
    | 0 :: 0 :: 0 :: 1 :: r => n.isPrefixOf r && annexBLoose ns (r.drop n.length)
    | _ => false

/-- `C10.decodeOk` with either start-code length in Annex-B mode -/
def decodeOkR (avc : Bool) (expected : List Bytes) (pkts : List C10.PktObs) : Bool :=
  pkts.all (·.res.isOk) &&
  (let out := pkts.flatMap (fun p => C10.resBytes p.res)
   out == frame avc expected || (!avc && annexBLoose expected out))

def rtOkR (i : C10.RtInput) (o : C10.RtObs) : Bool :=
  C10.rtOk i o ||
  (!o.panicked && o.calls.length == i.calls.length &&
   C10.shapeOk i.disable i.expectedT o.pkts && decodeOkR i.avc i.expected o.pkts)

def decOkR (i : C10.DecInput) (o : C10.DecObs) : Bool :=
  C10.decOk i o ||
  (!o.panicked && decodeOkR i.avc (i.plan.flatMap Item.nals) o.pkts &&
   (!i.plan.all C10.headsApply || o.pkts.map (·.head) == i.plan.flatMap Item.heads))

/-- the theorems are about `C10.rtOk`, `C10.decOk`, `C15H264.ok`; each implies what the driver
    evaluates (no such lemma ties `rtForkOkR` to `c10_fork_pred`: it is `rtOkR` on each copy's view) -/
theorem rtOkR_of_rtOk (i : C10.RtInput) (o : C10.RtObs) : C10.rtOk i o = true → rtOkR i o = true := by
  intro h; simp [rtOkR, h]

theorem decOkR_of_decOk (i : C10.DecInput) (o : C10.DecObs) : C10.decOk i o = true → decOkR i o = true := by
  intro h; simp [decOkR, h]

/-- C10's quantifier for the round trip: the hypotheses of `RtInput.wf`, every buffer an Annex-B
    stream (no bare unit) -/
def rtWF (i : C10.RtInput) : Bool := i.wf && i.calls.all (fun c => !c.bare)

/-- what RFC 6184 lets an encoder send beyond `Item.wf`: an FU-A carries a unit of type 1–23, a
    STAP-A aggregates units of ≥ 1 byte and type 1–23 -/
def itemRfc : Item → Bool
  | .single _ => true
  | .stapA _ ns => ns.all (fun n => decide (1 ≤ n.length) && decide (1 ≤ typeOf n ∧ typeOf n ≤ 23))
  | .fuA h _ => decide (1 ≤ hType h ∧ hType h ≤ 23)

def decWF (i : C10.DecInput) : Bool := i.wf && i.plan.all itemRfc

def rt : Handler :=
  mkHandler rdRtInput rdRtObs rtModel rtOkR rtWF

def dec : Handler :=
  mkHandler rdDecInput rdDecObs decModel decOkR decWF

/-- C15 speaks of a "completely delivered", "intact" frame: a self-starting packet list on which a
    FRESH receiver reports an error is not one (garbage that merely happens to be self-starting), and
    nothing is claimed about it.  `wf` is the self-starting condition (`Input.wf`); outside it the
    predicate does not count (correspondence only), so the `!o.panicked` of `C15H264.ok` is not
    demanded there either. -/
def c15OkRelaxed (i : C15H264.Input) (o : C15H264.Obs) : Bool :=
  !(o.fresh.all Res.isOk) || C15H264.ok i o

theorem c15Ok_imp_relaxed (i : C15H264.Input) (o : C15H264.Obs) :
    C15H264.ok i o = true → c15OkRelaxed i o = true := by
  intro h; simp [c15OkRelaxed, h]

def c15 : Handler :=
  mkHandler rdC15Input rdC15Obs c15Model c15OkRelaxed (fun i => i.wf)

def c08 : Handler :=
  mkHandler (do let fs ← Rd.list Rd.bool; let cs ← rdCalls; pure (fs, cs)) rdPayObsList
    (fun (fs, cs) => c08Model fs cs)
    (fun (_, cs) os => C08.histOk false cs os)

def c09 : Handler :=
  mkHandler (do let z ← Rd.bool; let a ← Rd.bool; let ps ← Rd.list Rd.obytes; pure (z, a, ps))
    (Rd.list rdH264DepObs)
    (fun (z, a, ps) => c09Calls z a [] ps)
    (fun _ os => C09.histOk false os)

/-! ### forked histories (the payloader struct copied by value mid-stream) -/

def rdRtForkInput : Rd RtForkInput := do
  let d ← Rd.bool; let a ← Rd.bool; let f ← Rd.nat
  let cs ← Rd.list (do let l ← Rd.nat; let c ← rdRtCall; pure (l, c))
  pure { disable := d, avc := a, fork := f, calls := cs }

def rdRtForkObs : Rd RtForkObs := do
  let t ← Rd.tok
  match t with
  | "panic" => pure { lane0 := { panicked := true, calls := [] }, lane1 := { panicked := true, calls := [] } }
  | "ok" => do
    let c0 ← Rd.list (Rd.list rdPkt); let c1 ← Rd.list (Rd.list rdPkt)
    pure { lane0 := { panicked := false, calls := c0 }, lane1 := { panicked := false, calls := c1 } }
  | _ => Rd.fail

/-- each copy, looked at on its own, is an ordinary payloader: the predicate of `c10.rt` on the calls
    it received over its life and the payloads it returned -/
def rtForkOkR (i : RtForkInput) (o : RtForkObs) : Bool :=
  rtOkR (i.view 0) o.lane0 && rtOkR (i.view 1) o.lane1

def rtForkWF (i : RtForkInput) : Bool := rtWF (i.view 0) && rtWF (i.view 1)

def rtFork : Handler :=
  mkHandler rdRtForkInput rdRtForkObs rtForkModel rtForkOkR rtForkWF

def c08Fork : Handler :=
  mkHandler (do let f ← Rd.nat; let ls ← Rd.list Rd.nat; let fs ← Rd.list Rd.bool; let cs ← rdCalls
                pure (f, ls, fs, cs)) rdPayObsList
    (fun (f, ls, fs, cs) => c08ForkModel f ls fs cs)
    (fun (_, _, _, cs) os => C08.histOk false cs os)

def handlers : List (String × Handler) :=
  [("c10.rt", rt), ("c10.dec", dec), ("c15.h264", c15), ("c08.h264", c08), ("c09.h264", c09),
   ("c10.rtfork", rtFork), ("c08.h264fork", c08Fork)]
end Rtp.Kinds.H264
