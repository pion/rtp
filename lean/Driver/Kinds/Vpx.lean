/-
  Driver/Kinds/Vpx.lean — the case kinds for VP8 and VP9 (C11, C12, and the VP8/VP9 parts of C08/C09).
  Where a handler evaluates a relaxation of the predicate that the Props theorems prove of the model's
  observation, a theorem `…_of_…` next to it shows that the proved predicate implies the relaxation
  (this file does not import the Props theorems, so the two are not composed here).

  Token layouts (mirrored by harness/kinds_vpx.go):
    vp8md      X N S PID I L T K PictureID TL0PICIDX TID Y KEYIDX          (13 nats)
    vp8desc    n s pid x  opt(M id)  opt(tl0)  opt(tid y)  opt(keyidx)  ign0 ignX ignTK
    depobs M   res(bytes) M head tail0 tail1 auxPanic freshSame twinSame
    c11.dec    vp8desc payload k wire          => res(bytes) vp8md head resZ(bytes)
    c11.rt     enable warm flipAt calls              => <n> (<m> (bytes res(bytes) vp8md head resZ(bytes))*)*
               (resZ: what a second receiver with SetZeroAllocation(true), fed the same packets, returned)
    c08.vp8    enable calls                    => <n> PayObs*
    c09.vp8    <n> obytes*                     => <n> (depobs vp8md)*
    vp9md      I P L F B E V Z PictureID TID U SID D list(PDiff) TL0PICIDX NS Y G NG list(Width) list(Height)
               list(PGTID) list(PGU) list(list(PGPDiff))
    vp9desc    p f b e z  opt(M id)  opt(tid u sid d tl0)  list(pdiff)
               opt(ns opt(list(w h)) opt(list(tid u list(pdiff) ign)) ign)
    hdrdesc    se <profile> <idx> | nk <profile> sf er | key <profile> sf er bit12 space range subX subY w h
    hdrfields  Profile ShowExisting Idx NonKey ShowFrame ErrRes opt(T BitDepth CS CR SX SY) opt(w-1 h-1) Width() Height()
    c12.hdr    opt(hdrdesc) wire               => res(hdrfields)
    c12.dec    vp9desc payload k wire          => res(bytes) vp9md head resZ(bytes)
    c12.rt     init <n> (flex mtu obytes opt(hdrdesc))*  => <n> (<m> (bytes res(bytes) vp9md head resZ(bytes))*)*
    c08.vp9    flex init calls                 => <n> PayObs*
    c09.vp9    <n> obytes*                     => <n> (depobs vp9md)*
-/
import Driver.Common
import Rtp.Pred.C11
import Rtp.Pred.C12
namespace Rtp.Kinds.Vpx
open Rtp Rtp.Proto Rtp.Pred Rtp.Model

def rdDepObs {M} (rdM : Rd M) : Rd (C09.DepObs M) := do
  let r ← Rd.resC Rd.bytes
  let m ← rdM
  let h ← Rd.bool; let t0 ← Rd.bool; let t1 ← Rd.bool; let ap ← Rd.bool
  let fs ← Rd.bool; let ts ← Rd.bool
  pure { res := r, md := m, head := h, tail0 := t0, tail1 := t1, auxPanic := ap, freshSame := fs, twinSame := ts }

def rdVP8Md : Rd VP8Packet := do
  let x ← Rd.u8; let n ← Rd.u8; let s ← Rd.u8; let pid ← Rd.u8
  let i ← Rd.u8; let l ← Rd.u8; let t ← Rd.u8; let k ← Rd.u8
  let pic ← Rd.u16; let tl0 ← Rd.u8; let tid ← Rd.u8; let y ← Rd.u8; let kx ← Rd.u8
  pure { X := x, N := n, S := s, PID := pid, I := i, L := l, T := t, K := k,
         PictureID := pic, TL0PICIDX := tl0, TID := tid, Y := y, KEYIDX := kx }

def rdVP8Desc : Rd Spec.Rfc7741.Descriptor := do
  let n ← Rd.bool; let s ← Rd.bool; let pid ← Rd.u8; let x ← Rd.bool
  let pic ← Rd.opt (do let m ← Rd.bool; let v ← Rd.u16; pure (m, v))
  let tl0 ← Rd.opt Rd.u8
  let tid ← Rd.opt (do let t ← Rd.u8; let y ← Rd.bool; pure (t, y))
  let kx ← Rd.opt Rd.u8
  let i0 ← Rd.u8; let ix ← Rd.u8; let itk ← Rd.u8
  pure { n := n, s := s, pid := pid, x := x, picId := pic, tl0 := tl0, tid := tid, keyidx := kx,
         ign0 := i0, ignX := ix, ignTK := itk }

/-- C11 ties IsPartitionHead to "the S bit … set on the first packet only, partition index 0": for
    a descriptor with partition index ≠ 0 the text does not say what IsPartitionHead reports, so
    `head` is not evaluated there (`C11.dec` demands head = S for every descriptor). -/
def c11DecR (d : Spec.Rfc7741.Descriptor) (p : Bytes) (k : Nat) (w : Bytes) (o : C11.DecObs) : Bool :=
  C11.dec d p k w o || (d.pid != 0 && C11.dec d p k w { o with head := d.s })

theorem c11DecR_of_dec (d : Spec.Rfc7741.Descriptor) (p : Bytes) (k : Nat) (w : Bytes) (o : C11.DecObs) :
    C11.dec d p k w o = true → c11DecR d p k w o = true := by
  intro h; simp [c11DecR, h]

/-! #### receivers with `SetZeroAllocation(true)`

  VP8Packet and VP9Packet inherit the switch from `videoDepacketizer` ("… allocations are needed for
  Metadata and other optional values. If you don't need this information enabling SetZeroAllocation
  gives you higher performance at a reduced feature set").  C11/C12 do not exclude such a receiver,
  and what they say about the RETURNED BYTES ("returns the bytes that follow the descriptor",
  "concatenating the … payloads … reproduces the frame", rejecting a cut descriptor) does not depend
  on metadata.  Every packet is therefore also given to a second receiver with the switch on; its
  result `resZ` is one more observation token.  The unchanged predicate is evaluated once more on
  the observation in which `res` is replaced by `resZ` (metadata and `head` stay those of the
  ordinary receiver, so nothing is demanded of the zero-allocation receiver's metadata).  The model
  ignores the switch, as the code does: `resZ` of the model is its `res`. -/

def c11DecZ (d : Spec.Rfc7741.Descriptor) (p : Bytes) (k : Nat) (w : Bytes) (o : C11.DecObs × Res Bytes) : Bool :=
  c11DecR d p k w o.1 && c11DecR d p k w { o.1 with res := o.2 }

theorem c11DecZ_of_decR (d : Spec.Rfc7741.Descriptor) (p : Bytes) (k : Nat) (w : Bytes) (o : C11.DecObs) :
    c11DecR d p k w o = true → c11DecZ d p k w (o, o.res) = true := by
  intro h; simp [c11DecZ, h]

def c11Dec : Handler :=
  mkHandler
    (do let d ← rdVP8Desc; let p ← Rd.bytes; let k ← Rd.nat; let w ← Rd.bytes; pure (d, p, k, w))
    (do let r ← Rd.resC Rd.bytes; let m ← rdVP8Md; let h ← Rd.bool; let rz ← Rd.resC Rd.bytes
        pure (({ res := r, md := m, head := h } : C11.DecObs), rz))
    (fun (_, _, k, w) => let o := C11.obsDec w k; (o, o.res))
    (fun (d, p, k, w) o => c11DecZ d p k w o)
    (fun (d, _, _, _) => d.WF)

def rdVP8Frag : Rd C11.FragObs := do
  let b ← Rd.bytes; let r ← Rd.resC Rd.bytes; let m ← rdVP8Md; let h ← Rd.bool
  pure { bytes := b, res := r, md := m, head := h }

/-- C11's quantifier for a history: EVERY call is a frame the property is about (non-empty, MTU
    larger than the descriptor of the frame's running picture id `k`).  "increases by one per
    frame" says nothing about what a call outside the domain does to the running id (`C11.rt` fixes
    that it does not advance it), so a history with such a call is outside the quantifier. -/
def c11RtWF (enable : Bool) : Nat → List (UInt16 × Option Bytes) → Bool
  | _, [] => true
  | k, (m, i) :: cs =>
    decide (C11.hdrLen enable k < m.toNat) && !(i.getD []).isEmpty && c11RtWF enable (k + 1) cs

/-- the ordinary receiver's observation / the same with every `res` replaced by the zero-allocation
    receiver's result -/
def c11Plain (o : List (List (C11.FragObs × Res Bytes))) : List (List C11.FragObs) := o.map (·.map (·.1))
def c11Zero (o : List (List (C11.FragObs × Res Bytes))) : List (List C11.FragObs) :=
  o.map (·.map (fun fz => { fz.1 with res := fz.2 }))
def c11Pair (o : List (List C11.FragObs)) : List (List (C11.FragObs × Res Bytes)) :=
  o.map (·.map (fun fr => (fr, fr.res)))

def c11RtZ (e : Bool) (w : Nat) (cs : List (UInt16 × Option Bytes)) (o : List (List (C11.FragObs × Res Bytes))) : Bool :=
  C11.rt e w cs (c11Plain o) && C11.rt e w cs (c11Zero o)

theorem c11RtZ_of_rt (e : Bool) (w : Nat) (cs : List (UInt16 × Option Bytes)) (o : List (List C11.FragObs)) :
    C11.rt e w cs o = true → c11RtZ e w cs (c11Pair o) = true := by
  intro h
  have h1 : c11Plain (c11Pair o) = o := by simp [c11Plain, c11Pair, Function.comp_def]
  have h2 : c11Zero (c11Pair o) = o := by simp [c11Zero, c11Pair, Function.comp_def]
  simp [c11RtZ, h1, h2, h]

/-- `enable warm flipAt calls`: the first `flipAt ≤ warm` of the earlier frames were sent with the
    public field `EnablePictureID` at the other value, which the caller then set by hand; the
    property's demand is unchanged (the running id counts frames). -/
def c11Rt : Handler :=
  mkHandler
    (do let e ← Rd.bool; let w ← Rd.nat; let fl ← Rd.nat; let cs ← rdCalls; pure (e, w, fl, cs))
    (Rd.list (Rd.list (do let fr ← rdVP8Frag; let rz ← Rd.resC Rd.bytes; pure (fr, rz))))
    (fun (e, w, fl, cs) => c11Pair (C11.obsRtFlip e w fl cs))
    (fun (e, w, _, cs) o => c11RtZ e w cs o)
    (fun (e, w, fl, cs) => decide (fl ≤ w) && c11RtWF e w cs)

def c08Vp8 : Handler :=
  mkHandler (do let e ← Rd.bool; let cs ← rdCalls; pure (e, cs)) rdPayObsList
    (fun (e, cs) => C11.obsPay e cs)
    (fun (_, cs) o => C08.histOk false cs o)

def c09Vp8 : Handler :=
  mkHandler (Rd.list Rd.obytes) (Rd.list (rdDepObs rdVP8Md))
    (fun is => C11.obsDep {} is)
    (fun _ o => C09.histOk true o)

def rdVP9Md : Rd VP9Packet := do
  let i ← Rd.bool; let p ← Rd.bool; let l ← Rd.bool; let f ← Rd.bool
  let b ← Rd.bool; let e ← Rd.bool; let v ← Rd.bool; let z ← Rd.bool
  let pic ← Rd.u16; let tid ← Rd.u8; let u ← Rd.bool; let sid ← Rd.u8; let d ← Rd.bool
  let pd ← Rd.list Rd.u8; let tl0 ← Rd.u8
  let ns ← Rd.u8; let y ← Rd.bool; let g ← Rd.bool; let ng ← Rd.u8
  let w ← Rd.list Rd.u16; let h ← Rd.list Rd.u16
  let pgt ← Rd.list Rd.u8; let pgu ← Rd.list Rd.bool; let pgp ← Rd.list (Rd.list Rd.u8)
  pure { I := i, P := p, L := l, F := f, B := b, E := e, V := v, Z := z, PictureID := pic,
         TID := tid, U := u, SID := sid, D := d, PDiff := pd, TL0PICIDX := tl0,
         NS := ns, Y := y, G := g, NG := ng, Width := w, Height := h,
         PGTID := pgt, PGU := pgu, PGPDiff := pgp }

def rdVP9Desc : Rd Spec.Vp9Rtp.Descriptor := do
  let p ← Rd.bool; let f ← Rd.bool; let b ← Rd.bool; let e ← Rd.bool; let z ← Rd.bool
  let pic ← Rd.opt (do let m ← Rd.bool; let v ← Rd.u16; pure (m, v))
  let layer ← Rd.opt (do
    let tid ← Rd.u8; let u ← Rd.bool; let sid ← Rd.u8; let d ← Rd.bool; let tl0 ← Rd.u8
    pure ({ tid := tid, u := u, sid := sid, d := d, tl0 := tl0 } : Spec.Vp9Rtp.Layer))
  let pd ← Rd.list Rd.u8
  let ss ← Rd.opt (do
    let ns ← Rd.u8
    let res ← Rd.opt (Rd.list (do let w ← Rd.u16; let h ← Rd.u16; pure (w, h)))
    let pg ← Rd.opt (Rd.list (do
      let tid ← Rd.u8; let u ← Rd.bool; let pds ← Rd.list Rd.u8; let ign ← Rd.u8
      pure ({ tid := tid, u := u, pdiffs := pds, ign := ign } : Spec.Vp9Rtp.PG)))
    let ign ← Rd.u8
    pure ({ ns := ns, res := res, pg := pg, ign := ign } : Spec.Vp9Rtp.SS))
  pure { p := p, f := f, b := b, e := e, z := z, picId := pic, layer := layer, pdiffs := pd, ss := ss }

def rdHdrDesc : Rd Spec.Vp9Bits.Hdr := do
  let t ← Rd.tok
  match t with
  | "se" => do let p ← Rd.u8; let i ← Rd.u8; pure (.showExisting p i)
  | "nk" => do let p ← Rd.u8; let sf ← Rd.bool; let er ← Rd.bool; pure (.nonKey p sf er)
  | "key" => do
    let p ← Rd.u8; let sf ← Rd.bool; let er ← Rd.bool
    let b12 ← Rd.bool; let sp ← Rd.u8; let rg ← Rd.bool; let sx ← Rd.bool; let sy ← Rd.bool
    let w ← Rd.nat; let h ← Rd.nat
    pure (.key p sf er { bit12 := b12, space := sp, range := rg, subX := sx, subY := sy } w h)
  | _ => Rd.fail

def rdHdrFields : Rd C12.HdrFields := do
  let pr ← Rd.u8; let se ← Rd.bool; let idx ← Rd.u8; let nk ← Rd.bool; let sf ← Rd.bool; let er ← Rd.bool
  let cc ← Rd.opt (do
    let t ← Rd.bool; let bd ← Rd.u8; let cs ← Rd.u8; let cr ← Rd.bool; let sx ← Rd.bool; let sy ← Rd.bool
    pure ({ TenOrTwelveBit := t, BitDepth := bd, ColorSpace := cs, ColorRange := cr,
            SubsamplingX := sx, SubsamplingY := sy } : Vp9ColorConfig))
  let fs ← Rd.opt (do
    let w ← Rd.u16; let h ← Rd.u16
    pure ({ FrameWidthMinus1 := w, FrameHeightMinus1 := h } : Vp9FrameSize))
  let w ← Rd.u16; let h ← Rd.u16
  pure { hd := { Profile := pr, ShowExistingFrame := se, FrameToShowMapIdx := idx, NonKeyFrame := nk,
                 ShowFrame := sf, ErrorResilientMode := er, ColorConfig := cc, FrameSize := fs },
         width := w, height := h }

/-- What C12 needs from `vp9.Header`: the frame type ("P reflecting the frame type") and, for a key
    frame, the coded width and height ("width and height equal those coded in the frame's
    uncompressed header").  `C12.hdr` demands the whole struct field by field (derived defaults,
    absent ColorConfig / FrameSize on non-key frames, Width() = 0 there …); the driver accepts a
    parse that gets these two things right. -/
def c12HdrLoose (desc : Option Spec.Vp9Bits.Hdr) (wire : Bytes) (o : C12.HdrObs) : Bool :=
  !o.isPanic &&
  (match desc with
   | none => true
   | some h =>
     !h.WF || (C12.startsWith h wire &&
       (match o with
        | .ok fl =>
          (match h with
           | .showExisting _ _ => true
           | .nonKey _ _ _ => fl.hd.NonKeyFrame
           | .key _ _ _ _ w ht =>
             !fl.hd.NonKeyFrame &&
             (!(decide (w ≤ 65535) && decide (ht ≤ 65535)) || (fl.width == w.toUInt16 && fl.height == ht.toUInt16)))
        | _ => false)))

def c12HdrR (desc : Option Spec.Vp9Bits.Hdr) (wire : Bytes) (o : C12.HdrObs) : Bool :=
  C12.hdr desc wire o || c12HdrLoose desc wire o

theorem c12HdrR_of_hdr (desc : Option Spec.Vp9Bits.Hdr) (wire : Bytes) (o : C12.HdrObs) :
    C12.hdr desc wire o = true → c12HdrR desc wire o = true := by
  intro h; simp [c12HdrR, h]

def c12Hdr : Handler :=
  mkHandler (do let d ← Rd.opt rdHdrDesc; let w ← Rd.bytes; pure (d, w)) (Rd.resC rdHdrFields)
    (fun (_, w) => C12.obsHdr w)
    (fun (d, w) o => c12HdrR d w o)
    (fun (d, _) => match d with | some h => h.WF | none => false)

/-- The text of C12 never mentions IsPartitionHead: `head` is not evaluated (it stays in the
    observation, i.e. correspondence only), neither for the decoder nor for the round trip. -/
def c12DecR (d : Spec.Vp9Rtp.Descriptor) (p : Bytes) (k : Nat) (w : Bytes) (o : C12.DecObs) : Bool :=
  C12.dec d p k w o || C12.dec d p k w { o with head := d.b }

theorem c12DecR_of_dec (d : Spec.Vp9Rtp.Descriptor) (p : Bytes) (k : Nat) (w : Bytes) (o : C12.DecObs) :
    C12.dec d p k w o = true → c12DecR d p k w o = true := by
  intro h; simp [c12DecR, h]

/-- `C12.rtFlip` (the round-trip predicate with `FlexibleMode` per call) on the observation with
    every `head` replaced by the packet's B bit (what `C12.marks` compares it with) -/
def c12RtR (i : UInt16) (cs : List (Bool × C12.Call)) (o : List (List C12.FragObs)) : Bool :=
  C12.rtFlip i cs o || C12.rtFlip i cs (o.map (·.map (fun fr => { fr with head := fr.md.B })))

theorem c12RtR_of_rt (i : UInt16) (cs : List (Bool × C12.Call)) (o : List (List C12.FragObs)) :
    C12.rtFlip i cs o = true → c12RtR i cs o = true := by
  intro h; simp [c12RtR, h]

/-- with the result of the `SetZeroAllocation(true)` receiver (see `c11DecZ`) -/
def c12DecZ (d : Spec.Vp9Rtp.Descriptor) (p : Bytes) (k : Nat) (w : Bytes) (o : C12.DecObs × Res Bytes) : Bool :=
  c12DecR d p k w o.1 && c12DecR d p k w { o.1 with res := o.2 }

theorem c12DecZ_of_decR (d : Spec.Vp9Rtp.Descriptor) (p : Bytes) (k : Nat) (w : Bytes) (o : C12.DecObs) :
    c12DecR d p k w o = true → c12DecZ d p k w (o, o.res) = true := by
  intro h; simp [c12DecZ, h]

def c12Dec : Handler :=
  mkHandler
    (do let d ← rdVP9Desc; let p ← Rd.bytes; let k ← Rd.nat; let w ← Rd.bytes; pure (d, p, k, w))
    (do let r ← Rd.resC Rd.bytes; let m ← rdVP9Md; let h ← Rd.bool; let rz ← Rd.resC Rd.bytes
        pure (({ res := r, md := m, head := h } : C12.DecObs), rz))
    (fun (_, _, k, w) => let o := C12.obsDec w k; (o, o.res))
    (fun (d, p, k, w) o => c12DecZ d p k w o)
    (fun (d, _, _, _) => d.WF 5)

def rdVP9Frag : Rd C12.FragObs := do
  let b ← Rd.bytes; let r ← Rd.resC Rd.bytes; let m ← rdVP9Md; let h ← Rd.bool
  pure { bytes := b, res := r, md := m, head := h }

def rdVP9Call : Rd C12.Call := do
  let m ← Rd.u16; let b ← Rd.obytes; let d ← Rd.opt rdHdrDesc
  pure { mtu := m, frame := b, desc := d }

/-- a call with the value `FlexibleMode` has when it is made -/
def rdVP9FCall : Rd (Bool × C12.Call) := do
  let f ← Rd.bool; let c ← rdVP9Call
  pure (f, c)

def c12Plain (o : List (List (C12.FragObs × Res Bytes))) : List (List C12.FragObs) := o.map (·.map (·.1))
def c12Zero (o : List (List (C12.FragObs × Res Bytes))) : List (List C12.FragObs) :=
  o.map (·.map (fun fz => { fz.1 with res := fz.2 }))
def c12Pair (o : List (List C12.FragObs)) : List (List (C12.FragObs × Res Bytes)) :=
  o.map (·.map (fun fr => (fr, fr.res)))

/-- `c12RtR` on the ordinary receiver's observation and on the one whose results are those of the
    `SetZeroAllocation(true)` receiver (see `c11DecZ`) -/
def c12RtZ (i : UInt16) (cs : List (Bool × C12.Call)) (o : List (List (C12.FragObs × Res Bytes))) : Bool :=
  c12RtR i cs (c12Plain o) && c12RtR i cs (c12Zero o)

theorem c12RtZ_of_rtR (i : UInt16) (cs : List (Bool × C12.Call)) (o : List (List C12.FragObs)) :
    c12RtR i cs o = true → c12RtZ i cs (c12Pair o) = true := by
  intro h
  have h1 : c12Plain (c12Pair o) = o := by simp [c12Plain, c12Pair, Function.comp_def]
  have h2 : c12Zero (c12Pair o) = o := by simp [c12Zero, c12Pair, Function.comp_def]
  simp [c12RtZ, h1, h2, h]

/-- the per-frame predicate `C12.rtLocal` with the same reading of `head` as `c12RtR` -/
def c12LocalR (cs : List (Bool × C12.Call)) (o : List (List C12.FragObs)) : Bool :=
  C12.rtLocal cs o || C12.rtLocal cs (o.map (·.map (fun fr => { fr with head := fr.md.B })))

/-- what `c12.rt` evaluates: the whole-history predicate when every call is proper, and the per-frame
    predicate on both receivers' observations in every history -/
def c12RtL (i : UInt16) (cs : List (Bool × C12.Call)) (o : List (List (C12.FragObs × Res Bytes))) : Bool :=
  (!cs.all (fun fc => C12.proper fc.1 fc.2) || c12RtZ i cs o) &&
  c12LocalR cs (c12Plain o) && c12LocalR cs (c12Zero o)

theorem c12RtL_of (i : UInt16) (cs : List (Bool × C12.Call)) (o : List (List C12.FragObs)) :
    C12.rtFlip i cs o = true → C12.rtLocal cs o = true → c12RtL i cs (c12Pair o) = true := by
  intro h hl
  have h1 : c12Plain (c12Pair o) = o := by simp [c12Plain, c12Pair, Function.comp_def]
  have h2 : c12Zero (c12Pair o) = o := by simp [c12Zero, c12Pair, Function.comp_def]
  simp [c12RtL, h1, h2, c12LocalR, hl, c12RtZ_of_rtR i cs o (c12RtR_of_rt i cs o h)]

/-- `init <n> (flex mtu frame opt(hdrdesc))*`: `FlexibleMode` is an exported field, the harness sets
    it before every call (in most histories to one value throughout, in a share of them to a value
    that changes between frames); model and predicate take it per call (`c12_rt_flip`). -/
def c12Rt : Handler :=
  mkHandler
    (do let i ← Rd.u16; let cs ← Rd.list rdVP9FCall; pure (i, cs))
    (Rd.list (Rd.list (do let fr ← rdVP9Frag; let rz ← Rd.resC Rd.bytes; pure (fr, rz))))
    (fun (i, cs) => c12Pair (C12.obsRtFlip i cs))
    (fun (i, cs) o => c12RtL i cs o)
    -- the whole-history predicate (with the running picture id) binds when every call of the history
    -- is inside the property's domain ("sufficient MTU", a frame with a well-formed header): what a
    -- call outside it does to the running picture id is not claimed.  The per-frame clauses
    -- (`C12.rtLocal`, theorem `c12_rt_local`) bind for every proper call of every history.
    (fun (_, cs) => cs.any (fun fc => C12.proper fc.1 fc.2))

def c08Vp9 : Handler :=
  mkHandler (do let f ← Rd.bool; let i ← Rd.u16; let cs ← rdCalls; pure (f, i, cs)) rdPayObsList
    (fun (f, i, cs) => C12.obsPay f i cs)
    (fun (_, _, cs) o => C08.histOk false cs o)

def c09Vp9 : Handler :=
  mkHandler (Rd.list Rd.obytes) (Rd.list (rdDepObs rdVP9Md))
    (fun is => C12.obsDep {} is)
    (fun _ o => C09.histOk true o)

def handlers : List (String × Handler) :=
  [("c11.dec", c11Dec), ("c11.rt", c11Rt), ("c08.vp8", c08Vp8), ("c09.vp8", c09Vp8),
   ("c12.hdr", c12Hdr), ("c12.dec", c12Dec), ("c12.rt", c12Rt), ("c08.vp9", c08Vp9), ("c09.vp9", c09Vp9)]
end Rtp.Kinds.Vpx
