/-
  Driver/Kinds/Vla.lean — case kinds of C19 (token formats at the readers and handlers below).
  `c19.rt` and `c19.rej` run Marshal and, on success, Unmarshal into the given receiver, and are judged by the
  same predicate (valid allocations and those Marshal must refuse are two branches of it); `c19.dec` and
  `c19.dec2` run Unmarshal alone and share one handler as well.
-/
import Driver.Common
import Rtp.Model.VLA
import Rtp.Pred.C19
namespace Rtp.Kinds.Vla
open Rtp Rtp.Proto Rtp.Spec.VlaSpec Rtp.Model.Vla Rtp.Pred.C19

/-- `<stream> <spatial> <k> rate* <width> <height> <fps>` -/
def rdLayer : Rd Layer := do
  let s ← Rd.int; let k ← Rd.int
  let rates ← Rd.list Rd.int
  let w ← Rd.int; let h ← Rd.int; let f ← Rd.int
  pure { stream := s, spatial := k, rates := rates, width := w, height := h, fps := f }

/-- `<rid> <count> <hasRes> <n> layer*` -/
def rdVLA : Rd VLA := do
  let rid ← Rd.int; let count ← Rd.int; let hr ← Rd.bool
  let ls ← Rd.list rdLayer
  pure { rid := rid, count := count, layers := ls, hasRes := hr }

/-- `ok <bytes>` | `err <kind>` | `panic` -/
def rdMRes : Rd MRes := do
  let t ← Rd.tok
  match t with
  | "ok" => do let b ← Rd.bytes; pure (.ok b)
  | "err" => do let k ← Rd.tok; pure (.err (VErr.ofName k))
  | "panic" => pure .panic
  | _ => Rd.fail

/-- `ok <n> <vla>` | `fail <n> <kind>` | `panic` -/
def rdDRes : Rd DRes := do
  let t ← Rd.tok
  match t with
  | "ok" => do let n ← Rd.nat; let v ← rdVLA; pure (.ok n v)
  | "fail" => do let n ← Rd.nat; let k ← Rd.tok; pure (.fail n (VErr.ofName k))
  | "panic" => pure .panic
  | _ => Rd.fail

def rdRtObs : Rd RtObs := do
  let e ← rdMRes
  let d ← Rd.opt rdDRes
  pure { enc := e, dec := d }

/-- the decoded value with the resolution fields cleared when the resolution flag is clear -/
def normD : DRes → DRes
  | .ok n w => .ok n w.norm
  | d => d

/-- "yields an equal VLA … optional resolution and frame rate": where the flag says that no
    resolution is carried, the width / height / frame-rate fields of a layer carry no information on
    EITHER side, so both sides are compared after `VLA.norm` (`Pred.C19.rt` normalises the input
    side only, i.e. demands that the decoder leaves zeros there). -/
def normObs (o : RtObs) : RtObs := { o with dec := o.dec.map normD }

/-- The observation is normalised only when the INPUT carries junk in those fields (a value that cannot
    round-trip in the first place).  For an input in normal form — zeros where no resolution is carried,
    which is what a fresh decode produces — "yields an equal VLA, also when the receiving value was used
    for an earlier decode" is taken literally: width / height / frame rate left over from an earlier
    decode are a difference (the seeded changes C19-r7-1, C19-r8-1 are caught by this). -/
def rtPredR (v r : VLA) (o : RtObs) : Bool :=
  if v = v.norm then Rtp.Pred.C19.rt v r o else Rtp.Pred.C19.rt v r (normObs o)

theorem clearRes_idem (l : Layer) : l.clearRes.clearRes = l.clearRes := rfl

theorem norm_idem (v : VLA) : v.norm.norm = v.norm := by
  unfold VLA.norm
  by_cases h : v.hasRes = true
  · simp [h]
  · simp [h, List.map_map, Function.comp_def, clearRes_idem]

theorem rtPredR_of_rt (v r : VLA) (o : RtObs) :
    Rtp.Pred.C19.rt v r o = true → rtPredR v r o = true := by
  intro h
  unfold rtPredR
  split
  · exact h
  unfold normObs
  unfold Rtp.Pred.C19.rt at h ⊢
  split
  · rename_i hw
    simp only [hw, if_true, Bool.and_eq_true, beq_iff_eq] at h
    simp only [Bool.and_eq_true, beq_iff_eq]
    refine ⟨h.1, ?_⟩
    rw [h.2]; simp [normD, norm_idem]
  · rename_i hw
    simp only [hw, if_false] at h
    split
    · rename_i hr
      simp only [hr, if_true, Bool.and_eq_true] at h
      simp only [Bool.and_eq_true]
      refine ⟨h.1, ?_⟩
      cases hd : o.dec <;> simp_all
    · rename_i hr
      simp only [hr, Bool.false_eq_true, if_false] at h
      simp only [Bool.and_eq_true, bne_iff_ne, ne_eq] at h ⊢
      refine ⟨h.1, ?_⟩
      cases hd : o.dec with
      | none => simp
      | some d => cases d <;> simp_all [normD]

/-- the recorded defect `c19_bitrate_2p56` masked on both sides: bitrates of 2^56 kbps or more (which
    `ReadLeb128` decodes wrongly) are replaced by 0 -/
def maskBig (v : VLA) : VLA :=
  { v with layers := v.layers.map fun l =>
      { l with rates := l.rates.map fun k => if k ≥ 72057594037927936 then 0 else k } }

/-- inside the region the predicate fails for the RECORDED reason: the encoding is the specified one,
    all of it is consumed, and the decoded allocation differs from the original only in the bitrates of
    2^56 kbps or more -/
def rtExplained (v : VLA) (o : RtObs) : Bool :=
  o.enc == .ok (encode v) &&
  match o.dec with
  | some (.ok n w) =>
    n == (encode v).length &&
    (maskBig w.norm).layers.map (fun l => (l.stream, l.spatial, l.rates.length, l.width, l.height, l.fps)) ==
      (maskBig v.norm).layers.map (fun l => (l.stream, l.spatial, l.rates.length, l.width, l.height, l.fps)) &&
    w.rid == v.rid && w.count == v.count && w.hasRes == v.hasRes &&
    (w.norm.layers.zip v.norm.layers).all (fun (a, b) =>
      (a.rates.zip b.rates).all (fun (x, y) => x == y || y ≥ 72057594037927936))
  | _ => false

/-- `c19.rt <vla> <receiver> => <MRes> <opt DRes>` -/
def rt : Handler :=
  mkHandler (do let v ← rdVLA; let r ← rdVLA; pure (v, r)) rdRtObs
    (fun (v, r) => rtModel v r)
    (fun (v, r) o => rtPredR v r o)
    -- C19 quantifies over the valid allocations AND over the invalid ones Marshal must refuse
    (fun (v, _) => decide v.WF || Rtp.Pred.C19.mustReject v)
    (fun (v, _) _ => if bigRate v then some "c19_bitrate_2p56" else none)
    (fun (v, _) o => rtExplained v (normObs o))

/-- `c19.dec <receiver> <bytes> => <DRes>` -/
def dec : Handler :=
  mkHandler (do let r ← rdVLA; let b ← Rd.bytes; pure (r, b)) rdDRes
    (fun (r, b) => unmarshal r b)
    (fun (_, b) o => Rtp.Pred.C19.dec b o)

def handlers : List (String × Handler) :=
  [("c19.rt", rt), ("c19.rej", rt), ("c19.dec", dec), ("c19.dec2", dec)]
end Rtp.Kinds.Vla
