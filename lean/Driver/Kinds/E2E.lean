/-
  Driver/Kinds/E2E.lean — the case kinds `e2e.*` (registered under C06): the end-to-end pipeline
  Packetize → Marshal → Unmarshal → depacketizer on the real code, recomputed with
  Rtp/Model/Pipeline.lean and judged by Rtp/Pred/Pipeline.lean.  `wf` = the hypotheses of the
  theorems `Rtp.Props.Pipeline.pipeline_*_pred` (which say: wf → the predicate holds of the model); for
  h264, av1, h265 also that the frame bytes handed over are those of the units described.

  cfg     = <mtu> <pt> <ssrc> <ts0> <seqStart> <absSendTimeId (0 = off)>
  frame   = <payload> <samples> <now:int64 unix ns>
  obs     = <n> fobs*          one per frame
  fobs    = <k> (res <bytes>)*                     Marshal() of every packet Packetize returned
            <k> (res <seq> <M> <ts> <pt> <ssrc>)*  Unmarshal of every datagram into a fresh rtp.Packet
            <k> (res <bytes>)*                     depacketizer.Unmarshal(Payload) of every parsed datagram

  e2e.g711  cfg <g711|g722> <n> frame*                            => obs
  e2e.opus  cfg <n> frame*                                        => obs
  e2e.vp8   cfg <EnablePictureID> <frames packetized before> <n> frame*   => obs
  e2e.vp9   cfg <FlexibleMode> <InitialPictureIDFn()> <n> (opt(hdrdesc) frame)*  => obs
            (hdrdesc as in Driver/Kinds/Vpx.lean: the uncompressed header the frame starts with)
  e2e.h264  cfg <DisableStapA> <IsAVC> <npre> <payload>* <n> (<bare> <nunits> (<four> <nal>)* frame)*  => obs
            (`pre` = payloads the receiver was fed before the history; the frame's payload must be
             the Annex-B rendering of its units, else the case is outside the hypotheses)
  e2e.h265  cfg <AddDONL> <SkipAggregation> <n> (<nunits> (<startcode 0|3|4> <nal>)* frame)*  => obs
            (the third list of an fobs holds the payload of every datagram H265Packet accepted — the
             real Unmarshal returns nil — or the error)
  e2e.av1   cfg <npre> <payload>* <n> (<nobus> obu* frame)*   => obs
            (obu as in Driver/Kinds/Av1.lean; the frame's payload must be the serialisation of its OBUs)
-/
import Driver.Common
import Rtp.Pred.Pipeline
import Driver.Kinds.Vpx
import Driver.Kinds.Av1
namespace Rtp.Kinds.E2E
open Rtp Rtp.Proto Rtp.Model Rtp.Model.Pipeline Rtp.Pred.Pipeline

def rdCfg : Rd Packetizer := do
  let mtu ← Rd.u16; let pt ← Rd.u8; let ssrc ← Rd.u32; let ts ← Rd.u32; let s ← Rd.u16; let a ← Rd.int
  pure { mtu := mtu, pt := pt, ssrc := ssrc, ts := ts, seq := SeqState.newFixed s, absId := a }

def rdFrame : Rd FrameIn := do
  let p ← Rd.bytes; let s ← Rd.u32; let n ← Rd.i64
  pure { frame := p, samples := s, now := n }

def rdHdr : Rd Hdr := do
  let s ← Rd.u16; let m ← Rd.bool; let ts ← Rd.u32; let pt ← Rd.u8; let ssrc ← Rd.u32
  pure { seq := s, marker := m, ts := ts, pt := pt, ssrc := ssrc }

def rdFrameObs : Rd FrameObs := do
  let d ← Rd.list (Rd.resC Rd.bytes)
  let h ← Rd.list (Rd.resC rdHdr)
  let o ← Rd.list (Rd.resC Rd.bytes)
  pure { dgs := d, hdrs := h, outs := o }

/-- error kinds are not compared -/
def coarse (o : FrameObs) : FrameObs :=
  { dgs := o.dgs.map Res.coarse, hdrs := o.hdrs.map Res.coarse, outs := o.outs.map Res.coarse }

/-- What C06 itself states about the train (datagrams ≤ MTU that parse back, consecutive sequence
    numbers continuing across calls, one timestamp per call, configured SSRC / payload type, marker
    on the last packet only), evaluated along the history with the depacketizer's answers IGNORED:
    whether the codec's depacketizer reassembles the frame is the codec's property (C10 … C16), not
    C06's, so under C06 the reassembly clauses of `histOk…` — which the pipeline theorems prove of
    the model — are compared through the correspondence only. -/
def c06Train (pk : Packetizer) (fs : List FrameIn) (obs : List FrameObs) : Bool :=
  histTrain pk (pk.seq.seq + 1) pk.ts fs
    (obs.map fun o => { o with outs := o.hdrs.map fun _ => (.ok [] : Res Bytes) })

def g711 : Handler :=
  mkHandler (do let pk ← rdCfg; let _ ← Rd.tok; let fs ← Rd.list rdFrame; pure (pk, fs)) (Rd.list rdFrameObs)
    (fun (pk, fs) => (runG711 pk fs).map coarse)
    (fun (pk, fs) o => c06Train pk fs o)
    (fun (pk, fs) => wfG711 pk fs)

def opus : Handler :=
  mkHandler (do let pk ← rdCfg; let fs ← Rd.list rdFrame; pure (pk, fs)) (Rd.list rdFrameObs)
    (fun (pk, fs) => (runOpus pk fs).map coarse)
    (fun (pk, fs) o => c06Train pk fs o)
    (fun (pk, fs) => wfOpus pk fs)

def vp8 : Handler :=
  mkHandler (do let pk ← rdCfg; let e ← Rd.bool; let k ← Rd.nat; let fs ← Rd.list rdFrame; pure (pk, e, k, fs))
    (Rd.list rdFrameObs)
    (fun (pk, e, k, fs) => (runVP8 e k pk {} fs).map coarse)
    (fun (pk, _, _, fs) o => c06Train pk fs o)
    (fun (pk, e, _, fs) => wfVP8 e pk fs)

def rdVP9Frame : Rd VP9Frame := do
  let d ← Rd.opt Rtp.Kinds.Vpx.rdHdrDesc
  let f ← rdFrame
  pure { frame := f.frame, desc := d, samples := f.samples, now := f.now }

def vp9 : Handler :=
  mkHandler (do let pk ← rdCfg; let f ← Rd.bool; let i ← Rd.u16; let fs ← Rd.list rdVP9Frame; pure (pk, f, i, fs))
    (Rd.list rdFrameObs)
    (fun (pk, f, i, fs) => (runVP9 { flexible := f, init := i } pk {} (fs.map VP9Frame.frameIn)).map coarse)
    (fun (pk, _, _, fs) o => c06Train pk (fs.map VP9Frame.frameIn) o)
    (fun (pk, f, i, fs) => wfVP9 { flexible := f, init := i } pk fs)

structure H264In where
  pk : Packetizer
  disable : Bool
  avc : Bool
  pre : List Bytes
  frames : List (H264Frame × Bytes)     -- the description and the bytes handed to Packetize

def rdH264Frame : Rd (H264Frame × Bytes) := do
  let b ← Rd.bool
  let us ← Rd.list (do let f ← Rd.bool; let n ← Rd.bytes; pure (f, n))
  let f ← rdFrame
  pure ({ bare := b, units := us, samples := f.samples, now := f.now }, f.frame)

def rdH264In : Rd H264In := do
  let pk ← rdCfg; let d ← Rd.bool; let a ← Rd.bool; let pre ← Rd.list Rd.bytes
  let fs ← Rd.list rdH264Frame
  pure { pk := pk, disable := d, avc := a, pre := pre, frames := fs }

/-- the frames as handed to `Packetize` (the transmitted bytes, which `wf` compares with the
    rendering of the units) -/
def H264In.frameIns (i : H264In) : List FrameIn :=
  i.frames.map (fun (fr, b) => { frame := b, samples := fr.samples, now := fr.now })

/-- the receiver's fragment buffer after it has been fed `pre` -/
def H264In.buf (i : H264In) : Bytes := (H264.run i.avc [] i.pre).2

def h264 : Handler :=
  mkHandler rdH264In (Rd.list rdFrameObs)
    (fun i => (runH264 i.disable i.avc i.pk i.buf i.frameIns).map coarse)
    (fun i o => c06Train i.pk i.frameIns o)
    (fun i => wfH264 i.pk (i.frames.map (·.1)) && i.frames.all (fun (fr, b) => b == fr.buffer))

/-- on the driver's `wf` the frames the model runs on are the frames of the theorem -/
theorem h264_frameIns (i : H264In) (h : i.frames.all (fun (fr, b) => b == fr.buffer) = true) :
    i.frameIns = (i.frames.map (·.1)).map H264Frame.frameIn := by
  simp only [H264In.frameIns, List.map_map]
  apply List.map_congr_left
  intro x hx
  have := (List.all_eq_true.mp h) x hx
  obtain ⟨fr, b⟩ := x
  simp only [beq_iff_eq] at this
  simp [H264Frame.frameIn, this]

structure AV1In where
  pk : Packetizer
  pre : List Bytes
  frames : List (AV1Frame × Bytes)

def rdAV1Frame : Rd (AV1Frame × Bytes) := do
  let os ← Rd.list Rtp.Kinds.Av1.rdObu
  let f ← rdFrame
  pure ({ obus := os, samples := f.samples, now := f.now }, f.frame)

def AV1In.frameIns (i : AV1In) : List FrameIn :=
  i.frames.map (fun (fr, b) => { frame := b, samples := fr.samples, now := fr.now })

/-- the receiver after it has been fed `pre` -/
def AV1In.dst (i : AV1In) : AV1.DSt := (AV1.depFeed {} i.pre).2

def av1 : Handler :=
  mkHandler (do let pk ← rdCfg; let pre ← Rd.list Rd.bytes; let fs ← Rd.list rdAV1Frame
                pure ({ pk := pk, pre := pre, frames := fs } : AV1In))
    (Rd.list rdFrameObs)
    (fun i => (runAV1 i.pk i.dst i.frameIns).map coarse)
    (fun i o => c06Train i.pk i.frameIns o)
    (fun i => wfAV1 i.pk (i.frames.map (·.1)) && i.frames.all (fun (fr, b) => b == Spec.Av1Rtp.serialise fr.obus))

structure H265In where
  pk : Packetizer
  cfg : H265.Cfg
  frames : List (H265Frame × Bytes)

def rdH265Frame : Rd (H265Frame × Bytes) := do
  let us ← Rd.list (do let sc ← Rd.nat; let u ← Rd.bytes; pure (sc, u))
  let f ← rdFrame
  pure ({ units := us, samples := f.samples, now := f.now }, f.frame)

def H265In.frameIns (i : H265In) : List FrameIn :=
  i.frames.map (fun (fr, b) => { frame := b, samples := fr.samples, now := fr.now })

def h265 : Handler :=
  mkHandler (do let pk ← rdCfg; let a ← Rd.bool; let sk ← Rd.bool; let fs ← Rd.list rdH265Frame
                pure ({ pk := pk, cfg := { addDONL := a, skipAgg := sk }, frames := fs } : H265In))
    (Rd.list rdFrameObs)
    (fun i => (runH265 i.cfg 0 i.pk i.frameIns).map coarse)
    (fun i o => c06Train i.pk i.frameIns o)
    (fun i => wfH265 i.cfg i.pk (i.frames.map (·.1)) &&
              i.frames.all (fun (fr, b) => b == Rtp.Pred.C14.frameBytes fr.units))

def handlers : List (String × Handler) :=
  [("e2e.g711", g711), ("e2e.opus", opus), ("e2e.vp8", vp8), ("e2e.vp9", vp9), ("e2e.h264", h264), ("e2e.av1", av1), ("e2e.h265", h265)]
end Rtp.Kinds.E2E
