import Driver.Common
import Rtp.Model.Audio
import Rtp.Pred.C16
namespace Rtp.Kinds.C16
open Rtp Rtp.Proto Rtp.Pred

/-- C16's sentence about G711/G722 with nothing added: no panic, the fragments concatenate to
    exactly the input, every fragment except the last is exactly `mtu` bytes long.  Ownership of the
    fragments and "the last fragment is at most MTU" (`Pred.C16.split` also asks for them) are
    C08's text, not C16's; they are still compared with the model (correspondence). -/
def splitR (mtu : UInt16) (input : Bytes) (o : PayObs) : Bool :=
  !o.panicked && o.frags.flatten == input && o.frags.dropLast.all (fun f => f.length == mtu.toNat)

theorem splitR_of_split (mtu : UInt16) (input : Bytes) (o : PayObs) :
    Rtp.Pred.C16.split mtu input o = true → splitR mtu input o = true := by
  intro h
  simp only [Rtp.Pred.C16.split, PayObs.owned, Bool.and_eq_true] at h
  simp only [splitR, Bool.and_eq_true]
  exact ⟨⟨h.1.1.1.1.1.1.1, h.1.1.2⟩, h.1.2⟩

/-- a nil input is a byte string of length 0: what is accepted for `[]byte{}` is accepted for it,
    and so is "no fragment at all" (there is nothing to carry) -/
def splitPredR (m : UInt16) (b : Option Bytes) (o : PayObs) : Bool :=
  match b with
  | none => !o.panicked && (o.frags.isEmpty || splitR m [] o)
  | some p => if m == 0 then !o.panicked else splitR m p o

abbrev Call := UInt16 × Option Bytes

/-- `<mtu> <obytes> <calls>`: the call under test, then the calls the SAME payloader instance has
    served before it (0 = a fresh instance).  The payloaders are stateless, so the model's answer for
    a call depends on that call only. -/
def rdCallAfter : Rd (Call × List Call) := do
  let m ← Rd.u16; let b ← Rd.obytes; let cs ← rdCalls; pure ((m, b), cs)

/-- `PayObs <n> PayObs*`: the observation of the call under test, then those of the earlier calls in
    order, whose fragments were compared with their snapshots once more after the LAST call. -/
def rdObsAfter : Rd (PayObs × List PayObs) := do
  let o ← rdPayObs; let es ← rdPayObsList; pure (o, es)

/-- every call of the history is an (input, MTU) the property quantifies over: the per-call predicate
    `p` is asked of the call under test and of every earlier call (whose fragments the caller still
    holds when the later calls are made) -/
def histPred (p : Call → PayObs → Bool) (c : Call) (cs : List Call) (o : PayObs) (es : List PayObs) : Bool :=
  p c o && cs.length == es.length && (cs.zip es).all (fun (ce : Call × PayObs) => p ce.1 ce.2)

/-- `c16.g711|g722 <mtu> <obytes> <calls> => PayObs <n> PayObs*`  (one handler for the two kinds).  `wf`: "MTU >= 1"; nil and empty inputs are inputs of length 0. -/
def split : Handler :=
  mkHandler rdCallAfter rdObsAfter
    (fun (c, cs) => (PayObs.ofFrags (Model.g711Payload c.1 c.2),
                     cs.map (fun (e : Call) => PayObs.ofFrags (Model.g711Payload e.1 e.2))))
    (fun (c, cs) (o, es) => histPred (fun c o => splitPredR c.1 c.2 o) c cs o es)
    (fun (c, _) => c.1 != 0)

/-- Opus: one fragment equal to (and not aliasing) the input — the ownership probes are C16's own
    text here.  For a nil input "one fragment equal to the input" is one empty fragment; no
    fragment at all is accepted as well. -/
def opusPredR (b : Option Bytes) (o : PayObs) : Bool :=
  match b with
  | none => (!o.panicked && o.frags.isEmpty) || Rtp.Pred.C16.opusPay [] o
  | some p => Rtp.Pred.C16.opusPay p o

def opusPay : Handler :=
  mkHandler rdCallAfter rdObsAfter
    (fun (c, cs) => (PayObs.ofFrags (Model.opusPayload c.1 c.2),
                     cs.map (fun (e : Call) => PayObs.ofFrags (Model.opusPayload e.1 e.2))))
    (fun (c, cs) (o, es) => histPred (fun c o => opusPredR c.2 o) c cs o es)

def rdOpusDe : Rd Rtp.Pred.C16.OpusDeObs := do
  let r ← Rd.resC Rd.bytes
  let h ← Rd.bool; let t0 ← Rd.bool; let t1 ← Rd.bool
  pure { res := r, head := h, tail0 := t0, tail1 := t1 }

/-- `<obytes> <n> obytes*`: the payload under test, then the payloads the SAME OpusPacket decoded
    before it.  Decoding is per packet: model and property depend on the payload under test only; the
    history is in the input so that a failing case shows it. -/
def rdOpusDeIn : Rd (Option Bytes) := do
  let b ← Rd.obytes; let _ ← Rd.list Rd.obytes; pure b

def opusDe : Handler :=
  mkHandler rdOpusDeIn rdOpusDe
    (fun b => { res := (Model.opusUnmarshal b).coarse, head := Model.audioIsPartitionHead b,
                tail0 := Model.audioIsPartitionTail false b, tail1 := Model.audioIsPartitionTail true b })
    (fun b o => Rtp.Pred.C16.opusDe b o)

def handlers : List (String × Handler) :=
  [("c16.g711", split), ("c16.g722", split), ("c16.opus", opusPay), ("c16.opusde", opusDe)]
end Rtp.Kinds.C16
