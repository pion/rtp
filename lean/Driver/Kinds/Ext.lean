/-
  Driver/Kinds/Ext.lean — case kinds of group `ext` (C17, C18).

  C17, per codec X ∈ {audio, tcc, playout, abssend, abscapture}, value tokens
      audio `<level> <voice>` · tcc `<seq>` · playout `<min> <max>` · abssend `<ts>` ·
      abscapture `<ts> <opt int64>`:
    c17.X.m   <value> <prev-receiver value> <next value> <edits>  => <res bytes> <opt (<res-unit> <value>)> <kept>
              Marshal(value); if it succeeded, Unmarshal of the produced bytes into a receiver
              holding `prev`, its result and the receiver afterwards.  The caller keeps the decoded
              value (a struct copy of the receiver), the same receiver then decodes Marshal(next)
              (if `next` can be encoded); <kept>: the kept value still reports what it reported
    c17.X.u   <prev value> <list bytes> <bytes> <edits>   => <res-unit> <value> <earlier> <prev-same>
              a receiver built as a struct copy of `prev` decodes the listed byte strings (results
              ignored; after each the caller keeps a struct copy of the receiver), then the input
              under test: its result and the receiver afterwards; <earlier>: every kept value still
              reports what it reported when it was decoded; <prev-same>: so does `prev`
    <edits>   (for the record; not an input of the model) before the decode under test OTHER receivers decoded
              the same payloads and the caller wrote through every exported pointer of what they decoded
              (`*ext.EstimatedCaptureClockOffset += k`): the number of values edited, 0 for codecs without pointers
  C18 (instants and durations are int64 nanoseconds; every observation is `ok …` | `panic`):
    c18.capture   <t>            => <Timestamp u64> <CaptureTime().UnixNano()> <the same, asked again>
    c18.ntp2time  <ntp u64>      => <CaptureTime().UnixNano() of Timestamp = ntp>      (correspondence only)
    c18.offset    <t> <d> <opt (<how> <d2>)> <hist> => <Timestamp> <raw offset> <duration> <opt duration via the wire> <opt held duration>
                                                       <duration asked again> <duration asked of a struct copy> <opt wire duration asked again>
                  hist = 1: before the extension under test is built the caller built / decoded other extensions
                  (same offset, offset 0) and wrote through their exported `EstimatedCaptureClockOffset` pointers
                  with `some how d2` the receiver that decodes the wire form is not a zero value: it is a
                  struct copy of an extension constructed with offset d2 (how = 0), or it has decoded the wire
                  form of such an extension before and the caller kept a struct copy of it (how = 1); the
                  last token is what that held extension's EstimatedCaptureClockOffsetDuration returns AFTER
                  the decode under test
    c18.offdur    <opt raw>      => <opt duration>                                     (correspondence only)
    c18.estimate  <send> <delay> => <NewAbsSendTime(send).Timestamp> <24-bit ts via the wire> <Estimate(send+delay).UnixNano()>
    c18.estraw    <ts u64> <recv> => <Estimate(recv).UnixNano()>                        (correspondence only)
-/
import Driver.Common
import Rtp.Model.ExtCodecs
import Rtp.Model.Ntp
import Rtp.Pred.C17
import Rtp.Pred.C18
namespace Rtp.Kinds.Ext
open Rtp Rtp.Proto Rtp.Model.ExtCodecs Rtp.Pred.C17

def rdAudio : Rd AudioLevel := do let l ← Rd.u8; let v ← Rd.bool; pure ⟨l, v⟩
def rdTcc : Rd TransportCC := do let s ← Rd.u16; pure ⟨s⟩
def rdPlayout : Rd PlayoutDelay := do let a ← Rd.u16; let b ← Rd.u16; pure ⟨a, b⟩
def rdAbsSend : Rd AbsSendTime := do let t ← Rd.u64; pure ⟨t⟩
def rdAbsCapture : Rd AbsCaptureTime := do let t ← Rd.u64; let o ← Rd.opt Rd.i64; pure ⟨t, o⟩

def rdUn {σ} (rd : Rd σ) : Rd (Un σ) := do let r ← Rd.resC Rd.unit; let s ← rd; pure ⟨r, s⟩

def rdMObs {σ} (rd : Rd σ) : Rd (MObs σ) := do
  let out ← Rd.resC Rd.bytes
  let rt ← Rd.opt (rdUn rd)
  pure ⟨out, rt⟩

/-- `marshalOk` and: the value decoded from Marshal(v) is still that value after the receiver it was
    copied from has decoded the next payload ("Unmarshal after Marshal is the identity" is about the
    value the caller got; a value that changes behind the caller's back afterwards is not the one
    that was decoded).  The models are pure functions on values, so the model's answer is `true`. -/
def marshalOkKept {σ} [DecidableEq σ] (S : ExtSpec σ) (v : σ) (o : MObs σ × Bool) : Bool :=
  marshalOk S v o.1 && o.2

theorem marshalOkKept_of_marshalOk {σ} [DecidableEq σ] (S : ExtSpec σ) (v : σ) (o : MObs σ) :
    marshalOk S v o = true → marshalOkKept S v (o, true) = true := by
  intro h; simp [marshalOkKept, h]

def marshalKind {σ} [DecidableEq σ] [Repr σ] (rd : Rd σ) (c : Codec σ) (S : ExtSpec σ) : Handler :=
  mkHandler (do let v ← rd; let p ← rd; let _next ← rd; let _edits ← Rd.nat; pure (v, p))
    (do let o ← rdMObs rd; let k ← Rd.bool; pure (o, k))
    (fun (v, p) => (modelM c v p, true))
    (fun (v, _) o => marshalOkKept S v o)
    -- C17 quantifies over in-range values (exact layout, round trip) AND over the out-of-range values
    -- that must be refused (AudioLevel, PlayoutDelay); only values that are neither are outside it
    (fun (v, _) => S.inRange v || S.reject v)

/-- `unmarshalOk` and: the values decoded EARLIER by the same receiver (struct copies the caller
    kept) still report what they reported ("decodes every byte string … to the specified fields":
    a decoded value that a later decode changes is no longer the value that byte string specifies).
    The third component (the value the receiver was built from is unchanged) is compared with the
    model only — C17 says nothing about it. -/
def unmarshalOkKept {σ} [DecidableEq σ] (S : ExtSpec σ) (raw : Bytes) (o : Un σ × Bool × Bool) : Bool :=
  unmarshalOk S raw o.1 && o.2.1

theorem unmarshalOkKept_of_unmarshalOk {σ} [DecidableEq σ] (S : ExtSpec σ) (raw : Bytes) (o : Un σ) :
    unmarshalOk S raw o = true → unmarshalOkKept S raw (o, true, true) = true := by
  intro h; simp [unmarshalOkKept, h]

def unmarshalKind {σ} [DecidableEq σ] [Repr σ] (rd : Rd σ) (c : Codec σ) (S : ExtSpec σ) : Handler :=
  mkHandler (do let p ← rd; let h ← Rd.list Rd.bytes; let b ← Rd.bytes; let _edits ← Rd.nat; pure (p, h, b))
    (do let u ← rdUn rd; let e ← Rd.bool; let ps ← Rd.bool; pure (u, e, ps))
    (fun (p, h, b) => (modelU c p h b, true, true))
    (fun (_, _, b) o => unmarshalOkKept S b o)
    -- "decodes every byte string of at least the fixed size …, rejects shorter input, never panics":
    -- every byte string is inside the quantifier

open Rtp.Model.Ntp Rtp.Pred.C18

/-- every C18 observation is `ok …` or `panic` (a panic of the real code is an observation).
    A panic is `pred = false` whatever the input; it counts as a violation of C18 only where the
    handler's `wf` holds, and each handler's `wf` is exactly the range the property states:
    capture — the instant in [1970-01-01, NTP era end 2036) (`instantOk`);
    offset — such an instant and |offset| < 2^31 s (`instantOk`, `offsetOk`);
    estimate — such a send instant and a delay in [0, 64 s − 2^-18 s) (`estimateWF`).
    Outside it only the correspondence with the model applies. -/
def okPred {α} (p : α → Bool) : Res α → Bool
  | .ok a => p a
  | _ => false

/-- `CaptureTime()` asked a second time of the same extension: C18's clause ("within 1 ns of t") is
    about what the accessor returns, on every call -/
def capture : Handler :=
  mkHandler Rd.i64
    (Rd.res (do let ts ← Rd.u64; let b ← Rd.i64; let b2 ← Rd.i64; pure ((⟨ts, b⟩ : CaptureObs), b2)))
    (fun t => let ts := captureTimestamp t; .ok (⟨ts, captureTime ts⟩, captureTime ts))
    (fun t => okPred (fun (o, b2) => captureOk t o && captureOk t { o with back := b2 }))
    (fun t => instantOk t.toInt)

def ntp2time : Handler :=
  mkHandler Rd.u64 (Rd.res Rd.i64) (fun t => .ok (captureTime t)) (fun _ _ => true) (fun _ => false)

/-- "a capture clock offset given as a duration of magnitude below 2^31 s is recovered by
    EstimatedCaptureClockOffsetDuration within 1 ns, sign included" for the HELD extension of
    `c18.offset`: it was given `d2`, and it is read after another value that shares its history has
    decoded a payload.  Nothing is demanded when there is no held extension or `d2` is out of range. -/
def heldOk (h : Option (Nat × Int64)) (k : Option Int64) : Bool :=
  match h with
  | none => true
  | some (_, d2) =>
    !offsetOk d2.toInt ||
    (match k with
     | some b2 => Rtp.Pred.C18.offset d2.toInt b2.toInt
     | none => false)

/-- the same clause for a LATER answer of `EstimatedCaptureClockOffsetDuration` (asked again of the
    same extension, or of a struct copy of it): the offset given is recovered within 1 ns, sign included -/
def againOk (d b : Int64) : Bool := !offsetOk d.toInt || Rtp.Pred.C18.offset d.toInt b.toInt

/-- later answers of the accessor in `c18.offset`: asked again of the same extension, of a struct copy
    of it, and (correspondence only) of the receiver that decoded the wire form -/
structure OffsetAgain where
  same : Int64
  copy : Int64
  wire : Option Int64
  deriving DecidableEq, Repr

/-- `hist` (0 | 1: earlier results of the constructor / decoder were edited through their exported
    pointer before the extension under test was built) is part of the input for the record only: the
    model is a function of `t` and `d`, what a caller did to OTHER extensions does not enter it. -/
def offset : Handler :=
  mkHandler (do let t ← Rd.i64; let d ← Rd.i64
                let h ← Rd.opt (do let how ← Rd.nat; let d2 ← Rd.i64; pure (how, d2))
                let _hist ← Rd.nat
                pure (t, d, h))
    (Rd.res (do let ts ← Rd.u64; let raw ← Rd.i64; let b ← Rd.i64; let w ← Rd.opt Rd.i64
                let k ← Rd.opt Rd.i64
                let b2 ← Rd.i64; let b3 ← Rd.i64; let w2 ← Rd.opt Rd.i64
                pure (ts, (⟨raw, b, w⟩ : OffsetObs), k, (⟨b2, b3, w2⟩ : OffsetAgain))))
    (fun (t, d, h) => let raw := encodeOffset d
      .ok (captureTimestamp t, ⟨raw, decodeOffset raw, some (decodeOffset raw)⟩,
           h.map (fun (_, d2) => decodeOffset (encodeOffset d2)),
           (⟨decodeOffset raw, decodeOffset raw, some (decodeOffset raw)⟩ : OffsetAgain)))
    (fun (_, d, h) => okPred (fun (_, o, k, a) =>
      offsetOkObs d o && heldOk h k && againOk d a.same && againOk d a.copy))
    (fun (t, d, _) => instantOk t.toInt && offsetOk d.toInt)

def offdur : Handler :=
  mkHandler (Rd.opt Rd.i64) (Rd.res (Rd.opt Rd.i64)) (fun o => .ok (o.map decodeOffset))
    (fun _ _ => true) (fun _ => false)

def estimateK : Handler :=
  mkHandler (do let s ← Rd.i64; let d ← Rd.i64; pure (s, d))
    (Rd.res (do let ts ← Rd.u64; let t24 ← Rd.u64; let e ← Rd.i64; pure (ts, (⟨t24, e⟩ : EstimateObs))))
    (fun (s, d) => let ts := sendTimestamp s
      .ok (ts, ⟨ts &&& 0xFFFFFF, estimateNs (ts &&& 0xFFFFFF) (s + d)⟩))
    (fun (s, d) => okPred (fun (_, o) => estimateOk s d o))
    (fun (s, d) => estimateWF s d)

def estraw : Handler :=
  mkHandler (do let ts ← Rd.u64; let r ← Rd.i64; pure (ts, r)) (Rd.res Rd.i64)
    (fun (ts, r) => .ok (estimateNs ts r)) (fun _ _ => true) (fun _ => false)

def handlers : List (String × Handler) :=
  [("c17.audio.m", marshalKind rdAudio audio audioSpec),
   ("c17.audio.u", unmarshalKind rdAudio audio audioSpec),
   ("c17.tcc.m", marshalKind rdTcc tcc tccSpec),
   ("c17.tcc.u", unmarshalKind rdTcc tcc tccSpec),
   ("c17.playout.m", marshalKind rdPlayout playout playoutSpec),
   ("c17.playout.u", unmarshalKind rdPlayout playout playoutSpec),
   ("c17.abssend.m", marshalKind rdAbsSend absSend absSendSpec),
   ("c17.abssend.u", unmarshalKind rdAbsSend absSend absSendSpec),
   ("c17.abscapture.m", marshalKind rdAbsCapture absCapture absCaptureSpec),
   ("c17.abscapture.u", unmarshalKind rdAbsCapture absCapture absCaptureSpec),
   ("c18.capture", capture), ("c18.ntp2time", ntp2time), ("c18.offset", offset),
   ("c18.offdur", offdur), ("c18.estimate", estimateK), ("c18.estraw", estraw)]
end Rtp.Kinds.Ext
