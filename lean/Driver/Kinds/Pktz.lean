/-
  Driver/Kinds/Pktz.lean — the case kinds of C07 (sequencer) and C06 (packetizer).

  c07.run    <f s | r r0> <ops: string of n/r, `-` = none>  =>  <count> <result>*
  c07.long   <start> <skip> <ops>  =>  <result>*   the results after `skip` unrecorded NextSequenceNumber calls
  c07.hist   <start> <goroutines> <fnv of the observation, for the distinct-case count>  =>  <count> (<g> <n|r> <before> <after> <result>)*
  c07.synth / c07.synthbad   as c07.hist, on synthesized histories (self-test of the checker:
             linearizable by construction must be accepted, corrupted ones rejected)
  c07.synthsmall  tiny random histories (the handler takes up to 8 calls): the greedy search must agree with brute force
             (`wf` reports how many of them are linearizable)
  c07.randstart <n>  =>  <n> <min> <max>   first values of n fresh random sequencers
  c07.race   go-run-race  =>  <ran> <race reported> <wrong final count>   (stress under `go run -race`)
  c07.facts  sequencer.go  =>  <6 bools> <maxInitialRandomSequenceNumber>

  c06.hist   <mtu> <pt> <ssrc> <ts0> <seqStart> <payloader name> <n> op*  =>  <n> opobs*
             (a padding burst is `G <n> pkt*`, or `Gd <n> (+ pkt | = <seq>)*` when longer than 1024 packets: see `rdPktsDelta`)
     op    = P <payload> <samples> <now:int64 unix ns> <k> <fragment>*     (fragments = what the real
                                                    payloader returned at this call; the model's `pay`)
           | S <skipped> | G <count> | E <id>
     opobs = P (none | some <budget> <payloadSame>) <k> pkt* | S | G <k> pkt* | E
     pkt   = <version> <P> <X> <M> <pt> <seq> <ts> <ssrc> <#csrc> <k> (<id> <bytes>)* <payload>
             <PaddingSize> <MarshalSize> <res bytes: Marshal> <roundtrip>
-/
import Driver.Common
import Rtp.Model.Sequencer
import Rtp.Pred.C07
import Rtp.Model.Packetizer
import Rtp.Pred.C06
namespace Rtp.Kinds.Pktz
open Rtp Rtp.Proto Rtp.Model Rtp.Spec.Counter

/-- tail-recursive `Rd.rep` (histories of 10^5 calls must not use the C stack) -/
def repTR {α} (r : Rd α) (n : Nat) : Rd (List α) := fun s => go n s #[]
where
  go : Nat → List String → Array α → Option (List α × List String)
    | 0, s, acc => some (acc.toList, s)
    | n + 1, s, acc => match r s with
      | none => none
      | some (a, s') => go n s' (acc.push a)

def listTR {α} (r : Rd α) : Rd (List α) := do let n ← Rd.nat; repTR r n

def rdOp : Rd Op := do
  let t ← Rd.tok
  match t with | "n" => pure .next | "r" => pure .roc | _ => Rd.fail

/-- a program as one token: a string over {n, r}; `-` is the empty program -/
def rdOps : Rd (List Op) := do
  let t ← Rd.tok
  if t == "-" then pure [] else
  let l := t.toList
  if l.all (fun c => c == 'n' || c == 'r') then pure (l.map fun c => if c == 'n' then Op.next else Op.roc)
  else Rd.fail

def rdStart : Rd Pred.C07.Start := do
  let t ← Rd.tok
  match t with
  | "f" => do let s ← Rd.u16; pure (.fixed s)
  | "r" => do let r ← Rd.nat; pure (.random r)
  | _ => Rd.fail

def c07run : Handler :=
  mkHandler (do let s ← rdStart; let o ← rdOps; pure (s, o)) (listTR Rd.nat)
    (fun (s, ops) => s.state.run ops)
    (fun (s, ops) o => Pred.C07.runOk s ops o)
    (fun (s, _) => s.wf)

/-- `c07.long  <start> <skip> <ops>  =>  <results of ops>` : `skip` NextSequenceNumber calls whose results
    are not recorded (up to 2^32 + … of them in the thorough tier: 65536 and more roll-overs), then the
    program `ops` as in `c07.run`.  The model is the abstract counter of Rtp/Spec/Counter.lean advanced
    by `skip` in closed form (`c07_long`: that IS the sequential model after `skip` calls), so the kind
    needs no 2^32-step evaluation on the Lean side. -/
def c07long : Handler :=
  mkHandler (do let s ← rdStart; let k ← Rd.nat; let o ← rdOps; pure (s, k, o)) (listTR Rd.nat)
    (fun (s, k, ops) => Spec.Counter.run (s.state.seq.toNat + k) ops)
    (fun (s, k, ops) o => o == Spec.Counter.run (s.state.seq.toNat + k) ops)
    (fun (s, _, _) => s.wf)

def rdCall : Rd Pred.C07.Call := do
  let g ← Rd.nat; let op ← rdOp; let b ← Rd.nat; let a ← Rd.nat; let r ← Rd.nat
  pure { g := g, op := op, before := b, after := a, res := r }

/-- no model observation to compare with (the schedule is not an input): `corr` is vacuous, the
    verdict is the linearizability check of what the real code did -/
def c07hist : Handler := fun inp obs =>
  match (do let s ← Rd.u16; let n ← Rd.nat; let _ ← Rd.nat; Rd.done; pure (s, n) : Rd (UInt16 × Nat)) inp,
        (do let h ← listTR rdCall; Rd.done; pure h : Rd (List Pred.C07.Call)) obs with
  | some ((s, _), _), some (h, _) =>
    some { corr := true, pred := Pred.C07.linearizable (SeqState.newFixed s) h }
  | _, _ => none

/-- self-test of the checker: corrupted histories must be rejected -/
def c07histBad : Handler := fun inp obs =>
  match c07hist inp obs with
  | some v => some { v with pred := !v.pred }
  | none => none

/-- self-test of the checker on tiny histories: the greedy search agrees with brute force -/
def c07histSmall : Handler := fun inp obs =>
  match (do let s ← Rd.u16; let n ← Rd.nat; let _ ← Rd.nat; Rd.done; pure (s, n) : Rd (UInt16 × Nat)) inp,
        (do let h ← listTR rdCall; Rd.done; pure h : Rd (List Pred.C07.Call)) obs with
  | some ((s, _), _), some (h, _) =>
    if h.length > 8 then none else
    let a := Pred.C07.linearizable (SeqState.newFixed s) h
    let b := Pred.C07.linearizableBrute (SeqState.newFixed s) h
    some { corr := true, pred := a == b, wf := b }
  | _, _ => none

def rdFacts : Rd Pred.C07.Facts := do
  let a ← Rd.bool; let b ← Rd.bool; let c ← Rd.bool; let d ← Rd.bool; let e ← Rd.bool; let f ← Rd.bool
  let m ← Rd.nat
  pure { nextLocksFirst := a, nextDefersUnlock := b, rocLocksFirst := c, rocDefersUnlock := d,
         noOtherLockOps := e, fieldsPrivate := f, maxInitialRandom := m }

/-- Correspondence only.  The facts describe the SOURCE TEXT of sequencer.go (mutex-first method
    bodies, the names of the type and its fields, the value of a constant); C07 as worded says
    nothing about how the counter is protected, so a differently written sequencer is not by that
    fact a violation of C07 with a "failing input".  The model still says that all facts hold: a
    change of the lock discipline breaks the tie between `c07_interleaving` and the code and is
    reported as a correspondence break, unless c07.hist / c07.race / c07.run find a failing history. -/
def factsPredR (_ : String) (_ : Pred.C07.Facts) : Bool := true

theorem factsPredR_of_factsOk (i : String) (o : Pred.C07.Facts) :
    Pred.C07.factsOk o = true → factsPredR i o = true := fun _ => rfl

def c07facts : Handler :=
  mkHandler Rd.tok rdFacts
    (fun _ => { nextLocksFirst := true, nextDefersUnlock := true, rocLocksFirst := true,
                rocDefersUnlock := true, noOtherLockOps := true, fieldsPrivate := true,
                maxInitialRandom := SeqState.maxInitialRandom })
    factsPredR

def rdPkt : Rd PktObs := do
  let v ← Rd.nat; let p ← Rd.bool; let x ← Rd.bool; let m ← Rd.bool
  let pt ← Rd.u8; let seq ← Rd.u16; let ts ← Rd.u32; let ssrc ← Rd.u32; let cc ← Rd.nat
  let exts ← Rd.list (do let id ← Rd.u8; let b ← Rd.bytes; pure (id, b))
  let payload ← Rd.bytes; let ps ← Rd.nat; let ms ← Rd.nat
  let mar ← Rd.resC Rd.bytes; let rt ← Rd.bool
  pure { version := v, padding := p, extension := x, marker := m, pt := pt, seq := seq, ts := ts,
         ssrc := ssrc, csrcCount := cc, exts := exts, payload := payload, paddingSize := ps,
         marshalSize := ms, marshal := mar, roundtrip := rt }

/-- `prev` with another sequence number: the field, and octets 2–3 of the wire image -/
def pktWithSeq (prev : PktObs) (s : UInt16) : Option PktObs :=
  match prev.marshal with
  | .ok (a :: b :: _ :: _ :: rest) =>
    some { prev with seq := s, marshal := .ok (a :: b :: (s >>> 8).toUInt8 :: s.toUInt8 :: rest) }
  | _ => none

/-- the packets of a LONG padding burst (`Gd`, more than 1024 packets; every burst of the ordinary
    cases is written in full as `G`): `<n> item*` with `item := + pkt | = <seq>`, where `= s` stands
    for the packet whose complete observation (every field, MarshalSize, wire bytes, round trip) is
    that of the preceding packet except for the sequence number `s` — the harness observes every
    packet in full and writes `=` only after comparing the two observations token by token, so the
    list read here is exactly the list `G` would have carried (a transport encoding: 65536 packets
    of 267 bytes are 1 MB instead of 40 MB), and predicate and correspondence see every packet. -/
def rdPktsDelta : Rd (List PktObs) := fun s =>
  match Rd.nat s with
  | none => none
  | some (n, s) => go n s none #[]
where
  go : Nat → List String → Option PktObs → Array PktObs → Option (List PktObs × List String)
    | 0, s, _, acc => some (acc.toList, s)
    | n + 1, "+" :: s, _, acc =>
      match rdPkt s with
      | some (p, s') => go n s' (some p) (acc.push p)
      | none => none
    | n + 1, "=" :: s, some prev, acc =>
      match Rd.u16 s with
      | some (q, s') =>
        match pktWithSeq prev q with
        | some p => go n s' (some p) (acc.push p)
        | none => none
      | none => none
    | _, _, _, _ => none

def rdPkOp : Rd PkOp := do
  let t ← Rd.tok
  match t with
  | "P" => do
    let payload ← Rd.bytes; let samples ← Rd.u32; let now ← Rd.i64
    let frags ← Rd.list Rd.bytes
    pure (.packetize (fun _ _ => frags) payload samples now)
  | "S" => do let n ← Rd.u32; pure (.skip n)
  | "G" => do let n ← Rd.u32; pure (.padding n)
  | "E" => do let v ← Rd.int; pure (.enableAbs v)
  | _ => Rd.fail

def rdPkOpObs : Rd PkOpObs := do
  let t ← Rd.tok
  match t with
  | "P" => do
    let c ← Rd.opt (do let b ← Rd.u16; let s ← Rd.bool; pure (b, s))
    let pkts ← listTR rdPkt
    pure (.packetize c pkts)
  | "S" => pure .skip
  | "G" => do let pkts ← listTR rdPkt; pure (.padding pkts)
  | "Gd" => do let pkts ← rdPktsDelta; pure (.padding pkts)
  | "E" => pure .enableAbs
  | _ => Rd.fail

def rdPkInput : Rd (Packetizer × List PkOp) := do
  let mtu ← Rd.u16; let pt ← Rd.u8; let ssrc ← Rd.u32; let ts ← Rd.u32; let s ← Rd.u16
  let _name ← Rd.tok
  let ops ← Rd.list rdPkOp
  pure ({ mtu := mtu, pt := pt, ssrc := ssrc, ts := ts, seq := SeqState.newFixed s, absId := 0 }, ops)

/-- first Unix nanosecond after the NTP era that started in 1900: (2^32 − 2208988800)·10^9 -/
def eraEndNs : Int := (2 ^ 32 - 2208988800) * 1000000000

/-- What the text of C06 quantifies over, per call, beyond `Pred.C06.wf`:
    * "for every NON-EMPTY payload": the property does not say what a Packetize call with an empty
      (or nil) payload returns or does to the running timestamp, so a history containing such a call
      is outside the quantifier (`Pred.C06.tsWalk` would otherwise demand "no advance");
    * "holding the send instant": the abs-send-time bytes are those of the NTP rendering of the
      clock reading, which denotes the send instant only for instants of the NTP era that contains
      the Unix epoch, 1970-01-01 … 2036-02-07 (the range C18 states for the same conversion);
      for other `int64` clock values `Pred.C06.absWalk` would demand the wrapped `uint64`
      arithmetic of the current code bit for bit. -/
def opInText : PkOp → Bool
  | .packetize _ payload _ now => !payload.isEmpty && decide (0 ≤ now.toInt) && decide (now.toInt < eraEndNs)
  | _ => true

/-- the domain on which the driver lets `Pred.C06.histOk` speak: `Pred.C06.wf` (MTU ≥ 64, 7-bit
    payload type, extension ids 0 / 1–14) and every call inside the property's text -/
def c06wfR (cfg : Packetizer) (ops : List PkOp) : Bool := Pred.C06.wf cfg ops && ops.all opInText

/-- the theorems of Props/C06 (hypothesis `Pred.C06.wf`) apply wherever the driver's `wf` holds -/
theorem wf_of_c06wfR (cfg : Packetizer) (ops : List PkOp) :
    c06wfR cfg ops = true → Pred.C06.wf cfg ops = true := by
  intro h; simp only [c06wfR, Bool.and_eq_true] at h; exact h.1

def c06hist : Handler :=
  mkHandler rdPkInput (Rd.list rdPkOpObs)
    (fun (cfg, ops) => cfg.run ops)
    (fun (cfg, ops) o => Pred.C06.histOk cfg ops o)
    (fun (cfg, ops) => c06wfR cfg ops)

/-- `c07.race go-run-race => <ran> <race reported> <wrong final count>`: the stress program under
    the Go race detector; nothing may be reported (when the detector cannot be run: vacuous) -/
def c07race : Handler :=
  mkHandler Rd.tok (do let a ← Rd.bool; let b ← Rd.bool; let c ← Rd.bool; pure (a, b, c))
    (fun _ => (true, false, false))
    (fun _ o => !o.2.1 && !o.2.2)
    (fun _ => true)
    (fun _ o => if o.1 then none else some "race-detector-unavailable")

/-- `c07.randstart <n> => <n> <min first value> <max first value>` of n fresh NewRandomSequencer()s.
    No model observation (the generator is the implementation's): only the predicate applies. -/
def c07randstart : Handler := fun inp obs =>
  match (do let n ← Rd.nat; Rd.done; pure n : Rd Nat) inp,
        (do let n ← Rd.nat; let a ← Rd.nat; let b ← Rd.nat; Rd.done; pure (n, a, b) : Rd (Nat × Nat × Nat)) obs with
  | some (n, _), some ((m, a, b), _) =>
    some { corr := n == m, pred := Pred.C07.randStartOk { n := m, minFirst := a, maxFirst := b } }
  | _, _ => none

def handlers : List (String × Handler) :=
  [("c07.run", c07run), ("c07.long", c07long), ("c07.hist", c07hist), ("c07.facts", c07facts), ("c07.synth", c07hist),
   ("c07.synthbad", c07histBad), ("c07.synthsmall", c07histSmall), ("c07.race", c07race), ("c07.randstart", c07randstart),
   ("c06.hist", c06hist)]
end Rtp.Kinds.Pktz
