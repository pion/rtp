/-
  Rtp/Proofs/H265Fields.lean — the bit layouts of codecs/h265_packet.go against RFC 7798.
  Every mask/shift accessor is a div/mod field of `toNat`; each of the three layouts (payload header
  1-6-6-3, FU header 1-1-6, PACI fields 1-6-5-1-1-1-1) has one unpacking lemma (the fields of a sum, over
  `Nat` variables, a flag being the number `b.toNat ≤ 1`) and one packing lemma (a number is the sum of its
  fields); from these come both directions between the Go accessors and the spec's `Hdr.word` / `fuByte` /
  `paciWord`.  The 16-bit fields `u16be` and the TSCI word.
-/
import Rtp.Proofs.Lib.BitField
import Rtp.Proofs.Lib.BigEndian
import Rtp.Model.H265Obs
namespace Rtp.Model.H265
open Rtp Rtp.Bits Rtp.Spec.Rfc7798

theorem hdr_unpack {f t l i n : Nat} (hf : f ≤ 1) (ht : t < 64) (hl : l < 64) (hi : i < 8)
    (hn : n = f * 32768 + t * 512 + l * 8 + i) :
    n / 32768 % 2 = f ∧ n / 512 % 64 = t ∧ n / 8 % 64 = l ∧ n % 8 = i ∧ n < 65536 := by omega

/- Packing: `Nat.mod_mul` peels one field after the other off `n`; what is left for `omega` is linear
   in the fields, which are made variables first (`omega` is slow as long as it sees `/` and `%`). -/
theorem hdr_pack {n : Nat} (hn : n < 65536) :
    n / 32768 % 2 * 32768 + n / 512 % 64 * 512 + n / 8 % 64 * 8 + n % 8 = n := by
  have e0 : n / 32768 % 2 = n / 32768 := Nat.mod_eq_of_lt (Nat.div_lt_of_lt_mul hn)
  have e1 := Nat.div_add_mod n 32768
  have e2 : n % 32768 = n % 512 + 512 * (n / 512 % 64) := Nat.mod_mul (a := 512) (b := 64)
  have e3 : n % 512 = n % 8 + 8 * (n / 8 % 64) := Nat.mod_mul (a := 8) (b := 64)
  rw [e2, e3] at e1
  rw [e0]
  generalize n / 32768 = f, n / 512 % 64 = t, n / 8 % 64 = l, n % 8 = i at e1 ⊢
  omega

theorem fu_unpack {s e t n : Nat} (hs : s ≤ 1) (he : e ≤ 1) (ht : t < 64) (hn : n = s * 128 + e * 64 + t) :
    n / 128 = s ∧ n / 64 % 2 = e ∧ n % 64 = t ∧ n < 256 := by omega

theorem fu_pack (n : Nat) : n / 128 * 128 + n / 64 % 2 * 64 + n % 64 = n := by
  have e1 := Nat.div_add_mod n 128
  have e2 : n % 128 = n % 64 + 64 * (n / 64 % 2) := Nat.mod_mul (a := 64) (b := 2)
  rw [e2] at e1
  generalize n / 128 = s, n / 64 % 2 = e, n % 64 = t at e1 ⊢
  omega

theorem paci_unpack {a c p f0 f1 f2 y n : Nat} (ha : a ≤ 1) (hc : c < 64) (hp : p < 32) (h0 : f0 ≤ 1)
    (h1 : f1 ≤ 1) (h2 : f2 ≤ 1) (hy : y ≤ 1)
    (hn : n = a * 32768 + c * 512 + p * 16 + f0 * 8 + f1 * 4 + f2 * 2 + y) :
    n / 32768 = a ∧ n / 512 % 64 = c ∧ n / 16 % 32 = p ∧ n / 8 % 2 = f0 ∧ n / 4 % 2 = f1 ∧
    n / 2 % 2 = f2 ∧ n % 2 = y ∧ n < 65536 := by omega

theorem paci_pack (n : Nat) :
    n / 32768 * 32768 + n / 512 % 64 * 512 + n / 16 % 32 * 16 + n / 8 % 2 * 8 + n / 4 % 2 * 4 +
    n / 2 % 2 * 2 + n % 2 = n := by
  have e1 := Nat.div_add_mod n 32768
  have e2 : n % 32768 = n % 512 + 512 * (n / 512 % 64) := Nat.mod_mul (a := 512) (b := 64)
  have e3 : n % 512 = n % 16 + 16 * (n / 16 % 32) := Nat.mod_mul (a := 16) (b := 32)
  have e4 : n % 16 = n % 8 + 8 * (n / 8 % 2) := Nat.mod_mul (a := 8) (b := 2)
  have e5 : n % 8 = n % 4 + 4 * (n / 4 % 2) := Nat.mod_mul (a := 4) (b := 2)
  have e6 : n % 4 = n % 2 + 2 * (n / 2 % 2) := Nat.mod_mul (a := 2) (b := 2)
  rw [e2, e3, e4, e5, e6] at e1
  generalize n / 32768 = a, n / 512 % 64 = c, n / 16 % 32 = p, n / 8 % 2 = f0, n / 4 % 2 = f1,
    n / 2 % 2 = f2, n % 2 = y at e1 ⊢
  omega

theorem u16be_eq (n : Nat) : u16be n = [(n / 2 ^ 8).toUInt8, n.toUInt8] := by
  rw [u16be, toUInt8_mod, toUInt8_mod]

/-- `be16` is `Rtp.Model.H265.be16`, the model's name for `Rtp.be16` -/
theorem be16_eq_u16be (d : UInt16) : be16 d = u16be d.toNat := by
  rw [u16be_eq]; exact be16_eq d

theorem u16be_rd16 (x y : UInt8) : u16be (rd16 x y).toNat = [x, y] := by
  rw [← be16_eq_u16be]; exact be16_rd16 x y

theorem u16be_bytes (n : Nat) : ∃ x y, u16be n = [x, y] ∧ rd16 x y = n.toUInt16 :=
  ⟨_, _, u16be_eq n, rd16_ofNat n⟩

theorem u16be_bytes_u16 (d : UInt16) : ∃ x y, u16be d.toNat = [x, y] ∧ rd16 x y = d := by
  obtain ⟨x, y, h1, h2⟩ := u16be_bytes d.toNat
  exact ⟨x, y, h1, h2.trans (toUInt16_toNat d)⟩

theorem u16be_bytes_lt (n : Nat) (hn : n < 65536) :
    ∃ x y, u16be n = [x, y] ∧ rd16 x y = n.toUInt16 ∧ (rd16 x y).toNat = n := by
  obtain ⟨x, y, h1, h2⟩ := u16be_bytes n
  exact ⟨x, y, h1, h2, h2 ▸ toNat_toUInt16_of_lt hn⟩

theorem hdrF_eq (h : UInt16) : hdrF h = (h.toNat / 32768 == 1) := by
  have e := u16_shr h 15 15 rfl
  rw [hdrF, u16_bne_zero _ (e ▸ Nat.div_lt_of_lt_mul h.toNat_lt), e]

theorem hdrType_toNat (h : UInt16) : (hdrType h).toNat = h.toNat / 512 % 64 := by
  rw [hdrType, u16_toUInt8_toNat, u16_and_shr h _ 9 9 6 rfl rfl]
  exact Nat.mod_eq_of_lt (mod_lt_256 _ (by decide) (by decide))

theorem hdrLayer_toNat (h : UInt16) : (hdrLayer h).toNat = h.toNat / 8 % 64 := by
  rw [hdrLayer, u16_toUInt8_toNat, u16_and_shr h _ 3 3 6 rfl rfl]
  exact Nat.mod_eq_of_lt (mod_lt_256 _ (by decide) (by decide))

theorem hdrTid_toNat (h : UInt16) : (hdrTid h).toNat = h.toNat % 8 := by
  rw [hdrTid, u16_toUInt8_toNat, u16_and_mask h _ 3 rfl]
  exact Nat.mod_eq_of_lt (mod_lt_256 _ (by decide) (by decide))

theorem hdrIsVCL_eq (h : UInt16) : hdrIsVCL h = decide (h.toNat / 512 % 64 < 32) := by
  have hb := u8_bit (hdrType h) 0x20 5 rfl
  rw [hdrType_toNat] at hb
  rw [hdrIsVCL, Bool.eq_iff_iff, decide_eq_true_eq, beq_iff_eq, ← Decidable.not_not (p := _ = (0 : UInt8)), ← Ne,
    ← bne_iff_ne, hb, beq_iff_eq]
  omega

theorem hdrIsAgg_eq (h : UInt16) : hdrIsAgg h = (h.toNat / 512 % 64 == 48) := by
  rw [hdrIsAgg, ← hdrType_toNat, Bool.eq_iff_iff, beq_iff_eq, beq_iff_eq, ← UInt8.toNat_inj]; rfl

theorem hdrIsFU_eq (h : UInt16) : hdrIsFU h = (h.toNat / 512 % 64 == 49) := by
  rw [hdrIsFU, ← hdrType_toNat, Bool.eq_iff_iff, beq_iff_eq, beq_iff_eq, ← UInt8.toNat_inj]; rfl

theorem hdrIsPACI_eq (h : UInt16) : hdrIsPACI h = (h.toNat / 512 % 64 == 50) := by
  rw [hdrIsPACI, ← hdrType_toNat, Bool.eq_iff_iff, beq_iff_eq, beq_iff_eq, ← UInt8.toNat_inj]; rfl

theorem hdrView_ofWord (w : UInt16) : hdrView w = Hdr.ofWord w.toNat := by
  rw [hdrView, Hdr.ofWord, hdrF_eq, Nat.mod_eq_of_lt (Nat.div_lt_of_lt_mul w.toNat_lt),
    eq_toUInt8_mod (by decide) (by decide) (hdrType_toNat w),
    eq_toUInt8_mod (by decide) (by decide) (hdrLayer_toNat w),
    eq_toUInt8_mod (by decide) (by decide) (hdrTid_toNat w)]

theorem Hdr.WF_iff (h : Hdr) : h.WF = true ↔ h.type.toNat < 64 ∧ h.layer.toNat < 64 ∧ h.tid.toNat < 8 := by
  simp only [Hdr.WF, Bool.and_eq_true, decide_eq_true_eq, and_assoc]

theorem Hdr.word_eq (h : Hdr) :
    h.word = h.f.toNat * 32768 + h.type.toNat * 512 + h.layer.toNat * 8 + h.tid.toNat := by
  rw [Hdr.word, ite_eq_toNat_mul]

theorem Hdr.word_fields (h : Hdr) (hw : h.WF = true) :
    h.word / 32768 % 2 = h.f.toNat ∧ h.word / 512 % 64 = h.type.toNat ∧ h.word / 8 % 64 = h.layer.toNat ∧
    h.word % 8 = h.tid.toNat ∧ h.word < 65536 := by
  obtain ⟨ht, hl, hi⟩ := (Hdr.WF_iff h).mp hw
  exact hdr_unpack h.f.toNat_le ht hl hi (Hdr.word_eq h)

theorem Hdr.ofWord_word (h : Hdr) (hw : h.WF = true) : Hdr.ofWord h.word = h := by
  obtain ⟨u1, u2, u3, u4, _⟩ := Hdr.word_fields h hw
  rw [Hdr.ofWord, u1, u2, u3, u4, bool_toNat_beq_one, toUInt8_toNat, toUInt8_toNat, toUInt8_toNat]

theorem Hdr.ofWord_WF (n : Nat) : (Hdr.ofWord n).WF = true := by
  rw [Hdr.WF_iff]
  simp only [Hdr.ofWord, toNat_toUInt8]
  omega

theorem Hdr.word_ofWord (n : Nat) (hn : n < 65536) : (Hdr.ofWord n).word = n := by
  rw [Hdr.word_eq]
  simp only [Hdr.ofWord]
  rw [toNat_beq_one (Nat.mod_lt _ (by decide)), toNat_toUInt8_of_lt (mod_lt_256 _ (by decide) (by decide)),
    toNat_toUInt8_of_lt (mod_lt_256 _ (by decide) (by decide)),
    toNat_toUInt8_of_lt (mod_lt_256 _ (by decide) (by decide))]
  exact hdr_pack hn

/-- the two octets of an encoded header, and what the Go accessors read from them (the last two conjuncts
    are projections of the second, in the form the simp sets of the callers use) -/
theorem hdr_bytes (h : Hdr) (hw : h.WF = true) :
    ∃ a b, h.bytes = [a, b] ∧ hdrView (rd16 a b) = h ∧ hdrF (rd16 a b) = h.f ∧ hdrType (rd16 a b) = h.type := by
  obtain ⟨a, b, hb, hr⟩ := u16be_bytes h.word
  have hv : hdrView (rd16 a b) = h := by
    rw [hdrView_ofWord, hr, toNat_toUInt16_of_lt (Hdr.word_fields h hw).2.2.2.2, Hdr.ofWord_word h hw]
  exact ⟨a, b, hb, hv, congrArg Hdr.f hv, congrArg Hdr.type hv⟩

theorem Hdr.ofNal_bytes (a b : UInt8) (r : Bytes) : (Hdr.ofNal (a :: b :: r)).bytes = [a, b] := by
  have e : a.toNat * 256 + b.toNat = (rd16 a b).toNat := (rd16_toNat a b).symm
  rw [Hdr.ofNal, Hdr.bytes, e, Hdr.word_ofWord _ (rd16 a b).toNat_lt, u16be_rd16]

theorem Hdr.ofNal_WF (n : Bytes) : (Hdr.ofNal n).WF = true := by
  unfold Hdr.ofNal
  split
  · exact Hdr.ofWord_WF _
  · decide

theorem hdrView_ofNal (a b : UInt8) (r : Bytes) : hdrView (rd16 a b) = Hdr.ofNal (a :: b :: r) := by
  rw [hdrView_ofWord, rd16_toNat]; rfl

theorem hdrView_bytes (a b : UInt8) : (hdrView (rd16 a b)).bytes = [a, b] := by
  rw [hdrView_ofNal a b []]; exact Hdr.ofNal_bytes a b []

theorem fu_fields (b : UInt8) :
    fuS b = (b.toNat / 128 == 1) ∧ fuE b = (b.toNat / 64 % 2 == 1) ∧ (fuType b).toNat = b.toNat % 64 := by
  have e7 := u8_and_shr b 0x80 7 7 1 rfl rfl
  have e6 := u8_and_shr b 0x40 6 6 1 rfl rfl
  refine ⟨?_, ?_, u8_and_mask b _ 6 rfl⟩
  · rw [fuS, u8_bne_zero _ (e7 ▸ Nat.mod_lt _ (by decide)), e7,
      Nat.mod_eq_of_lt (Nat.div_lt_of_lt_mul b.toNat_lt)]
  · rw [fuE, u8_bne_zero _ (e6 ▸ Nat.mod_lt _ (by decide)), e6]

theorem fuByte_toNat (s e : Bool) (t : UInt8) (ht : t.toNat < 64) :
    (fuByte s e t).toNat = s.toNat * 128 + e.toNat * 64 + t.toNat := by
  rw [fuByte, ite_eq_toNat_mul, ite_eq_toNat_mul]
  exact toNat_toUInt8_of_lt (fu_unpack s.toNat_le e.toNat_le ht rfl).2.2.2

theorem fuByte_fields (s e : Bool) (t : UInt8) (ht : t.toNat < 64) :
    fuS (fuByte s e t) = s ∧ fuE (fuByte s e t) = e ∧ fuType (fuByte s e t) = t := by
  obtain ⟨h1, h2, h3⟩ := fu_fields (fuByte s e t)
  obtain ⟨u1, u2, u3, _⟩ := fu_unpack s.toNat_le e.toNat_le ht (fuByte_toNat s e t ht)
  exact ⟨h1.trans (beq_one_of_eq_toNat u1), h2.trans (beq_one_of_eq_toNat u2), UInt8.toNat_inj.mp (h3.trans u3)⟩

theorem u8_fuByte (c : UInt8) : fuByte (fuS c) (fuE c) (fuType c) = c := by
  obtain ⟨h1, h2, h3⟩ := fu_fields c
  have l1 : c.toNat / 128 < 2 := Nat.div_lt_of_lt_mul c.toNat_lt
  rw [← UInt8.toNat_inj, fuByte_toNat _ _ _ (h3 ▸ Nat.mod_lt _ (by decide)), h1, h2, h3, toNat_beq_one l1,
    toNat_beq_one (Nat.mod_lt _ (by decide))]
  exact fu_pack c.toNat

/-- the octet `fuLoop` writes: the unit type with S on the first fragment, E on the last -/
theorem fuType_or_flag (t : UInt8) (ht : t.toNat < 64) (s e : Bool) :
    t ||| (if s then 0x80 else if e then 0x40 else 0) = fuByte s (!s && e) t := by
  rw [← UInt8.toNat_inj, fuByte_toNat _ _ _ ht]
  cases s
  · cases e
    · show (t ||| 0).toNat = 0 + t.toNat
      rw [UInt8.or_zero, Nat.zero_add]
    · exact u8_or_bit t 0x40 6 rfl ht
  · exact u8_or_bit t 0x80 7 rfl (Nat.lt_trans ht (by decide))

theorem paciA_eq (w : UInt16) : paciA w = (w.toNat / 32768 == 1) := by
  rw [paciA, u16_bit w _ 15 rfl, Nat.mod_eq_of_lt (Nat.div_lt_of_lt_mul w.toNat_lt)]

theorem paciCType_toNat (w : UInt16) : (paciCType w).toNat = w.toNat / 512 % 64 := hdrType_toNat w

theorem paciPHS_toNat (w : UInt16) : (paciPHS w).toNat = w.toNat / 16 % 32 := by
  rw [paciPHS, u16_toUInt8_toNat, u16_and_shr w _ 4 4 5 rfl rfl]
  exact Nat.mod_eq_of_lt (mod_lt_256 _ (by decide) (by decide))

theorem paciF0_eq (w : UInt16) : paciF0 w = (w.toNat / 8 % 2 == 1) := u16_bit w _ 3 rfl
theorem paciF1_eq (w : UInt16) : paciF1 w = (w.toNat / 4 % 2 == 1) := u16_bit w _ 2 rfl
theorem paciF2_eq (w : UInt16) : paciF2 w = (w.toNat / 2 % 2 == 1) := u16_bit w _ 1 rfl
theorem paciY_eq (w : UInt16) : paciY w = (w.toNat % 2 == 1) := by
  rw [paciY, u16_bit w _ 0 rfl, Nat.pow_zero, Nat.div_one]

theorem paciWord_eq (a : Bool) (c phs : UInt8) (f0 f1 f2 y : Bool) :
    paciWord a c phs f0 f1 f2 y = a.toNat * 32768 + c.toNat * 512 + phs.toNat * 16 + f0.toNat * 8 +
      f1.toNat * 4 + f2.toNat * 2 + y.toNat := by
  simp only [paciWord, ite_eq_toNat_mul, Nat.mul_one]

theorem paciWord_unpack (a : Bool) (c phs : UInt8) (f0 f1 f2 y : Bool) (hc : c.toNat < 64) (hp : phs.toNat < 32)
    {n : Nat} (hn : n = paciWord a c phs f0 f1 f2 y) :
    n / 32768 = a.toNat ∧ n / 512 % 64 = c.toNat ∧ n / 16 % 32 = phs.toNat ∧ n / 8 % 2 = f0.toNat ∧
    n / 4 % 2 = f1.toNat ∧ n / 2 % 2 = f2.toNat ∧ n % 2 = y.toNat ∧ n < 65536 :=
  paci_unpack a.toNat_le hc hp f0.toNat_le f1.toNat_le f2.toNat_le y.toNat_le
    (hn.trans (paciWord_eq a c phs f0 f1 f2 y))

theorem paciWord_lt (a : Bool) (c phs : UInt8) (f0 f1 f2 y : Bool) (hc : c.toNat < 64)
    (hp : phs.toNat < 32) : paciWord a c phs f0 f1 f2 y < 65536 :=
  (paciWord_unpack a c phs f0 f1 f2 y hc hp rfl).2.2.2.2.2.2.2

theorem paci_fields (a : Bool) (c phs : UInt8) (f0 f1 f2 y : Bool) (hc : c.toNat < 64)
    (hp : phs.toNat < 32) (w : UInt16) (hw : w.toNat = paciWord a c phs f0 f1 f2 y) :
    paciA w = a ∧ paciCType w = c ∧ paciPHS w = phs ∧ paciF0 w = f0 ∧ paciF1 w = f1 ∧
    paciF2 w = f2 ∧ paciY w = y := by
  obtain ⟨u1, u2, u3, u4, u5, u6, u7, _⟩ := paciWord_unpack a c phs f0 f1 f2 y hc hp hw
  exact ⟨(paciA_eq w).trans (beq_one_of_eq_toNat u1), UInt8.toNat_inj.mp ((paciCType_toNat w).trans u2),
    UInt8.toNat_inj.mp ((paciPHS_toNat w).trans u3), (paciF0_eq w).trans (beq_one_of_eq_toNat u4),
    (paciF1_eq w).trans (beq_one_of_eq_toNat u5), (paciF2_eq w).trans (beq_one_of_eq_toNat u6),
    (paciY_eq w).trans (beq_one_of_eq_toNat u7)⟩

theorem paciWord_fields (w : UInt16) :
    paciWord (paciA w) (paciCType w) (paciPHS w) (paciF0 w) (paciF1 w) (paciF2 w) (paciY w) = w.toNat := by
  have h2 : ∀ n : Nat, n % 2 < 2 := fun n => Nat.mod_lt n (by decide)
  rw [paciWord_eq, paciA_eq, paciCType_toNat, paciPHS_toNat, paciF0_eq, paciF1_eq, paciF2_eq, paciY_eq,
    toNat_beq_one (Nat.div_lt_of_lt_mul w.toNat_lt), toNat_beq_one (h2 _), toNat_beq_one (h2 _),
    toNat_beq_one (h2 _), toNat_beq_one (h2 _)]
  exact paci_pack w.toNat

theorem tsciWord_toNat (a b c : UInt8) :
    (tsciWord a b c).toNat = a.toNat * 2 ^ 24 + (b.toNat * 2 ^ 16 + (c.toNat * 2 ^ 8 + 0)) := by
  have e : tsciWord a b c = rd32 a b c 0 := UInt32.or_zero.symm
  rw [e, rd32_toNat]; rfl

/-- the third octet: S(1) E(1) RES(6) -/
theorem tsci_third_octet (c : UInt8) :
    ((c &&& 0x80) != 0) = (c.toNat / 128 == 1) ∧ ((c &&& 0x40) != 0) = (c.toNat / 64 % 2 == 1) ∧
    (c &&& 0x3F) = (c.toNat % 64).toUInt8 := by
  refine ⟨?_, u8_bit c _ 6 rfl, eq_toUInt8_mod (by decide) (by decide) (u8_and_mask c _ 6 rfl)⟩
  rw [u8_bit c _ 7 rfl, Nat.mod_eq_of_lt (Nat.div_lt_of_lt_mul c.toNat_lt)]

/-- `TSCI()` of PHES octets `a b c`, read through all five accessors, is the TSCI of RFC 7798 §4.5 -/
theorem tsciView_word (a b c : UInt8) : tsciView (tsciWord a b c) = Tsci.ofBytes a b c := by
  -- TL0PICIDX(8) IrapPicID(8) third-octet(8) zero(8), in the shape the accessors of `H265TSCI` cut it up
  obtain ⟨u1, u2, u3⟩ : (tsciWord a b c).toNat / 2 ^ 16 % 2 ^ 16 / 2 ^ 8 % 2 ^ 8 % 256 = a.toNat ∧
      (tsciWord a b c).toNat / 2 ^ 16 % 2 ^ 16 % 2 ^ 8 % 256 = b.toNat ∧
      (tsciWord a b c).toNat / 2 ^ 8 % 2 ^ 8 % 256 = c.toNat := by
    have := tsciWord_toNat a b c
    have := a.toNat_lt
    have := b.toNat_lt
    have := c.toNat_lt
    omega
  have e1 : tsciTL0 (tsciWord a b c) = a := by
    rw [← UInt8.toNat_inj, tsciTL0, u32_toUInt8_toNat, u32_and_shr _ _ _ 8 8 rfl rfl,
      u32_and_shr _ _ _ 16 16 rfl rfl]; exact u1
  have e2 : tsciIrap (tsciWord a b c) = b := by
    rw [← UInt8.toNat_inj, tsciIrap, u32_toUInt8_toNat, u32_and_mask _ _ 8 rfl,
      u32_and_shr _ _ _ 16 16 rfl rfl]; exact u2
  have e3 : ((tsciWord a b c &&& 0xFF00) >>> 8).toUInt8 = c := by
    rw [← UInt8.toNat_inj, u32_toUInt8_toNat, u32_and_shr _ _ _ 8 8 rfl rfl]; exact u3
  obtain ⟨h1, h2, h3⟩ := tsci_third_octet c
  simp only [tsciView, Tsci.ofBytes, e1, e2, tsciS, tsciE, tsciRES, e3, h1, h2, h3]

end Rtp.Model.H265
