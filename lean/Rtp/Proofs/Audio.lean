/- Rtp/Proofs/Audio.lean — the split loop of G711/G722: what its fragments are (`splitGt_spec` and its
   four parts), and that the payloader is this loop at every MTU ≥ 1 (`g711Payload_some`) -/
import Rtp.Model.Audio
import Rtp.Proofs.Lib.UInt
namespace Rtp.Model
open Rtp

theorem splitGt_ne_nil (k : Nat) (hk : 0 < k) (l : Bytes) : splitGt k hk l ≠ [] := by
  rw [splitGt]; split <;> exact List.cons_ne_nil _ _

/-- the fragments concatenate to the input; all but the last are exactly `k` long, the last at most
    `k`; a non-empty input never yields an empty fragment.  One round of the loop cuts `k` bytes off
    an input longer than `k`, so the first fragment is full and the rest is non-empty again. -/
theorem splitGt_spec (k : Nat) (hk : 0 < k) (l : Bytes) :
    (splitGt k hk l).flatten = l ∧ (∀ f ∈ (splitGt k hk l).dropLast, f.length = k) ∧
    (∀ f ∈ splitGt k hk l, f.length ≤ k) ∧ (l ≠ [] → ∀ f ∈ splitGt k hk l, f ≠ []) := by
  fun_induction splitGt k hk l with
  | case1 l h ih =>
    obtain ⟨i1, i2, i3, i4⟩ := ih
    have ht : (l.take k).length = k := by rw [List.length_take]; omega
    have hd : l.drop k ≠ [] := fun h0 => by
      have := congrArg List.length h0; rw [List.length_drop] at this; simp only [List.length_nil] at this; omega
    refine ⟨by rw [List.flatten_cons, i1, List.take_append_drop], ?_, ?_, fun _ => ?_⟩
    · rw [List.dropLast_cons_of_ne_nil (splitGt_ne_nil k hk _)]
      intro f hf
      rcases List.mem_cons.mp hf with rfl | hf
      · exact ht
      · exact i2 f hf
    · intro f hf
      rcases List.mem_cons.mp hf with rfl | hf
      · exact Nat.le_of_eq ht
      · exact i3 f hf
    · intro f hf
      rcases List.mem_cons.mp hf with rfl | hf
      · intro h0; rw [h0] at ht; exact absurd ht.symm (Nat.ne_of_gt hk)
      · exact i4 hd f hf
  | case2 l h =>
    refine ⟨List.append_nil l, fun f hf => ?_, ?_, fun hl => ?_⟩
    · cases hf
    · intro f hf; rw [List.mem_singleton.mp hf]; exact Nat.le_of_not_gt h
    · intro f hf; rw [List.mem_singleton.mp hf]; exact hl

theorem splitGt_flatten (k : Nat) (hk : 0 < k) (l : Bytes) : (splitGt k hk l).flatten = l :=
  (splitGt_spec k hk l).1

theorem splitGt_le (k : Nat) (hk : 0 < k) (l : Bytes) : ∀ f ∈ splitGt k hk l, f.length ≤ k :=
  (splitGt_spec k hk l).2.2.1

theorem splitGt_dropLast (k : Nat) (hk : 0 < k) (l : Bytes) :
    ∀ f ∈ (splitGt k hk l).dropLast, f.length = k := (splitGt_spec k hk l).2.1

theorem splitGt_nonempty (k : Nat) (hk : 0 < k) (l : Bytes) (hl : l ≠ []) :
    ∀ f ∈ splitGt k hk l, f ≠ [] := (splitGt_spec k hk l).2.2.2 hl

theorem g711Payload_some (mtu : UInt16) (hk : 0 < mtu.toNat) (p : Bytes) :
    g711Payload mtu (some p) = splitGt mtu.toNat hk p := dif_neg (Nat.ne_of_gt hk)

end Rtp.Model
