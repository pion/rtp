/-
  Rtp/Proofs/ProvAV1.lean — the provenance-level AV1Depacketizer (Rtp/Model/ProvAV1.lean):
  forgetting origins gives Model/AV1Depack.lean; the returned bytes are always a new array; the
  retained fragment is `fresh` when the retention step `keep` copies (`PBytes.copy`: the code as it
  is; `id`: the code before the repair, see Rtp/Props/C09_Prov.lean).
-/
import Rtp.Model.ProvAV1
import Rtp.Proofs.Prov
import Rtp.Proofs.Lib.Lists
import Rtp.Proofs.AV1Depack
namespace Rtp.Proofs.ProvAV1
open Rtp Rtp.Model Rtp.Model.Prov Rtp.Model.AV1 Rtp.Proofs.Prov

def forgetLoop (r : PLoopEnd × PBytes) : LoopEnd × Bytes := (r.1.forget, r.2.bytes)

theorem forgetLoop_mk (a : PLoopEnd) (b : PBytes) : forgetLoop (a, b) = (a.forget, b.bytes) := rfl

theorem forget_pElemLoop (keep : PBytes → PBytes) (hk : ∀ x, (keep x).bytes = x.bytes)
    (w : Nat) (z y : Bool) (fuel : Nat) (rest : PBytes) (idx : Nat) (buf acc : PBytes) :
    forgetLoop (pElemLoop keep w z y fuel rest idx buf acc) =
      elemLoop w z y fuel rest.bytes idx buf.bytes acc.bytes := by
  induction fuel generalizing rest idx buf acc with
  | zero => rfl
  | succ fuel ih =>
    by_cases he : rest.bytes.isEmpty = true
    · rw [pElemLoop, elemLoop]; simp only [he, if_true]; rfl
    rw [elemLoop_succ _ _ _ _ _ _ _ _ (by simpa using he), pElemLoop]
    simp only [he]
    -- the length field: the same decision, `r` a view of the same bytes
    have hlr : lenRestOf w idx rest.bytes = Option.map (fun t => (t.1, t.2.1.bytes, t.2.2))
        (if (w == 0 || !(w != 0 && idx + 1 == w)) = true then
          match readLebGo rest.bytes with
          | none => none
          | some (v, k) => some (v.toNat, rest.drop k,
              (w != 0 && idx + 1 == w) || (w == 0 && v.toNat == (rest.drop k).bytes.length))
        else some (rest.bytes.length, rest, w != 0 && idx + 1 == w)) := by
      unfold lenRestOf
      split
      · cases readLebGo rest.bytes <;> rfl
      · rfl
    rw [hlr]
    generalize (if (w == 0 || !(w != 0 && idx + 1 == w)) = true then _ else _ :
      Option (Nat × PBytes × Bool)) = lr
    obtain _ | ⟨len, r, isLast⟩ := lr
    · rfl
    simp only [Option.map_some, afterLen, apply_ite PBytes.bytes, bytes_make, bytes_take]
    generalize emitObu _ _ = eo
    rcases eo with _ | _ | bs <;>
      simp only [Bool.false_eq_true, ↓reduceIte, apply_ite forgetLoop, forgetLoop_mk,
        PLoopEnd.forget, ih, bytes_drop, hk, apply_ite PBytes.bytes, bytes_make, bytes_take,
        bytes_nil, bytes_append]

def endOk (o : Origin) : PLoopEnd → Prop
  | .done out _ => out.origin = o
  | .fail => True

/-- What the element loop maintains about origins: the output keeps the origin `o` of the
    accumulator it started from, and, under the assumption `K` (which will say that `keep` copies
    and that the fragment held on entry is owned), the fragment held on exit is a new array. -/
def Ok (o : Origin) (K : Prop) (r : PLoopEnd × PBytes) : Prop :=
  endOk o r.1 ∧ (K → r.2.origin = .fresh)

theorem origins_pElemLoop {K : Prop} (keep : PBytes → PBytes)
    (hk : K → ∀ x, (keep x).origin = .fresh) (w : Nat) (z y : Bool) (fuel : Nat)
    (rest : PBytes) (idx : Nat) (buf acc : PBytes) (hb : K → buf.origin = .fresh) :
    Ok acc.origin K (pElemLoop keep w z y fuel rest idx buf acc) := by
  induction fuel generalizing rest idx buf acc with
  | zero => exact ⟨rfl, hb⟩
  | succ fuel ih =>
    rw [pElemLoop]
    dsimp only
    refine ite_pred (Ok _ K) _ ⟨rfl, hb⟩ ?_
    -- how the length field is read plays no part: only `rest.drop`/`rest.take` of it are used
    generalize (if (w == 0 || !(w != 0 && idx + 1 == w)) = true then _ else _ :
      Option (Nat × PBytes × Bool)) = lr
    obtain _ | ⟨len, r, isLast⟩ := lr
    · exact ⟨trivial, hb⟩
    dsimp only
    have hb' : K → (if (idx == 0 && z) = true then PBytes.nil else buf).origin = .fresh :=
      fun k => ite_pred PBytes.Owned _ rfl (hb k)
    generalize (if (idx == 0 && z) = true then PBytes.nil else buf) = buf' at hb' ⊢
    -- the leaves: stop with `acc`, fail, retain `keep _`, or go round again
    refine ite_pred (Ok _ K) _ ⟨trivial, hb⟩ (ite_pred (Ok _ K) _ (ite_pred (Ok _ K) _ ⟨rfl, hb⟩ (ih _ _ _ _ hb))
      (ite_pred (Ok _ K) _ ⟨rfl, fun k => hk k _⟩ (ite_pred (Ok _ K) _ (ih _ _ _ _ hb') ?_)))
    generalize emitObu _ _ = eo
    obtain _ | _ | bs := eo
    · exact ⟨trivial, hb'⟩
    · exact ih _ _ _ _ hb'
    · exact ite_pred (Ok _ K) _ ⟨rfl, hb'⟩ (ih _ _ _ _ hb')

def forgetDep (r : Res PBytes × PDSt) : Res Bytes × DSt := (r.1.map PBytes.bytes, r.2.forget)

theorem forget_pDepUnmarshalG (keep : PBytes → PBytes) (hk : ∀ x, (keep x).bytes = x.bytes)
    (d : PDSt) (i : Nat) (payload : Bytes) :
    forgetDep (pDepUnmarshalG keep d i payload) = depUnmarshal d.forget payload := by
  unfold pDepUnmarshalG depUnmarshal
  match payload with
  | [] => rfl
  | [_] => rfl
  | b0 :: b1 :: body =>
    dsimp only
    generalize hp : pElemLoop _ _ _ _ _ _ _ _ _ = pr
    generalize he : elemLoop _ _ _ _ _ _ _ _ = er
    have : forgetLoop pr = er := by
      rw [← hp, ← he, forget_pElemLoop keep hk]
      simp [apply_ite PBytes.bytes, PDSt.forget]
    subst this
    rcases pr with ⟨_ | _, b⟩
    · simp only [forgetLoop, PLoopEnd.forget]
      split <;> rfl
    · rfl

/-- what `Unmarshal` returns is a new array (whatever the retention step); the retained fragment
    stays owned when the retention step allocates -/
theorem owned_pDepUnmarshalG (keep : PBytes → PBytes) (d : PDSt) (i : Nat) (payload : Bytes) :
    (∀ r, (pDepUnmarshalG keep d i payload).1 = .ok r → r.origin = .fresh) ∧
    ((∀ x, (keep x).origin = .fresh) → d.Owned → (pDepUnmarshalG keep d i payload).2.Owned) := by
  unfold pDepUnmarshalG
  match payload with
  | [] => exact ⟨by simp, fun _ h => h⟩
  | [_] => exact ⟨by simp, fun _ h => h⟩
  | b0 :: b1 :: body =>
    dsimp only
    generalize hp : pElemLoop _ _ _ _ _ _ _ _ _ = pr
    obtain ⟨ho, hb⟩ : Ok .fresh ((∀ x, (keep x).origin = .fresh) ∧ d.Owned) pr := by
      rw [← hp]
      exact origins_pElemLoop keep And.left _ _ _ _ _ _ _ (PBytes.make []) fun k =>
        ite_pred PBytes.Owned _ rfl (ite_pred PBytes.Owned _ rfl k.2)
    replace hb := fun hk hd => hb ⟨hk, hd⟩
    rcases pr with ⟨_ | _, b⟩
    · dsimp only at ho hb ⊢
      simp only [endOk] at ho
      split
      · exact ⟨by simp, hb⟩
      · refine ⟨?_, hb⟩
        intro r hr; cases hr; exact ho
    · exact ⟨by simp, hb⟩

theorem forget_pDepFeedG (keep : PBytes → PBytes) (hk : ∀ x, (keep x).bytes = x.bytes)
    (d : PDSt) (i : Nat) (ps : List Bytes) :
    ((pDepFeedG keep d i ps).1.map (·.map PBytes.bytes), (pDepFeedG keep d i ps).2.forget) =
      depFeed d.forget ps := by
  induction ps generalizing d i with
  | nil => rfl
  | cons p ps ih =>
    have h1 := forget_pDepUnmarshalG keep hk d i p
    have h2 := ih (pDepUnmarshalG keep d i p).2 (i + 1)
    simp only [forgetDep] at h1
    simp only [pDepFeedG, depFeed, List.map_cons]
    rw [← h1, ← h2]

theorem owned_pDepFeedG (keep : PBytes → PBytes) (hk : ∀ x, (keep x).origin = .fresh)
    (d : PDSt) (i : Nat) (ps : List Bytes) (hd : d.Owned) :
    (∀ res ∈ (pDepFeedG keep d i ps).1, ∀ r, res = .ok r → r.origin = .fresh) ∧
    (pDepFeedG keep d i ps).2.Owned := by
  induction ps generalizing d i with
  | nil => exact ⟨by simp [pDepFeedG], hd⟩
  | cons p ps ih =>
    have h1 := owned_pDepUnmarshalG keep d i p
    have h2 := ih (pDepUnmarshalG keep d i p).2 (i + 1) (h1.2 hk hd)
    simp only [pDepFeedG, List.mem_cons, forall_eq_or_imp]
    exact ⟨⟨h1.1, h2.1⟩, h2.2⟩

end Rtp.Proofs.ProvAV1
