/-
  Rtp/Proofs/HeaderExtId0.lean — one-byte (0xBEDE) blocks that carry elements with id 0, and start
  states decoded from the wire.

  The one-byte parser treats a header byte 0x00 as padding and 0x01–0x0F as an element with id 0
  and 2–16 bytes; so an element with id 0 and ONE byte never comes out of the parser, and every
  id-0 element that does (2–16 bytes) is written back by Marshal as the same header byte
  (`0<<4 | (len-1)` = 0x01–0x0F) and parsed again as the same element.  Hence the header round
  trip holds for ids 0–14 with "id 0 ⇒ at least two bytes" (`ok0`, the one-byte element test of
  `Wire.encodable`).  C05's invariant with `ok0` as the one-byte element test (`legal0`, which is
  `InvWith ok0`) holds of whatever Header.Unmarshal produces (`hdrUnmarshal_inv0`) and is preserved:
  SetExtension refuses id 0, DelExtension removes such elements like any other.
-/
import Rtp.Proofs.HeaderExtWire
import Rtp.Proofs.WireParsed
import Rtp.Proofs.PacketRtHeader
namespace Rtp.Proofs.HeaderExtId0
open Rtp Rtp.Model Rtp.Pred Rtp.Pred.C05 Rtp.Proofs.HeaderExt Rtp.Proofs.PacketRt
open Rtp.Spec.OrderedMap (Map Op)

/-- what a one-byte block can carry across the wire: id 0–14, 1–16 bytes, and id 0 only with at
    least two bytes (header byte 0x00 is padding).  The same test is `Wire.extOk1` (`extOk1_iff`)
    and, on wire items, `Wire.Item.ok1`. -/
def ok0 (e : Ext) : Bool :=
  e.id.toNat ≤ 14 && 1 ≤ e.payload.length && e.payload.length ≤ 16 &&
    (e.id.toNat != 0 || 2 ≤ e.payload.length)

theorem ok0_iff (e : Ext) : ok0 e = true ↔
    e.id.toNat ≤ 14 ∧ 1 ≤ e.payload.length ∧ e.payload.length ≤ 16 ∧
      (e.id.toNat = 0 → 2 ≤ e.payload.length) := by
  simp only [ok0, Bool.and_eq_true, Bool.or_eq_true, decide_eq_true_eq, bne_iff_ne, ne_eq, and_assoc,
    Decidable.imp_iff_not_or]

/-- what happens to the excluded case: id 0 with one byte is written as 0x00, i.e. as padding -/
theorem oneByteHdr_id0_len1 : oneByteHdr 0 1 = 0 := by decide

/-- the domain of the header round trip with id-0 elements: sane fixed fields, X on, one-byte
    profile, every element `ok0`, block within the 16-bit word count (`Spec.Wire.maxBody`) -/
def wf0 (h : Header) : Bool :=
  fixedOk h && h.extension && h.extProfile == profileOneByte && h.exts.all ok0 &&
    extBodySize h ≤ 65535 * 4

theorem wf0_iff (h : Header) : wf0 h = true ↔
    fixedOk h = true ∧ h.extension = true ∧ h.extProfile = profileOneByte ∧ h.exts.all ok0 = true ∧
      extBodySize h ≤ 65535 * 4 := by
  simp only [wf0, Bool.and_eq_true, beq_iff_eq, decide_eq_true_eq, and_assoc]

theorem extOk1_iff (e : Ext) : Wire.extOk1 e = true ↔ ok0 e = true := by
  rw [ok0_iff]
  simp only [Wire.extOk1, Bool.and_eq_true, decide_eq_true_eq, Bool.not_eq_true', Bool.and_eq_false_iff,
    beq_eq_false_iff_ne, ne_eq, ← UInt8.toNat_inj, UInt8.toNat_zero]
  omega

/-- a `wf0` header is one Marshal writes faithfully (any packet around it with a consistent padding
    count will do) -/
theorem encodable_of_wf0 (h : Header) (hw : wf0 h = true) :
    Wire.encodable ⟨h, [], if h.padding then 1 else 0⟩ = true := by
  obtain ⟨hf, hx, hp, hall, hsz⟩ := (wf0_iff h).mp hw
  obtain ⟨hv, hpt, hcc⟩ := (fixedOk_iff h).mp hf
  have hall' : h.exts.all Wire.extOk1 = true :=
    List.all_eq_true.mpr fun e he => (extOk1_iff e).mpr (List.all_eq_true.mp hall e he)
  simp only [Wire.encodable, hv, hpt, hcc, hx, hp, hall', hsz, Spec.Wire.maxBody, beq_self_eq_true, if_true,
    decide_true, Bool.and_self, Bool.true_and]
  cases h.padding <;> rfl

/-- Marshal succeeds and the bytes decode, into any receiver, to the very same header -/
theorem header_roundtrip0 (h : Header) (hw : wf0 h = true) :
    ∃ bs, hdrMarshal h = .ok bs ∧ bs.length = hdrMarshalSize h ∧
      ∀ r : Header, hdrUnmarshal r bs = .ok (h, bs.length) := by
  have henc := encodable_of_wf0 h hw
  have hx := ((wf0_iff h).mp hw).2.1
  have hser := (Wire.encodable_ser _ henc).1
  have hlen := hdrWire_length_ser h hser
  refine ⟨hdrWire h, hdrMarshal_ser h hser, hlen, fun r => ?_⟩
  have hu := hdrUnmarshal_wire_of_encodable _ henc r []
  rw [List.append_nil] at hu
  rw [hu, hlen]
  simp [PacketParse.withProfile, hx]

/-- the element clause of `Wire.encodable` gives C05's invariant with `ok0` -/
theorem invWith_of_extClause (h : Header) (he : Wire.extClause h = true) : InvWith ok0 h := by
  unfold Wire.extClause at he
  split at he
  · rename_i hx
    refine ⟨by simp [noGhost, hx], ?_⟩
    split at he
    · rename_i h1
      simp only [Bool.and_eq_true] at he
      refine ⟨?_, fun hleg => by simp [isLegacy, h1] at hleg⟩
      rw [eq_of_beq h1, elemOk_oneByte]
      exact List.all_eq_true.mpr fun e hm => (extOk1_iff e).mp (List.all_eq_true.mp he.1 e hm)
    · rename_i h1
      split at he
      · rename_i h2
        simp only [Bool.and_eq_true] at he
        refine ⟨?_, fun hleg => by simp [isLegacy, h2] at hleg⟩
        rw [List.all_eq_true] at he ⊢
        intro e hm
        have := he.1 e hm
        simp only [Wire.extOk2, Bool.and_eq_true, bne_iff_ne, ne_eq, decide_eq_true_eq] at this
        have h0 : 1 ≤ e.id.toNat := Nat.pos_of_ne_zero fun hc => this.1 (UInt8.toNat_inj.mp hc)
        simp only [elemOk, validate_accepts, eq_of_beq h2, accepts_twoByte, h0, this.2, decide_true, Bool.and_self]
        rfl
      · rename_i h2
        have hleg : isLegacy h.extProfile = true := by simp [isLegacy, h1, h2]
        rw [elemOk_legacy _ _ hleg]
        match h.exts, he with
        | [e], he =>
          simp only [Bool.and_eq_true] at he
          exact ⟨by simpa using he.1.1, fun _ => Nat.le_refl 1⟩
  · rename_i hx
    have hn : h.exts = [] := List.isEmpty_iff.mp he
    exact ⟨by simp [noGhost, hn], by rw [hn]; rfl, fun _ => by rw [hn]; exact Nat.zero_le 1⟩

/-- whatever Header.Unmarshal produces — from any bytes, into any receiver — satisfies the
    invariant with `ok0` and has sane fixed fields -/
theorem hdrUnmarshal_inv0 (r : Header) (buf : Bytes) (h : Header) (n : Nat)
    (hok : hdrUnmarshal r buf = .ok (h, n)) : InvWith ok0 h ∧ fixedOk h = true := by
  obtain ⟨a, b, c, d⟩ := Wire.hdrUnmarshal_out r buf h n hok
  exact ⟨invWith_of_extClause h d, (fixedOk_iff h).mpr ⟨a, b, c⟩⟩

theorem validOne_iff (e : Ext) : validOne e = true ↔ ok0 e = true ∧ e.id ≠ 0 := by
  rw [ok0_iff, validOne, validate_accepts, accepts_oneByte]
  simp only [Bool.and_eq_true, decide_eq_true_eq, ne_eq, ← UInt8.toNat_inj, UInt8.toNat_zero]
  constructor
  · rintro ⟨⟨⟨a, b⟩, c⟩, d⟩
    exact ⟨⟨b, c, d, fun h0 => absurd h0 (Nat.ne_of_gt a)⟩, Nat.ne_of_gt a⟩
  · rintro ⟨⟨b, c, d, _⟩, h0⟩
    exact ⟨⟨⟨Nat.pos_of_ne_zero h0, b⟩, c⟩, d⟩

/-- … hence `legal`, provided a one-byte block carries no element with id 0 -/
theorem hdrUnmarshal_legal (r : Header) (buf : Bytes) (h : Header) (n : Nat)
    (hok : hdrUnmarshal r buf = .ok (h, n))
    (hid : h.extProfile = profileOneByte → ∀ e ∈ h.exts, e.id ≠ 0) : legal h = true :=
  (legal_iff h).mpr ((hdrUnmarshal_inv0 r buf h n hok).1.mono fun hp e he h0 => (validOne_iff e).mpr ⟨h0, hid hp e he⟩)

/-- `legal`, or X on with the one-byte profile and every element `ok0` (what the one-byte parser
    produces; contains the one-byte case of `legal`) -/
def legal0 (h : Header) : Bool :=
  legal h || (h.extension && h.extProfile == profileOneByte && h.exts.all ok0)

theorem legal0_iff (h : Header) : legal0 h = true ↔ InvWith ok0 h := by
  unfold legal0
  rw [Bool.or_eq_true, legal_iff]
  constructor
  · rintro (hl | hl)
    · exact hl.mono fun _ e _ he => ((validOne_iff e).mp he).1
    · simp only [Bool.and_eq_true, beq_iff_eq] at hl
      obtain ⟨⟨hx, hp⟩, hall⟩ := hl
      exact ⟨by simp [noGhost, hx], by rwa [hp, elemOk_oneByte], fun hleg => by simp [isLegacy, hp] at hleg⟩
  · rintro ⟨hg, hall, hlen⟩
    by_cases hp : (h.extProfile == profileOneByte) = true
    · cases hx : h.extension
      · have hn : h.exts = [] := by simpa [noGhost, hx] using hg
        exact Or.inl ⟨hg, by rw [hn]; rfl, hlen⟩
      · rw [eq_of_beq hp, elemOk_oneByte] at hall
        exact Or.inr (by simp [hp, hall])
    · exact Or.inl ⟨hg, by rwa [elemOk_of_ne validOne ok0 _ (by simpa using hp)], hlen⟩

theorem legal0_step (h : Header) (op : Op) (hl : legal0 h = true) : legal0 (modelStep h op).2 = true :=
  (legal0_iff _).mpr (((legal0_iff h).mp hl).step (fun e he => ((validOne_iff e).mp he).1) op)

theorem legal0_steps (ops : List Op) (h : Header) (hl : legal0 h = true) :
    legal0 (modelSteps h ops).2 = true :=
  modelSteps_inv legal0_step ops h hl

theorem legal0_noGhost (h : Header) (hl : legal0 h = true) : noGhost h = true := ((legal0_iff h).mp hl).1

/-- every start state of the property satisfies `legal0` and has sane fixed fields -/
theorem startDomain_legal0 (s : Start) (hd : startDomain s = true) :
    ∃ h, startHeader s = some h ∧ legal0 h = true ∧ fixedOk h = true := by
  cases s with
  | hdr h =>
    simp only [startDomain, Bool.and_eq_true] at hd
    exact ⟨h, rfl, by simp [legal0, hd.1], hd.2⟩
  | wire prevs bs =>
    cases hu : hdrUnmarshal (C02.usedHeader prevs) bs with
    | ok x =>
      obtain ⟨hi, hf⟩ := hdrUnmarshal_inv0 _ _ x.1 x.2 hu
      exact ⟨x.1, by simp only [startHeader, hu], (legal0_iff _).mpr hi, hf⟩
    | err e => simp [startDomain, startHeader, hu] at hd
    | panic => simp [startDomain, startHeader, hu] at hd

/-- the final part of the predicate holds of the model for every header that satisfies `legal0`,
    has sane fixed fields and fits the 16-bit word count -/
theorem finalOk_model0 (hrt : HeaderRoundTrip) (h : Header) (hl : legal0 h = true)
    (hf : fixedOk h = true) (hs : extBodySize h ≤ 65535 * 4) :
    finalOk (view h) (modelFinal h) = true := by
  unfold legal0 at hl
  rcases (Bool.or_eq_true _ _).mp hl with hl | hl
  · exact finalOk_model hrt h (finalWfH_of_legal h hl hf hs)
  · simp only [Bool.and_eq_true, beq_iff_eq] at hl
    obtain ⟨⟨hx, hp⟩, hall⟩ := hl
    have hw : wf0 h = true := (wf0_iff h).mpr ⟨hf, hx, hp, hall, hs⟩
    obtain ⟨bs, hm, _, hun⟩ := header_roundtrip0 h hw
    exact finalOk_of_roundtrip h bs h _ hm (hun {}) (fun _ => rfl)

end Rtp.Proofs.HeaderExtId0
