/-
  AV1Depacketizer on what well-shaped packets encode to (receive side of C13).
-/
import Rtp.Proofs.AV1Abs
import Rtp.Proofs.AV1Depack
namespace Rtp.Model.AV1
open Rtp Rtp.Model Rtp.Spec.Av1Rtp
namespace DepackRT

theorem emitObu_good (b : Bytes) (len : Nat) (h : goodUnit b) :
    emitObu b len = some (some (sizedOf b)) := by
  obtain ⟨hd, hp, hs, ht, hl⟩ := h
  unfold emitObu sizedOf
  simp only [hp]
  simp [hs, ht, hl]

theorem lenRestOf_pre (w idx : Nat) (e rest : Bytes)
    (hl0 : (w != 0 && idx + 1 == w) = false) (hs : e.length < 2 ^ 56) :
    lenRestOf w idx (lenPrefixed e ++ rest) = some (e.length, e ++ rest, w == 0 && rest.isEmpty) := by
  have hlen : (e.length == e.length + rest.length) = rest.isEmpty := by cases rest <;> simp
  unfold lenRestOf
  rw [hl0, readLebGo_lenPrefixed e rest hs]
  simp [drop_lenPrefixed, toNat_toUInt64_of_lt (show e.length < 2 ^ 64 by omega), hlen]

/-- the length field of the next element of a body: present unless the element is the W-th, and
    the element is the last one iff nothing follows it -/
theorem lenRestOf_encElems (w idx : Nat) (e : Bytes) (es : List Bytes)
    (hw : w = 0 ∨ w = idx + 1 + es.length) (hs : e.length < 2 ^ 56) (hne : ∀ x ∈ es, x ≠ []) :
    lenRestOf w idx (encElems (w != 0) (e :: es)) =
      some (e.length, e ++ encElems (w != 0) es, es.isEmpty) := by
  cases es with
  | nil =>
    by_cases h0 : w = 0
    · have := lenRestOf_pre w idx e [] (by simp [h0]) hs
      simpa [encElems, h0] using this
    · have hi : idx + 1 = w := by simp at hw; omega
      simp [lenRestOf, encElems, h0, hi]
  | cons e' es =>
    have hl0 : (w != 0 && idx + 1 == w) = false := by
      rcases hw with h | h
      · simp [h]
      · have : ¬ idx + 1 = w := by simp only [List.length_cons] at h; omega
        simp [this]
    rw [encElems_cons_cons, lenRestOf_pre w idx e _ hl0 hs,
      encElems_isEmpty _ e' es (hne e' (by simp))]
    simp

/-- with `zeff := !buf.isEmpty` (the buffer holds bytes exactly when the element continues them) the
    branch "first fragment lost" is out of reach and the OBU the element ends or extends is
    `buf ++ e` either way -/
theorem afterLen_good (w : Nat) (z y : Bool) (fuel idx : Nat) (buf acc : Bytes)
    (e rest : Bytes) (isLast : Bool) (hne : e ≠ [])
    (hg : (isLast && y) = false → goodUnit (buf ++ e)) :
    afterLen w z y fuel idx buf acc (!buf.isEmpty) e.length (e ++ rest) isLast =
      if isLast && y then (.done acc idx, buf ++ e)
      else if isLast then (.done (acc ++ sizedOf (buf ++ e)) idx, [])
      else elemLoop w z y fuel rest (idx + 1) [] (acc ++ sizedOf (buf ++ e)) := by
  unfold afterLen
  have h1 : ¬ (e.length > (e ++ rest).length) := by simp
  have h2 : (!buf.isEmpty && buf.isEmpty) = false := by cases buf <;> rfl
  have h3 : (if !buf.isEmpty then buf ++ e else e) = buf ++ e := by cases buf <;> rfl
  have h4 : (if !buf.isEmpty then ([] : Bytes) else buf) = [] := by cases buf <;> rfl
  have h5 : (buf ++ e).isEmpty = false :=
    List.isEmpty_eq_false_iff.mpr (List.append_ne_nil_of_right_ne_nil _ hne)
  simp only [h1, if_false, h2, List.take_left', List.drop_left', h3, h4, h5]
  by_cases hly : (isLast && y) = true
  · simp [hly]
  · have hly' : (isLast && y) = false := by simpa using hly
    rw [emitObu_good _ _ (hg hly')]
    simp [hly']

theorem elemLoop_step (w : Nat) (z y : Bool) (fuel idx : Nat) (buf acc e : Bytes) (es : List Bytes)
    (hz : (idx == 0 && z) = !buf.isEmpty)
    (hel : ∀ x ∈ e :: es, x ≠ [] ∧ x.length < 2 ^ 56)
    (hw : w = 0 ∨ w = idx + 1 + es.length)
    (hg : (es.isEmpty && y) = false → goodUnit (buf ++ e)) :
    elemLoop w z y (fuel + 1) (encElems (w != 0) (e :: es)) idx buf acc =
      if es.isEmpty && y then (.done acc idx, buf ++ e)
      else if es.isEmpty then (.done (acc ++ sizedOf (buf ++ e)) idx, [])
      else elemLoop w z y fuel (encElems (w != 0) es) (idx + 1) [] (acc ++ sizedOf (buf ++ e)) := by
  obtain ⟨hne, hs⟩ := hel e (by simp)
  rw [elemLoop_succ _ _ _ _ _ _ _ _ (encElems_isEmpty _ e es hne),
    lenRestOf_encElems w idx e es hw hs (fun x hx => (hel x (List.mem_cons_of_mem _ hx)).1), hz]
  exact afterLen_good w z y fuel idx buf acc e _ _ hne hg

/-- the loop over a body.  `idxF` is obuOffset at exit, which Unmarshal tests against W afterwards. -/
theorem elemLoop_encElems (w : Nat) (z y : Bool) (es : List Bytes) :
    ∀ (e : Bytes) (fuel idx : Nat) (buf acc : Bytes),
    (idx == 0 && z) = !buf.isEmpty →
    (∀ x ∈ e :: es, x ≠ [] ∧ x.length < 2 ^ 56) →
    (w = 0 ∨ w = idx + 1 + es.length) →
    es.length < fuel →
    (∀ u ∈ (rfSpec y ((buf ++ e) :: es)).1, goodUnit u) →
    ∃ idxF, elemLoop w z y fuel (encElems (w != 0) (e :: es)) idx buf acc =
      (.done (acc ++ ((rfSpec y ((buf ++ e) :: es)).1.map sizedOf).flatten) idxF,
        (rfSpec y ((buf ++ e) :: es)).2) ∧ (w ≠ 0 → idxF + 1 = w) := by
  induction es with
  | nil =>
    intro e fuel idx buf acc hz hel hw hfuel hg
    obtain ⟨f, rfl⟩ : ∃ f, fuel = f + 1 := ⟨fuel - 1, by omega⟩
    refine ⟨idx, ?_, fun h => by simp at hw; omega⟩
    rw [rfSpec_single] at hg ⊢
    rw [elemLoop_step w z y f idx buf acc e [] hz hel hw (fun h => hg _ (by simp_all))]
    cases y <;> simp
  | cons e' es ih =>
    intro e fuel idx buf acc hz hel hw hfuel hg
    obtain ⟨f, rfl⟩ : ∃ f, fuel = f + 1 := ⟨fuel - 1, by omega⟩
    rw [rfSpec_cons_cons] at hg ⊢
    rw [elemLoop_step w z y f idx buf acc e (e' :: es) hz hel hw (fun _ => hg _ (by simp))]
    obtain ⟨idxF, h1, h2⟩ := ih e' f (idx + 1) [] (acc ++ sizedOf (buf ++ e)) (by simp)
      (fun x hx => hel x (List.mem_cons_of_mem _ hx))
      (by simp only [List.length_cons] at hw; omega)
      (by simp only [List.length_cons] at hfuel; omega)
      (fun u hu => hg u (List.mem_cons_of_mem _ hu))
    rw [List.nil_append] at h1
    exact ⟨idxF, by simp [h1], h2⟩

theorem depUnmarshal_encode (p : Pk) (hp : PkGood p) (d : DSt)
    (hz : p.z = !d.buffer.isEmpty)
    (hg : ∀ u ∈ (pktUnits d.buffer p).1, goodUnit u) :
    depUnmarshal d p.encode =
      (.ok ((pktUnits d.buffer p).1.map sizedOf).flatten,
        ⟨(pktUnits d.buffer p).2, p.z, p.y, p.n⟩) := by
  obtain ⟨b1, b2, b3, b4⟩ := (aggHeader_bits p.z p.y p.n p.w hp.shape.w_le).2.1
  obtain ⟨c, cs, hbd⟩ := List.exists_cons_of_ne_nil (Pk.body_ne_nil hp)
  rw [Pk.encode, hbd]
  simp only [depUnmarshal, b1, b2, b3, b4]
  rw [← hbd]
  -- N clears the buffer, but N excludes Z; without Z the buffer is empty already
  have hbuf : (if (!p.z && !(if p.n then [] else d.buffer).isEmpty) then [] else
      (if p.n then [] else d.buffer)) = d.buffer := by
    cases hz' : p.z
    · have : d.buffer = [] := by simpa [hz'] using hz
      rw [this]; cases p.n <;> rfl
    · have : p.n = false := by
        cases hn : p.n
        · rfl
        · exact absurd ⟨hn, hz'⟩ hp.nz
      rw [this]; rfl
  rw [hbuf, Pk.body_eq hp.shape]
  cases hel : p.elems with
  | nil => exact absurd hel hp.ne
  | cons e es =>
    rw [pktUnits_cons hel] at hg ⊢
    have hlen := encElems_length (p.w != 0) p.elems hp.nonempty
    rw [hel] at hlen
    obtain ⟨idxF, h1, h2⟩ := elemLoop_encElems p.w p.z p.y es e
      ((encElems (p.w != 0) (e :: es)).length + 1) 0 d.buffer [] (by simpa using hz)
      (fun x hx => ⟨hp.nonempty x (hel ▸ hx), hp.small x (hel ▸ hx)⟩)
      (by have := hp.shape.w_eq; rw [hel] at this; simpa [Nat.add_comm] using this)
      (by simp only [List.length_cons] at hlen; omega) hg
    rw [h1]
    have hc : (p.w != 0 && idxF + 1 != p.w) = false := by
      by_cases hw : p.w = 0
      · simp [hw]
      · simp [h2 hw]
    simp [hc]

theorem depFeed_units (pks : List Pk) (hgood : ∀ p ∈ pks, PkGood p) :
    ∀ d : DSt, zyChain (!d.buffer.isEmpty) (pks.map Pk.toPacket) = true →
    (∀ us ∈ feedUnits d.buffer pks, ∀ u ∈ us, goodUnit u) →
    (depFeed d (pks.map Pk.encode)).1 =
      (feedUnits d.buffer pks).map fun us => .ok (us.map sizedOf).flatten := by
  induction pks with
  | nil => intro d _ _; rfl
  | cons p ps ih =>
    intro d hchain hunits
    have hp := hgood p (by simp)
    simp only [List.map_cons, zyChain, Bool.and_eq_true, beq_iff_eq] at hchain
    have hone := depUnmarshal_encode p hp d hchain.1 (hunits _ (by simp [feedUnits]))
    have hih := ih (fun q hq => hgood q (List.mem_cons_of_mem _ hq))
      ⟨(pktUnits d.buffer p).2, p.z, p.y, p.n⟩ (by rw [pktUnits_open _ hp]; exact hchain.2)
      (fun us hus => hunits us (by simp [feedUnits, hus]))
    simp only [List.map_cons, depFeed, hone, feedUnits, hih]

/-- Feeding the encodings of well-shaped packets (Z/Y chained, every reassembled OBU
    passable) to a fresh AV1Depacketizer: every call succeeds and the concatenated output is the
    OBUs the packets denote, each with its size field put back. -/
theorem depFeed_encode (pks : List Pk)
    (hgood : ∀ p ∈ pks, PkGood p)
    (hchain : zyChain false (pks.map Pk.toPacket) = true)
    (hunits : ∀ u ∈ units (pks.map Pk.toPacket), goodUnit u.bytes) :
    ∃ outs : List Bytes,
      (depFeed {} (pks.map Pk.encode)).1 = outs.map Res.ok ∧
      outs.flatten = ((units (pks.map Pk.toPacket)).map (fun u => sizedOf u.bytes)).flatten := by
  have hU : (feedUnits [] pks).flatten = (units (pks.map Pk.toPacket)).map (·.bytes) :=
    feedUnits_units pks hgood 0 none (fun u h => by cases h) hchain
  refine ⟨(feedUnits [] pks).map fun us => (us.map sizedOf).flatten, ?_, ?_⟩
  · rw [depFeed_units pks hgood {} hchain, List.map_map]
    · rfl
    · intro us hus u hu
      have : u ∈ (units (pks.map Pk.toPacket)).map (·.bytes) :=
        hU ▸ List.mem_flatten.mpr ⟨us, hus, hu⟩
      obtain ⟨v, hv, rfl⟩ := List.mem_map.mp this
      exact hunits v hv
  · rw [flatten_map_flatten, hU, List.map_map]
    rfl

end DepackRT
end Rtp.Model.AV1
