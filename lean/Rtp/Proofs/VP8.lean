/-
  Rtp/Proofs/VP8.lean — lemmas about the VP8 model: octet-level facts, what each parse step of
  VP8Packet.Unmarshal consumes, and the decoder / truncation / IsPartitionHead lemmas behind C11
  (stated over `WFP`, the descriptor's well-formedness as a record of propositions).
-/
import Rtp.Pred.C11
import Rtp.Proofs.VpxCommon
namespace Rtp.Proofs.VP8
open Rtp Rtp.Model Rtp.Bits Rtp.Pred Rtp.Proofs.Vpx
open Rtp.Spec.Rfc7741

/-! Octet facts.  Each octet of the descriptor packs Boolean flags and small fields.  What the decoder
    extracts from it is a finite table: stated as a proposition `…P` over Bools and octets, checked by the
    kernel for the at most 256 values (`…_fin`, over `Bool`/`Fin n`), and lifted to octets below the bound
    with `forall_u8_lt` (`…_fields`).  `ign48` and `andE0_eq` present the reserved bits the decoder
    ignores as such parameters. -/

theorem ign48 : ∀ g : UInt8,
    g &&& 0x48 = bit ((g &&& 0x40) != 0) 0x40 ||| bit ((g &&& 0x08) != 0) 0x08 := by
  apply forall_u8; decide +kernel

theorem andE0_eq : ∀ g : UInt8,
    (g &&& (0xE0 : UInt8) = (g >>> (5 : UInt8)) <<< (5 : UInt8)) ∧ (g >>> (5 : UInt8)).toNat < 8 := by
  apply forall_u8; decide +kernel

/-- what the decoder extracts from a first octet `x|0|n|s|0|pid` with reserved bits `gg`
    (the last conjunct is what `vp8IsPartitionHead` reads) -/
abbrev Octet0P (x n s : Bool) (pid gg : UInt8) : Prop :=
  let o : UInt8 := bit x 0x80 ||| bit n 0x20 ||| bit s 0x10 ||| pid ||| gg
  (o &&& 0x80) >>> 7 = bit x 1 ∧ (o &&& 0x20) >>> 5 = bit n 1 ∧ (o &&& 0x10) >>> 4 = bit s 1 ∧
  o &&& 0x07 = pid ∧ ((o &&& 0x10) != 0) = s

theorem octet0_fin : ∀ (x n s : Bool) (r1 r2 : Bool) (pid : Fin 8),
    Octet0P x n s (UInt8.ofNat pid.val) (bit r1 0x40 ||| bit r2 0x08) := by
  decide +kernel

theorem octet0_fields (x n s : Bool) (pid g : UInt8) (hp : pid < 8) :
    Octet0P x n s pid (g &&& 0x48) := by
  rw [ign48 g]
  exact forall_u8_lt 8 (fun pid => Octet0P x n s pid _) (octet0_fin x n s _ _) pid
    (UInt8.lt_iff_toNat_lt.mp hp)

/-- the X octet -/
abbrev OctetXP (i l t k : Bool) (m : UInt8) : Prop :=
  let o : UInt8 := bit i 0x80 ||| bit l 0x40 ||| bit t 0x20 ||| bit k 0x10 ||| m
  (o &&& 0x80) >>> 7 = bit i 1 ∧ (o &&& 0x40) >>> 6 = bit l 1 ∧ (o &&& 0x20) >>> 5 = bit t 1 ∧
  (o &&& 0x10) >>> 4 = bit k 1

theorem octetX_fin : ∀ (i l t k : Bool) (m : Fin 16), OctetXP i l t k (UInt8.ofNat m.val) := by
  decide +kernel

theorem octetX_fields (i l t k : Bool) (g : UInt8) : OctetXP i l t k (g &&& 0x0F) :=
  forall_u8_lt 16 (fun m => OctetXP i l t k m) (octetX_fin i l t k) (g &&& 0x0F) (Nat.lt_succ_of_le (u8_and_le g 0x0F))

/-- the T/K octet: TID and Y -/
abbrev OctetTP (t : UInt8) (y : Bool) (m : UInt8) : Prop :=
  let o : UInt8 := (t <<< 6) ||| bit y 0x20 ||| m
  o >>> 6 = t ∧ (o >>> 5) &&& 0x1 = bit y 1 ∧ o &&& 0x1F = m

theorem octetT_fin : ∀ (y : Bool) (m : Fin 32) (t : Fin 4),
    OctetTP (UInt8.ofNat t.val) y (UInt8.ofNat m.val) := by
  decide +kernel

theorem octetT_fields (t : UInt8) (y : Bool) (m : UInt8) (ht : t < 4) (hm : m.toNat < 32) :
    OctetTP t y m := by
  refine forall_u8_lt 32 (fun m => OctetTP t y m) (fun m => ?_) m hm
  exact forall_u8_lt 4 (fun t => OctetTP t y _) (octetT_fin y m) t (UInt8.lt_iff_toNat_lt.mp ht)

/-- the T/K octet, K only: the three high bits are ignored -/
abbrev OctetKP (j k : UInt8) : Prop := ((j <<< (5 : UInt8)) ||| k) &&& 0x1F = k

theorem octetK_fin : ∀ (j : Fin 8) (k : Fin 32), OctetKP (UInt8.ofNat j.val) (UInt8.ofNat k.val) := by
  decide +kernel

theorem octetK_fields (k g : UInt8) (hk : k < 32) : ((g &&& 0xE0) ||| k) &&& 0x1F = k := by
  rw [(andE0_eq g).1]
  refine forall_u8_lt 8 (fun j => OctetKP j k) (fun j => ?_) (g >>> (5 : UInt8)) (andE0_eq g).2
  exact forall_u8_lt 32 (fun k => OctetKP _ k) (octetK_fin j) k (UInt8.lt_iff_toNat_lt.mp hk)

/-! `VP8Step.andThen` is `seq`, so the two calculi of VpxCommon apply to the model's chain of steps. -/

theorem andThen_eq (f g : VP8Step) : f.andThen g = seq f g := by
  funext p rest
  unfold VP8Step.andThen seq
  cases f p rest with
  | mk o q => cases o <;> rfl

theorem Exact.andThen {f g : VP8Step} {p p' p'' : VP8Packet} {a b : Bytes}
    (hf : Exact f p a p') (hg : Exact g p' b p'') : Exact (f.andThen g) p (a ++ b) p'' :=
  andThen_eq f g ▸ Exact.seq hf hg

theorem Stable.andThen {f g : VP8Step} (hf : Stable f) (hg : Stable g) : Stable (f.andThen g) :=
  andThen_eq f g ▸ Stable.seq hf hg

theorem stable_X : Stable vp8StepX :=
  Stable.ite (Stable.of_cons (fun _ => rfl) fun _ _ => Stable.const) Stable.const

theorem stable_I : Stable vp8StepI :=
  Stable.ite (Stable.of_cons (fun _ => rfl) fun _ _ =>
    Stable.ite (Stable.of_cons (fun _ => rfl) fun _ _ => Stable.const) Stable.const) Stable.const

theorem stable_L : Stable vp8StepL :=
  Stable.ite (Stable.of_cons (fun _ => rfl) fun _ _ => Stable.const) Stable.const

theorem stable_TK : Stable vp8StepTK :=
  Stable.ite (Stable.of_cons (fun _ => rfl) fun _ _ => Stable.const) Stable.const

/-- what `vp8Unmarshal` runs after the first octet: the same term as in Model/VP8.lean (`unmarshal_cons`
    unfolds `vp8Unmarshal` and closes by `rfl` against it) -/
abbrev steps : VP8Step := vp8StepX.andThen (vp8StepI.andThen (vp8StepL.andThen vp8StepTK))

theorem steps_stable : Stable steps :=
  Stable.andThen stable_X (Stable.andThen stable_I (Stable.andThen stable_L stable_TK))

theorem exact_X (p : VP8Packet) (x i l t k : Bool) (g : UInt8) (hX : p.X = bit x 1)
    (h0 : x = false → i = false ∧ l = false ∧ t = false ∧ k = false) :
    Exact vp8StepX p
      (if x then [bit i 0x80 ||| bit l 0x40 ||| bit t 0x20 ||| bit k 0x10 ||| (g &&& 0x0F)] else [])
      { p with I := bit i 1, L := bit l 1, T := bit t 1, K := bit k 1 } := by
  intro tl
  cases x
  · obtain ⟨rfl, rfl, rfl, rfl⟩ := h0 rfl
    simp [vp8StepX, hX, bit]
  · have hf := octetX_fields i l t k g
    simp [vp8StepX, hX, bit] at hf ⊢
    exact hf

/-- `TidWF`, `KxWF` (with `PicWF` of VpxCommon): the field ranges of `Descriptor.WF` (TID 2 bits, KEYIDX 5 bits)
    as propositions, the fields of `WFP` below -/
def TidWF : Option (UInt8 × Bool) → Prop
  | none => True
  | some (t, _) => t < 4

def KxWF : Option UInt8 → Prop
  | none => True
  | some k => k < 32

theorem exact_I (p : VP8Packet) (pic : Option (Bool × UInt16)) (hI : p.I = bit pic.isSome 1)
    (hwf : PicWF pic) :
    Exact vp8StepI p (encPicId pic)
      { p with PictureID := C11.picVal pic } := by
  intro t
  rcases pic with _ | ⟨_ | _, v⟩
  · simp [C11.picVal, vp8StepI, hI, bit, encPicId]
  · have hp := pic7 v hwf
    simp [C11.picVal, vp8StepI, hI, bit, encPicId, hp.1, hp.2.2.1]
  · have hp := pic15 v hwf
    have h2 := hp.2
    simp at h2
    simp [C11.picVal, vp8StepI, hI, bit, encPicId, hp.1, h2]

theorem exact_L (p : VP8Packet) (tl0 : Option UInt8) (hL : p.L = bit tl0.isSome 1) :
    Exact vp8StepL p (encTl0 tl0) { p with TL0PICIDX := tl0.getD 0 } := by
  intro t
  cases tl0 <;> simp [vp8StepL, hL, bit, encTl0]

theorem exact_TK (p : VP8Packet) (tid : Option (UInt8 × Bool)) (kx : Option UInt8) (g : UInt8)
    (hT : p.T = bit tid.isSome 1) (hK : p.K = bit kx.isSome 1)
    (hwt : TidWF tid) (hwk : KxWF kx) :
    Exact vp8StepTK p (encTK tid kx g)
      { p with TID := C11.tidVal tid,
               Y := C11.yVal tid,
               KEYIDX := kx.getD 0 } := by
  intro tl
  rcases tid with _ | ⟨t, y⟩ <;> rcases kx with _ | k
  · simp [C11.tidVal, C11.yVal, vp8StepTK, hT, hK, bit, encTK]
  · have hf := octetK_fields k g hwk
    simp [C11.tidVal, C11.yVal, vp8StepTK, hT, hK, bit, encTK, hf]
  · have hf := octetT_fields t y (g &&& 0x1F) hwt (Nat.lt_succ_of_le (u8_and_le g 0x1F))
    simp [C11.tidVal, C11.yVal, vp8StepTK, hT, hK, bit, encTK] at hf ⊢
    exact ⟨hf.1, hf.2.1⟩
  · have hf := octetT_fields t y k hwt (UInt8.lt_iff_toNat_lt.mp hwk)
    simp [C11.tidVal, C11.yVal, vp8StepTK, hT, hK, bit, encTK] at hf ⊢
    exact hf

/-- the octets of a descriptor after the first one -/
def descTail (d : Descriptor) : Bytes :=
  (if d.x then [bit d.picId.isSome 0x80 ||| bit d.tl0.isSome 0x40 ||| bit d.tid.isSome 0x20 |||
      bit d.keyidx.isSome 0x10 ||| (d.ignX &&& 0x0F)] else []) ++
  (encPicId d.picId ++ (encTl0 d.tl0 ++ encTK d.tid d.keyidx d.ignTK))

structure WFP (d : Descriptor) : Prop where
  pid : d.pid < 8
  nox : d.x = false → d.picId = none ∧ d.tl0 = none ∧ d.tid = none ∧ d.keyidx = none
  pic : PicWF d.picId
  tid : TidWF d.tid
  kx : KxWF d.keyidx

theorem wfp_of_wf (d : Descriptor) (h : d.WF = true) : WFP d := by
  simp only [Descriptor.WF, Bool.and_eq_true, decide_eq_true_eq, Bool.or_eq_true,
    Option.isNone_iff_eq_none] at h
  obtain ⟨⟨⟨⟨h1, h2⟩, h3⟩, h4⟩, h5⟩ := h
  refine ⟨h1, ?_, ?_, ?_, ?_⟩
  · intro hx
    rcases h2 with h2 | h2
    · rw [hx] at h2; exact absurd h2 (by simp)
    · exact ⟨h2.1.1.1, h2.1.1.2, h2.1.2, h2.2⟩
  · rcases hp : d.picId with _ | ⟨_ | _, v⟩ <;> simp [hp, PicWF] at h3 ⊢ <;> exact h3
  · rcases hp : d.tid with _ | ⟨t, y⟩ <;> simp [hp, TidWF] at h4 ⊢ ; exact h4
  · rcases hp : d.keyidx with _ | k <;> simp [hp, KxWF] at h5 ⊢ ; exact h5

/-- the first octet `X|R|N|S|R|PID` -/
abbrev octet0 (d : Descriptor) : UInt8 :=
  bit d.x 0x80 ||| bit d.n 0x20 ||| bit d.s 0x10 ||| d.pid ||| (d.ign0 &&& 0x48)

theorem encode_eq (d : Descriptor) (w : WFP d) : d.encode = octet0 d :: descTail d := by
  unfold Descriptor.encode descTail octet0
  cases hx : d.x
  · obtain ⟨h1, h2, h3, h4⟩ := w.nox hx
    simp [h1, h2, h3, h4, encPicId, encTl0, encTK]
  · simp

theorem steps_exact (d : Descriptor) (w : WFP d) (p : VP8Packet) (hX : p.X = bit d.x 1) :
    Exact steps p (descTail d)
      { p with I := bit d.picId.isSome 1, L := bit d.tl0.isSome 1, T := bit d.tid.isSome 1,
               K := bit d.keyidx.isSome 1,
               PictureID := C11.picVal d.picId,
               TL0PICIDX := d.tl0.getD 0,
               TID := C11.tidVal d.tid,
               Y := C11.yVal d.tid,
               KEYIDX := d.keyidx.getD 0 } := by
  unfold descTail
  let p1 : VP8Packet := { p with I := bit d.picId.isSome 1, L := bit d.tl0.isSome 1,
                                 T := bit d.tid.isSome 1, K := bit d.keyidx.isSome 1 }
  let p2 : VP8Packet := { p1 with PictureID := C11.picVal d.picId }
  let p3 : VP8Packet := { p2 with TL0PICIDX := d.tl0.getD 0 }
  have hx : Exact vp8StepX p _ p1 := exact_X p d.x _ _ _ _ d.ignX hX (by
    intro hx
    obtain ⟨h1, h2, h3, h4⟩ := w.nox hx
    simp [h1, h2, h3, h4])
  have hi : Exact vp8StepI p1 _ p2 := exact_I p1 d.picId rfl w.pic
  have hl : Exact vp8StepL p2 _ p3 := exact_L p2 d.tl0 rfl
  have ht := exact_TK p3 d.tid d.keyidx d.ignTK rfl rfl w.tid w.kx
  exact Exact.andThen hx (Exact.andThen hi (Exact.andThen hl ht))

/-- the receiver after the first octet `b0` (vp8_packet.go:137-140) -/
def firstOctet (b0 : UInt8) (p : VP8Packet) : VP8Packet :=
  { p with X := (b0 &&& 0x80) >>> 7, N := (b0 &&& 0x20) >>> 5, S := (b0 &&& 0x10) >>> 4, PID := b0 &&& 0x07 }

theorem unmarshal_cons (p : VP8Packet) (b0 : UInt8) (r : Bytes) :
    vp8Unmarshal p (some (b0 :: r)) =
      match steps (firstOctet b0 p) r with
      | (none, p') => (.err .short, p')
      | (some rest, p') => (.ok rest, p') := by
  unfold vp8Unmarshal firstOctet; rfl

/-- the receiver after the first octet of `d` -/
def fieldState (d : Descriptor) (p : VP8Packet) : VP8Packet :=
  { p with X := bit d.x 1, N := bit d.n 1, S := bit d.s 1, PID := d.pid }

theorem firstOctet_desc (d : Descriptor) (hp : d.pid < 8) (p : VP8Packet) :
    firstOctet (octet0 d) p = fieldState d p := by
  have h0 := octet0_fields d.x d.n d.s d.pid d.ign0 hp
  rw [firstOctet, octet0, h0.1, h0.2.1, h0.2.2.1, h0.2.2.2.1, fieldState]

theorem unmarshal_encode (d : Descriptor) (hwf : d.WF = true) (p : VP8Packet) (payload : Bytes) :
    vp8Unmarshal p (some (d.encode ++ payload)) = (.ok payload, C11.expected d) := by
  have w := wfp_of_wf d hwf
  rw [encode_eq d w, List.cons_append, unmarshal_cons, firstOctet_desc d w.pid, steps_exact d w (fieldState d p) rfl payload]
  rfl

theorem unmarshal_truncated (d : Descriptor) (hwf : d.WF = true) (p : VP8Packet) (k : Nat)
    (hk : k < d.encode.length) : (vp8Unmarshal p (some (d.encode.take k))).1 = .err .short := by
  have w := wfp_of_wf d hwf
  rw [encode_eq d w] at hk ⊢
  cases k with
  | zero => rfl   -- the empty packet; from here on the cut lies inside `descTail d`
  | succ k =>
    have hk' : k < (descTail d).length := Nat.lt_of_succ_lt_succ hk
    have hcut := (steps_exact d w (fieldState d p) rfl).cut steps_stable
        (List.take_append_drop k (descTail d)).symm
        (fun h => absurd (List.drop_eq_nil_iff.mp h) (Nat.not_le_of_lt hk'))
    rw [List.take_succ_cons, unmarshal_cons, firstOctet_desc d w.pid]
    generalize steps (fieldState d p) ((descTail d).take k) = res at hcut ⊢
    obtain ⟨r, q⟩ := res
    cases hcut
    rfl

theorem head_encode (d : Descriptor) (hwf : d.WF = true) (payload : Bytes) :
    vp8IsPartitionHead (some (d.encode ++ payload)) = d.s := by
  have w := wfp_of_wf d hwf
  have h0 := octet0_fields d.x d.n d.s d.pid d.ign0 w.pid
  rw [encode_eq d w]
  simp only [List.cons_append, vp8IsPartitionHead]
  exact h0.2.2.2.2

end Rtp.Proofs.VP8
