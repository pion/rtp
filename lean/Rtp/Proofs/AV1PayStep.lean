/-
  Rtp/Proofs/AV1PayStep.lean — the invariant of the loop in AV1Payloader.Payload: what the packets
  built so far denote (the OBUs flushed, with the packets each one occupies) and the layer-id
  bookkeeping (`currentPacketOBUHeader`).
-/
import Rtp.Proofs.AV1PayInv
import Rtp.Proofs.Obu
import Rtp.Proofs.Lib.UInt
namespace Rtp.Model.AV1
open Rtp Rtp.Model Rtp.Spec.Av1Rtp
open Rtp.Model.ObuLemmas

/-- (temporal id, spatial id), the order of the specification's `layerOf` -/
def layerIds (e : ExtHdr) : Nat × Nat := (e.temporalID.toNat, e.spatialID.toNat)

/-- Marshal masks the type to four bits, so the flag bits are as written for every type -/
theorem mkByte0_bits (t : UInt8) (e s r : Bool) :
    ((mkByte0 t e s r).toNat / 4 % 2 == 1) = e ∧ ((mkByte0 t e false r).toNat / 2 % 2 == 0) = true := by
  have hmask : ∀ s, mkByte0 (t &&& 0x0f) e s r = mkByte0 t e s r := fun s => by
    simp only [mkByte0, UInt8.and_assoc, UInt8.and_self]
  have hlt : t &&& 0x0f < 16 := UInt8.lt_iff_toNat_lt.mpr (Nat.lt_succ_of_le (u8_and_le t 0x0f))
  have h1 := (byte0_fields (t &&& 0x0f) hlt e s r).2.2.1
  have h2 := (byte0_fields (t &&& 0x0f) hlt e false r).2.2.2.1
  rw [hmask, (byte0_arith _).2.2.1] at h1
  rw [hmask, (byte0_arith _).2.2.2.1] at h2
  refine ⟨h1, ?_⟩
  have := Nat.mod_lt ((mkByte0 t e false r).toNat / 2) (show 0 < 2 by decide)
  simp only [beq_eq_false_iff_ne, ne_eq] at h2
  simp only [beq_iff_eq]
  omega

theorem ext_marshal_ids (e : ExtHdr) (h : extWF e = true) :
    (e.marshal.toNat / 32, e.marshal.toNat / 8 % 4) = layerIds e := by
  have h1 := ext_parse_marshal e h
  obtain ⟨f1, f2, _⟩ := ext_fields e.marshal
  rw [h1] at f1 f2
  simp [layerIds, f1, f2]

theorem obuBytes_ne (h : ObuHeader) (body : Bytes) : obuBytes h body ≠ [] := by
  unfold obuBytes ObuHeader.marshal
  cases h.ext <;> simp

theorem layerOf_obuBytes (h : ObuHeader) (body : Bytes) (hwf : hdrWF h = true) :
    layerOf (obuBytes h body) = h.ext.map layerIds := by
  obtain ⟨t, e, s, r⟩ := h
  simp only [hdrWF, Bool.and_eq_true] at hwf
  cases e with
  | none =>
    have := (mkByte0_bits t false false r).1
    cases body with
    | nil => simp [obuBytes, ObuHeader.marshal, layerOf]
    | cons b bs =>
      simp only [obuBytes, ObuHeader.marshal, byte0_eq, Option.isSome_none, List.cons_append,
        List.nil_append, layerOf, this, Option.map_none]
      simp
  | some e =>
    have := (mkByte0_bits t true false r).1
    simp only [obuBytes, ObuHeader.marshal, byte0_eq, Option.isSome_some, List.cons_append,
      List.nil_append, layerOf, this, if_true, Option.map_some, ext_marshal_ids e hwf.2]

theorem sizeFlagClear_obuBytes (h : ObuHeader) (body : Bytes) : sizeFlagClear (obuBytes h body) = true := by
  obtain ⟨t, e, s, r⟩ := h
  cases e with
  | none => simp [obuBytes, ObuHeader.marshal, byte0_eq, sizeFlagClear, (mkByte0_bits t false false r).2]
  | some e => simp [obuBytes, ObuHeader.marshal, byte0_eq, sizeFlagClear, (mkByte0_bits t true false r).2]

theorem idsDiffer_false (a b : ExtHdr) (h : idsDiffer a b = false) : layerIds a = layerIds b := by
  simp only [idsDiffer, Bool.or_eq_false_iff, bne_eq_false_iff_eq] at h
  simp [layerIds, h.1, h.2]

/-- the invariant of the loop of Payload.  `us`: the OBUs already in packets, each with the first and
    last packet it occupies; `done`: the bytes of the OBUs accepted so far, the held-back one
    included.  `head` takes `startNew` for the promise: Payload calls appendOBUPayload with
    `isLast = needNewPacket` and then sets `startWithNewPacket` to the same value.  `lay1`: units with
    different layer ids share no packet; `lay2`: if no break is pending, a unit that ends in the
    newest packet has the layer ids of `cur`; `lay3`: so has the held-back OBU. -/
structure PInv (mtu : Nat) (s : PSt) (us : List OUnit) (done : List Bytes) : Prop where
  out : OutInv s.out
  size : ∀ p ∈ s.out, p.size ≤ mtu
  head : HeadSt mtu s.out s.count s.startNew
  join : joinPkt none (elemsRev s.out) = (us, none)
  bytes : us.map (·.bytes) ++ (if s.pending.isEmpty then [] else [s.pending]) = done
  span : ∀ u ∈ us, u.first ≤ u.last ∧ u.last < s.out.length
  lay1 : ∀ u ∈ us, ∀ v ∈ us, ∀ a b, layerOf u.bytes = some a → layerOf v.bytes = some b →
          sharePacket u v = true → a = b
  lay2 : s.startNew = false → ∀ u ∈ us, u.last + 1 = s.out.length → ∀ a, layerOf u.bytes = some a →
          ∃ c, s.cur = some c ∧ layerIds c = a
  lay3 : ∀ a, layerOf s.pending = some a → ∃ c, s.cur = some c ∧ layerIds c = a

theorem PInv_init (mtu : Nat) : PInv mtu {} [] [] := by
  refine ⟨⟨by simp, rfl, rfl⟩, by simp, ?_, rfl, rfl, by simp, by simp, by simp, ?_⟩
  · intro q t h; simp at h
  · intro a h; simp [layerOf] at h

/-- the state after a flush with `isLast` -/
def flushed (mtu : Nat) (s : PSt) (isLast : Bool) : PSt :=
  { s with out := (appendObu s.out s.pending s.newSeq isLast s.startNew mtu s.count).1,
           count := (appendObu s.out s.pending s.newSeq isLast s.startNew mtu s.count).2,
           pending := [], startNew := isLast }

/-- flushing the held-back OBU: one more unit, everything else as before -/
theorem flush_spec (mtu : Nat) (hm : 2 ≤ mtu) (hs : mtu ≤ 65535) (s : PSt) (us : List OUnit)
    (done : List Bytes) (isLast : Bool) (hinv : PInv mtu s us done) (hpend : s.pending ≠ []) :
    ∃ v : OUnit, PInv mtu (flushed mtu s isLast) (us ++ [v]) done := by
  unfold flushed
  obtain ⟨hout, hsize, hhead, k0, pieces, hpne, hflat, helems, hlen, hk1, hk2, hk3⟩ :=
    appendObu_spec s.out s.pending s.newSeq isLast s.startNew mtu s.count s.startNew hm hs hpend
      hinv.out hinv.size hinv.head id
  generalize appendObu s.out s.pending s.newSeq isLast s.startNew mtu s.count = r at *
  have hpl : 1 ≤ pieces.length := List.length_pos_iff.mpr hpne
  -- an older unit that reaches the packet the new one starts in: that packet is the old newest one,
  -- and no break was pending
  have old : ∀ u ∈ us, k0 ≤ u.last → s.startNew = false ∧ u.last + 1 = s.out.length := by
    intro u hu hle
    have hsp := hinv.span u hu
    refine ⟨?_, by omega⟩
    cases hsn : s.startNew with
    | false => rfl
    | true => have := hk3 hsn; omega
  refine ⟨⟨s.pending, k0, k0 + pieces.length - 1⟩, ⟨hout, hsize, hhead, ?_, ?_, ?_, ?_, ?_, ?_⟩⟩
  · show joinPkt none (elemsRev r.1) = _
    rw [helems, joinPkt_append, hinv.join]
    simp only [joinPkt_chain_none k0 pieces hpne, hflat]
  · have hb := hinv.bytes
    have : s.pending.isEmpty = false := List.isEmpty_eq_false_iff.mpr hpend
    simp only [this, Bool.false_eq_true, if_false] at hb
    simp only [List.map_append, List.map_cons, List.map_nil, List.isEmpty_nil, if_true,
      List.append_nil]
    exact hb
  · intro u hu
    show u.first ≤ u.last ∧ u.last < r.1.length
    simp only [List.mem_append, List.mem_singleton] at hu
    rcases hu with hu | rfl
    · have := hinv.span u hu; omega
    · dsimp only; omega
  · intro u hu v hv a b ha hb hsh
    simp only [List.mem_append, List.mem_singleton] at hu hv
    have cross : ∀ u ∈ us, ∀ a b, layerOf u.bytes = some a → layerOf s.pending = some b →
        k0 ≤ u.last → a = b := by
      intro u hu a b ha hb hle
      obtain ⟨hsn, hlast⟩ := old u hu hle
      obtain ⟨c, hc, hca⟩ := hinv.lay2 hsn u hu hlast a ha
      obtain ⟨c', hc', hcb⟩ := hinv.lay3 b hb
      rw [hc] at hc'
      cases hc'
      rw [← hca, ← hcb]
    rcases hu with hu | rfl <;> rcases hv with hv | rfl
    · exact hinv.lay1 u hu v hv a b ha hb hsh
    · simp only [sharePacket, Bool.and_eq_true, decide_eq_true_eq] at hsh
      exact cross u hu a b ha hb hsh.2
    · simp only [sharePacket, Bool.and_eq_true, decide_eq_true_eq] at hsh
      exact (cross v hv b a hb ha hsh.1).symm
    · rw [ha] at hb; exact Option.some.inj hb
  · intro hsn u hu hlast a ha
    show ∃ c, s.cur = some c ∧ layerIds c = a
    simp only [List.mem_append, List.mem_singleton] at hu
    rcases hu with hu | rfl
    · have hl : u.last + 1 = r.1.length := hlast
      obtain ⟨hsn', hlast'⟩ := old u hu (by have := hinv.span u hu; omega)
      exact hinv.lay2 hsn' u hu hlast' a ha
    · exact hinv.lay3 a ha
  · intro a ha
    simp [layerOf] at ha

theorem layerIds_eq_of_needNew_false (cur : Option ExtHdr) (h : ObuHeader) (hn : needNew cur h = false)
    (e c : ExtHdr) (he : h.ext = some e) (hc : cur = some c) : layerIds e = layerIds c := by
  unfold needNew at hn
  split at hn
  · cases hn
  · rw [he, hc] at hn
    exact idsDiffer_false e c hn

/-- first half of one iteration: the flush of the held-back OBU (or the remembered break) -/
def stepFlush (mtu : Nat) (s : PSt) (h : ObuHeader) : PSt :=
  let need := needNew s.cur h
  if s.pending.isEmpty then
    if need then { s with startNew := true, cur := none } else s
  else
    let r := appendObu s.out s.pending s.newSeq need s.startNew mtu s.count
    let s := { s with out := r.1, count := r.2, pending := [], startNew := need }
    if need then { s with newSeq := false, cur := none } else s

/-- second half: remember the layer ids, hold the OBU back unless it is dropped -/
def stepRest (s : PSt) (hb : ObuHeader × Bytes) : PSt :=
  let h := hb.1
  let s : PSt := match h.ext with | some e => { s with cur := some e } | none => s
  if dropped h then s
  else { s with pending := obuBytes h hb.2, newSeq := h.type == obuSequenceHeader }

theorem step_eq (mtu : Nat) (s : PSt) (hb : ObuHeader × Bytes) :
    step mtu s hb = stepRest (stepFlush mtu s hb.1) hb := rfl

/-- third part: if no break is remembered afterwards, `needNew` was false and `cur` is untouched
    (what `lay2` needs in the second half) -/
theorem stepFlush_spec (mtu : Nat) (hm : 2 ≤ mtu) (hs : mtu ≤ 65535) (s : PSt) (us : List OUnit)
    (done : List Bytes) (h : ObuHeader) (hinv : PInv mtu s us done) :
    ∃ us1, PInv mtu (stepFlush mtu s h) us1 done ∧ (stepFlush mtu s h).pending = [] ∧
      ((stepFlush mtu s h).startNew = false → needNew s.cur h = false ∧ (stepFlush mtu s h).cur = s.cur) := by
  unfold stepFlush
  dsimp only
  by_cases hp : s.pending.isEmpty = true
  · have hpe : s.pending = [] := List.isEmpty_iff.mp hp
    simp only [hp, if_true]
    by_cases hn : needNew s.cur h = true
    · simp only [hn, if_true]
      refine ⟨us, ⟨hinv.out, hinv.size, ?_, hinv.join, hinv.bytes, hinv.span, hinv.lay1, ?_, ?_⟩, hpe, ?_⟩
      · intro q t hqt; exact Or.inr (Or.inr rfl)
      · intro h; cases h
      · intro a ha
        have : layerOf s.pending = some a := ha
        rw [hpe] at this; simp [layerOf] at this
      · intro h; cases h
    · have hn' : needNew s.cur h = false := by simpa using hn
      simp only [hn', Bool.false_eq_true, if_false]
      exact ⟨us, hinv, hpe, fun _ => by simp⟩
  · have hpf : s.pending.isEmpty = false := by simpa using hp
    have hpne : s.pending ≠ [] := by intro h; rw [h] at hpf; simp at hpf
    obtain ⟨v, hv⟩ := flush_spec mtu hm hs s us done (needNew s.cur h) hinv hpne
    rw [if_neg hp]
    by_cases hn : needNew s.cur h = true
    · rw [if_pos hn]
      refine ⟨us ++ [v], ⟨hv.out, hv.size, hv.head, hv.join, hv.bytes, hv.span, hv.lay1, ?_, ?_⟩, rfl, ?_⟩
      · intro h'; exact absurd (show needNew s.cur h = false from h') (by simp [hn])
      · intro a ha; simp [layerOf] at ha
      · intro h'; exact absurd (show needNew s.cur h = false from h') (by simp [hn])
    · rw [if_neg hn]
      have hn' : needNew s.cur h = false := by simpa using hn
      exact ⟨us ++ [v], hv, rfl, fun _ => ⟨hn', rfl⟩⟩

theorem stepRest_spec (mtu : Nat) (s0 s1 : PSt) (us1 : List OUnit) (done : List Bytes)
    (hb : ObuHeader × Bytes) (hwf : hdrWF hb.1 = true) (h1 : PInv mtu s1 us1 done) (hp1 : s1.pending = [])
    (hcur : s1.startNew = false → needNew s0.cur hb.1 = false ∧ s1.cur = s0.cur) :
    PInv mtu (stepRest s1 hb) us1 (done ++ (if dropped hb.1 then [] else [obuBytes hb.1 hb.2])) := by
  have stage2 : PInv mtu (match hb.1.ext with | some e => { s1 with cur := some e } | none => s1) us1 done := by
    cases he : hb.1.ext with
    | none => exact h1
    | some e =>
      refine ⟨h1.out, h1.size, h1.head, h1.join, h1.bytes, h1.span, h1.lay1, ?_, ?_⟩
      · intro hsn u hu hlast a ha
        obtain ⟨c, hc, hca⟩ := h1.lay2 hsn u hu hlast a ha
        obtain ⟨hn, hc1⟩ := hcur hsn
        refine ⟨e, rfl, ?_⟩
        rw [← hca]
        exact layerIds_eq_of_needNew_false s0.cur hb.1 hn e c he (by rw [← hc1]; exact hc)
      · intro a ha
        have : layerOf s1.pending = some a := ha
        rw [hp1] at this; simp [layerOf] at this
  have hp2 : (match hb.1.ext with | some e => { s1 with cur := some e } | none => s1).pending = [] := by
    cases hb.1.ext <;> exact hp1
  have hcur2 : ∀ e, hb.1.ext = some e →
      (match hb.1.ext with | some e => { s1 with cur := some e } | none => s1).cur = some e := by
    intro e he; rw [he]
  unfold stepRest
  dsimp only
  generalize (match hb.1.ext with | some e => ({ s1 with cur := some e } : PSt) | none => s1) = s2 at *
  by_cases hd : dropped hb.1 = true
  · simp only [hd, if_true, List.append_nil]
    exact stage2
  · have hd' : dropped hb.1 = false := by simpa using hd
    simp only [hd', Bool.false_eq_true, if_false]
    refine ⟨stage2.out, stage2.size, stage2.head, stage2.join, ?_, stage2.span, stage2.lay1,
      stage2.lay2, ?_⟩
    · have hbts := stage2.bytes
      simp only [hp2, List.isEmpty_nil, if_true, List.append_nil] at hbts
      have hne : (obuBytes hb.1 hb.2).isEmpty = false := List.isEmpty_eq_false_iff.mpr (obuBytes_ne _ _)
      simp only [hne, Bool.false_eq_true, if_false, hbts]
    · intro a ha
      show ∃ c, s2.cur = some c ∧ layerIds c = a
      have hl : layerOf (obuBytes hb.1 hb.2) = some a := ha
      rw [layerOf_obuBytes hb.1 hb.2 hwf] at hl
      cases he : hb.1.ext with
      | none => rw [he] at hl; simp at hl
      | some e =>
        rw [he] at hl
        simp only [Option.map_some, Option.some.injEq] at hl
        exact ⟨e, hcur2 e he, hl⟩

theorem step_spec (mtu : Nat) (hm : 2 ≤ mtu) (hs : mtu ≤ 65535) (s : PSt) (us : List OUnit)
    (done : List Bytes) (hb : ObuHeader × Bytes) (hwf : hdrWF hb.1 = true) (hinv : PInv mtu s us done) :
    ∃ us', PInv mtu (step mtu s hb) us' (done ++ (if dropped hb.1 then [] else [obuBytes hb.1 hb.2])) := by
  obtain ⟨us1, h1, hp1, hcur⟩ := stepFlush_spec mtu hm hs s us done hb.1 hinv
  rw [step_eq]
  exact ⟨us1, stepRest_spec mtu s _ us1 done hb hwf h1 hp1 hcur⟩

end Rtp.Model.AV1
