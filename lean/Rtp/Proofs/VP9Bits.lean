/-
  Rtp/Proofs/VP9Bits.lean — the bit reader of codecs/vp9/bits.go against the bit-string semantics of
  Spec/Vp9Bits.lean (`c12_bits`, `c12_flag` in Props/C12.lean): the unchecked readers inside the buffer,
  the checked ones everywhere.
-/
import Rtp.Model.VP9Header
import Rtp.Spec.Vp9Bits
namespace Rtp.Proofs.VP9Bits
open Rtp Rtp.Model Rtp.Spec.Vp9Bits

/-- the fold with a start value, to get `natOfBits_cons` by induction -/
theorem natOfBits_foldl (bs : List Bool) (a : Nat) :
    bs.foldl (fun a b => 2 * a + b.toNat) a = a * 2 ^ bs.length + natOfBits bs := by
  induction bs generalizing a with
  | nil => simp [natOfBits]
  | cons b bs ih =>
    simp only [List.foldl_cons, List.length_cons, natOfBits, ih (2 * a + b.toNat), ih (2 * 0 + b.toNat)]
    rw [Nat.pow_succ]
    simp only [Nat.mul_zero, Nat.zero_add]
    generalize 2 ^ bs.length = k
    have : (2 * a + b.toNat) * k = a * (k * 2) + b.toNat * k := by
      rw [Nat.add_mul, Nat.mul_comm 2 a, Nat.mul_assoc, Nat.mul_comm 2 k]
    omega

theorem natOfBits_cons (b : Bool) (bs : List Bool) :
    natOfBits (b :: bs) = b.toNat * 2 ^ bs.length + natOfBits bs := by
  have := natOfBits_foldl bs (2 * 0 + b.toNat)
  simpa [natOfBits] using this

theorem natOfBits_append (xs ys : List Bool) :
    natOfBits (xs ++ ys) = natOfBits xs * 2 ^ ys.length + natOfBits ys := by
  induction xs with
  | nil => simp [natOfBits]
  | cons b xs ih =>
    simp only [List.cons_append, natOfBits_cons, ih, List.length_append, Nat.pow_add]
    rw [Nat.add_mul, Nat.mul_assoc, Nat.add_assoc]

theorem natOfBits_lt (bs : List Bool) : natOfBits bs < 2 ^ bs.length := by
  induction bs with
  | nil => simp [natOfBits]
  | cons b bs ih =>
    rw [natOfBits_cons, List.length_cons, Nat.pow_succ]
    cases b <;> simp <;> omega

theorem bitsOfNat_length (n v : Nat) : (bitsOfNat n v).length = n := by
  induction n with
  | zero => rfl
  | succ n ih => simp [bitsOfNat, ih]

/-- `natOfBits (bitsOfNat n v) = v mod 2^n` -/
theorem natOfBits_bitsOfNat (n v : Nat) : natOfBits (bitsOfNat n v) = v % 2 ^ n := by
  induction n with
  | zero => simp [bitsOfNat, natOfBits, Nat.mod_one]
  | succ n ih =>
    rw [bitsOfNat, natOfBits_cons, bitsOfNat_length, ih]
    have h2 : (v / 2 ^ n % 2 == 1).toNat = v / 2 ^ n % 2 := by
      rcases Nat.mod_two_eq_zero_or_one (v / 2 ^ n) with h | h <;> simp [h]
    rw [h2, Nat.pow_succ, Nat.mod_mul, Nat.add_comm, Nat.mul_comm]

theorem drop_bitsOfNat (m v : Nat) : ∀ r, r ≤ m → (bitsOfNat m v).drop r = bitsOfNat (m - r) v := by
  induction m with
  | zero => intro r hr; have : r = 0 := by omega
            subst this; rfl
  | succ m ih =>
    intro r hr
    cases r with
    | zero => rfl
    | succ r =>
      rw [bitsOfNat, List.drop_succ_cons, ih r (by omega)]
      congr 1; omega

theorem take_bitsOfNat (m v : Nat) : ∀ n, n ≤ m → (bitsOfNat m v).take n = bitsOfNat n (v / 2 ^ (m - n)) := by
  induction m with
  | zero => intro n hn; have : n = 0 := by omega
            subst this; rfl
  | succ m ih =>
    intro n hn
    cases n with
    | zero => rfl
    | succ n =>
      rw [bitsOfNat, List.take_succ_cons, ih n (by omega), bitsOfNat]
      have e : m + 1 - (n + 1) = m - n := by omega
      rw [e, Nat.div_div_eq_div_mul, ← Nat.pow_add]
      have e2 : m - n + n = m := by omega
      rw [e2]

/-- bits `r … r+n-1` of an `m`-bit number -/
theorem slice_bitsOfNat (m v r n : Nat) (h : r + n ≤ m) :
    natOfBits (((bitsOfNat m v).drop r).take n) = v / 2 ^ (m - r - n) % 2 ^ n := by
  rw [drop_bitsOfNat m v r (by omega), take_bitsOfNat (m - r) v n (by omega), natOfBits_bitsOfNat]

theorem byteBits_length (b : UInt8) : (byteBits b).length = 8 := bitsOfNat_length 8 _

theorem bitsOf_length (buf : Bytes) : (bitsOf buf).length = 8 * buf.length := by
  induction buf with
  | nil => rfl
  | cons b r ih => simp only [bitsOf, List.length_append, byteBits_length, ih, List.length_cons]; omega

theorem drop_bitsOf (buf : Bytes) : ∀ q, (bitsOf buf).drop (8 * q) = bitsOf (buf.drop q) := by
  induction buf with
  | nil => intro q; simp [bitsOf]
  | cons b r ih =>
    intro q
    cases q with
    | zero => rfl
    | succ q =>
      have e : 8 * (q + 1) = 8 + 8 * q := by omega
      have h8 : (byteBits b ++ bitsOf r).drop 8 = bitsOf r := by
        have := @List.drop_left _ (byteBits b) (bitsOf r)
        rwa [byteBits_length] at this
      rw [bitsOf, e, ← List.drop_drop, h8, List.drop_succ_cons]
      exact ih q

/-- the value of `n` bits at bit offset `pos` -/
def bitsVal (buf : Bytes) (pos n : Nat) : Nat := natOfBits (((bitsOf buf).drop pos).take n)

/-- bits at `pos`, expressed from the byte they start in -/
theorem drop_pos (buf : Bytes) (pos : Nat) :
    (bitsOf buf).drop pos = (bitsOf (buf.drop (pos / 8))).drop (pos % 8) := by
  have : pos = 8 * (pos / 8) + pos % 8 := by omega
  rw [← drop_bitsOf, List.drop_drop]
  congr 1

/-- a read that stays inside one byte -/
theorem bitsVal_in_byte (buf : Bytes) (pos n : Nat) (b : UInt8) (hb : buf[pos / 8]? = some b)
    (h : pos % 8 + n ≤ 8) : bitsVal buf pos n = b.toNat / 2 ^ (8 - pos % 8 - n) % 2 ^ n := by
  unfold bitsVal
  rw [drop_pos]
  have hd : buf.drop (pos / 8) = b :: buf.drop (pos / 8 + 1) := by
    rw [List.getElem?_eq_some_iff] at hb
    obtain ⟨hlt, hbe⟩ := hb
    rw [← hbe]; exact List.drop_eq_getElem_cons hlt
  rw [hd, bitsOf, List.drop_append, List.take_append]
  have hl : ((byteBits b).drop (pos % 8)).length = 8 - pos % 8 := by
    rw [List.length_drop, byteBits_length]
  rw [hl]
  have h0 : n - (8 - pos % 8) = 0 := by omega
  rw [h0, List.take_zero, List.append_nil]
  exact slice_bitsOfNat 8 b.toNat (pos % 8) n h

theorem bitsVal_split (buf : Bytes) (pos a b : Nat) (h : pos + a + b ≤ 8 * buf.length) :
    bitsVal buf pos (a + b) = bitsVal buf pos a * 2 ^ b + bitsVal buf (pos + a) b := by
  unfold bitsVal
  rw [List.take_add, natOfBits_append, List.drop_drop]
  congr 2
  rw [List.length_take, List.length_drop, bitsOf_length, Nat.min_eq_left (by omega)]

theorem bitsVal_three (buf : Bytes) (pos r q t : Nat) (h : pos + r + 8 * q + t ≤ 8 * buf.length) :
    bitsVal buf pos (r + 8 * q + t) =
      (bitsVal buf pos r * 2 ^ (8 * q) + bitsVal buf (pos + r) (8 * q)) * 2 ^ t + bitsVal buf (pos + r + 8 * q) t := by
  rw [bitsVal_split buf pos (r + 8 * q) t (by omega), bitsVal_split buf pos r (8 * q) (by omega), Nat.add_assoc pos]

/-- a read that ends at a byte boundary: the low bits of the byte -/
theorem bitsVal_low (buf : Bytes) (pos r : Nat) (b : UInt8) (hb : buf[pos / 8]? = some b)
    (h : pos % 8 + r = 8) : bitsVal buf pos r = b.toNat % 2 ^ r := by
  rw [bitsVal_in_byte buf pos r b hb (Nat.le_of_eq h), (by omega : 8 - pos % 8 - r = 0), Nat.pow_zero, Nat.div_one]

/-- a read that starts at a byte boundary: the high bits of the byte -/
theorem bitsVal_high (buf : Bytes) (pos t : Nat) (b : UInt8) (hb : buf[pos / 8]? = some b)
    (hp : pos % 8 = 0) (ht : t ≤ 8) : bitsVal buf pos t = b.toNat / 2 ^ (8 - t) := by
  rw [bitsVal_in_byte buf pos t b hb (by omega), hp, Nat.sub_zero]
  apply Nat.mod_eq_of_lt
  rw [Nat.div_lt_iff_lt_mul (Nat.two_pow_pos _), ← Nat.pow_add, Nat.add_sub_cancel' ht]
  exact b.toNat_lt

theorem bitsVal_lt (buf : Bytes) (pos n : Nat) : bitsVal buf pos n < 2 ^ n := by
  unfold bitsVal
  have := natOfBits_lt (((bitsOf buf).drop pos).take n)
  have hl : (((bitsOf buf).drop pos).take n).length ≤ n := List.length_take_le _ _
  exact Nat.lt_of_lt_of_le this (Nat.pow_le_pow_right (by decide) hl)

theorem bitsVal_zero (buf : Bytes) (pos : Nat) : bitsVal buf pos 0 = 0 := by
  simp [bitsVal, natOfBits]

theorem byteAt_ok (buf : Bytes) (i : Nat) (h : i < buf.length) :
    vp9ByteAt buf i = .ok buf[i] ∧ buf[i]? = some buf[i] := by
  simp [vp9ByteAt, List.getElem?_eq_getElem h]

theorem readFlagUnsafe_eq (buf : Bytes) (pos : Nat) (h : pos < 8 * buf.length) :
    vp9ReadFlagUnsafe buf pos = .ok (bitsVal buf pos 1 == 1, pos + 1) := by
  have hi : pos / 8 < buf.length := Nat.div_lt_of_lt_mul h
  obtain ⟨h1, h2⟩ := byteAt_ok buf (pos / 8) hi
  have hv := bitsVal_in_byte buf pos 1 _ h2 (Nat.succ_le_of_lt (Nat.mod_lt pos (by decide)))
  have e : 8 - pos % 8 - 1 = 7 - pos % 8 := Nat.sub_right_comm 8 _ 1
  simp only [vp9ReadFlagUnsafe, h1, Res.bind_ok, Res.pure_eq, hv, e, Nat.pow_one]

/-- the `for n >= 8` loop, entered at a byte boundary with `8q + t` bits to go: `q` rounds (so fuel `q` suffices;
    the model gives `n / 8 + 1`), each shifting one whole byte into the accumulator -/
theorem loop_eq (buf : Bytes) : ∀ (fuel bits pos q t : Nat), pos % 8 = 0 → t < 8 →
    pos + 8 * q + t ≤ 8 * buf.length → q ≤ fuel →
    vp9ReadBytesLoop buf fuel bits pos (8 * q + t) =
      .ok (bits * 2 ^ (8 * q) + bitsVal buf pos (8 * q), pos + 8 * q, t) := by
  intro fuel
  induction fuel with
  | zero =>
    intro bits pos q t _ _ _ hf
    have : q = 0 := Nat.le_zero.mp hf
    subst this
    simp only [vp9ReadBytesLoop, Nat.mul_zero, Nat.zero_add, Nat.pow_zero, Nat.mul_one, bitsVal_zero, Nat.add_zero]
  | succ f ih =>
    intro bits pos q t hp ht hl hf
    cases q with
    | zero =>
      simp only [vp9ReadBytesLoop, Nat.mul_zero, Nat.zero_add, Nat.not_le_of_lt ht, if_false, Nat.pow_zero,
        Nat.mul_one, bitsVal_zero, Nat.add_zero]
    | succ q =>
      have e : 8 * (q + 1) + t = 8 + (8 * q + t) := by rw [Nat.mul_succ, Nat.add_comm (8 * q) 8, Nat.add_assoc]
      have h8 : 8 ≤ 8 * (q + 1) + t := e ▸ Nat.le_add_right 8 _
      have hsub : 8 * (q + 1) + t - 8 = 8 * q + t := by rw [e, Nat.add_sub_cancel_left]
      have hl' : pos + 8 + 8 * q + t ≤ 8 * buf.length := by
        rw [Nat.add_assoc, e] at hl; simpa only [Nat.add_assoc] using hl
      have hi : pos / 8 < buf.length :=
        Nat.div_lt_of_lt_mul (Nat.lt_of_lt_of_le (Nat.lt_add_of_pos_right (by decide : 0 < 8))
          (Nat.le_trans (Nat.le_add_right _ _) (Nat.le_trans (Nat.le_add_right _ _) hl')))
      obtain ⟨h1, h2⟩ := byteAt_ok buf (pos / 8) hi
      have hb := bitsVal_high buf pos 8 _ h2 hp (Nat.le_refl 8)
      rw [Nat.sub_self, Nat.pow_zero, Nat.div_one] at hb
      have ih' := ih (bits * 256 + buf[pos / 8].toNat) (pos + 8) q t ((Nat.add_mod_right pos 8).trans hp) ht
        hl' (Nat.le_of_succ_le_succ hf)
      simp only [vp9ReadBytesLoop, h8, if_true, h1, Res.bind_ok, hsub, ih']
      rw [Nat.mul_add 8 q 1, Nat.mul_one, Nat.add_comm (8 * q) 8, bitsVal_split buf pos 8 (8 * q) (Nat.le_trans (Nat.le_add_right _ _) hl'), hb,
        Nat.pow_add, Nat.add_mul, Nat.mul_assoc, Nat.add_assoc, Nat.add_assoc]

/-- readBitsUnsafe returns the `n` bits at bit offset `pos`, most significant first.  `n ≤ 64`: the result is a
    `uint64` (the model reduces mod 2^64); `0 < n`: with `n = 0` at the end of the buffer the first byte read
    is out of range, in the model as in bits.go. -/
theorem readBitsUnsafe_eq (buf : Bytes) (pos n : Nat) (hn : 0 < n) (h64 : n ≤ 64)
    (h : pos + n ≤ 8 * buf.length) :
    vp9ReadBitsUnsafe buf pos n = .ok (bitsVal buf pos n, pos + n) := by
  have hi : pos / 8 < buf.length := Nat.div_lt_of_lt_mul (by omega)
  obtain ⟨h1, h2⟩ := byteAt_ok buf (pos / 8) hi
  have hlt64 : bitsVal buf pos n < 2 ^ 64 :=
    Nat.lt_of_lt_of_le (bitsVal_lt buf pos n) (Nat.pow_le_pow_right (by decide) h64)
  unfold vp9ReadBitsUnsafe
  simp only [h1, Res.bind_ok]
  have hpr : pos % 8 + (8 - pos % 8) = 8 := Nat.add_sub_cancel' (Nat.le_of_lt (Nat.mod_lt pos (by decide)))
  generalize hr : 8 - pos % 8 = r at hpr
  have hal : (pos + r) % 8 = 0 := by rw [← Nat.mod_add_mod, hpr]
  by_cases hlt : n < r
  · rw [if_pos hlt, bitsVal_in_byte buf pos n _ h2
      (Nat.le_trans (Nat.add_le_add_left (Nat.le_of_lt hlt) _) (Nat.le_of_eq hpr)), hr]; rfl
  · rw [if_neg hlt]
    -- from here on `n = r + 8q + t`: the rest of the first byte, `q` whole bytes, `t < 8` bits of the next
    obtain ⟨q, t, rfl, ht⟩ : ∃ q t, n = r + 8 * q + t ∧ t < 8 :=
      ⟨(n - r) / 8, (n - r) % 8,
        by rw [Nat.add_assoc, Nat.div_add_mod, Nat.add_sub_cancel' (Nat.le_of_not_lt hlt)],
        Nat.mod_lt _ (by decide)⟩
    have hlow := bitsVal_low buf pos r _ h2 hpr
    have hb : pos + r + 8 * q + t ≤ 8 * buf.length := by simpa only [Nat.add_assoc] using h
    have hthree := bitsVal_three buf pos r q t hb
    have hal' : (pos + r + 8 * q) % 8 = 0 := (Nat.add_mul_mod_self_left _ 8 q).trans hal
    rw [Nat.add_assoc r, Nat.add_sub_cancel_left,
      loop_eq buf _ _ (pos + r) q t hal ht hb
        (Nat.le_succ_of_le ((Nat.le_div_iff_mul_le (by decide)).mpr
          (Nat.le_trans (Nat.le_of_eq (Nat.mul_comm q 8)) (Nat.le_trans (Nat.le_add_right _ t) (Nat.le_add_left _ r))))),
      ← hlow]
    simp only [Res.bind_ok]
    by_cases ht0 : 0 < t
    · have hi2 : (pos + r + 8 * q) / 8 < buf.length :=
        Nat.div_lt_of_lt_mul (Nat.lt_of_lt_of_le (Nat.lt_add_of_pos_right ht0) hb)
      obtain ⟨h3, h4⟩ := byteAt_ok buf _ hi2
      have hhigh := bitsVal_high buf (pos + r + 8 * q) t _ h4 hal' (Nat.le_of_lt ht)
      rw [if_pos ht0, h3]
      simp only [Res.bind_ok, Res.pure_eq]
      rw [← hhigh, ← Nat.add_assoc r, ← hthree, Nat.mod_eq_of_lt hlt64, Nat.add_assoc pos r, Nat.add_assoc pos]
    · have ht' : t = 0 := Nat.eq_zero_of_not_pos ht0
      subst ht'
      simp only [bitsVal_zero, Nat.pow_zero, Nat.mul_one, Nat.add_zero] at hthree hlt64 ⊢
      rw [if_neg ht0, ← hthree, Nat.mod_eq_of_lt hlt64, Nat.add_assoc pos r]; rfl

theorem space_iff (buf : Bytes) (pos n : Nat) : vp9HasSpace buf pos n = true ↔ pos + n ≤ 8 * buf.length := by
  rw [vp9HasSpace, decide_eq_true_eq, Nat.mul_comm]

theorem readFlag_eq (buf : Bytes) (pos : Nat) :
    vp9ReadFlag buf pos =
      if pos + 1 ≤ 8 * buf.length then .ok (bitsVal buf pos 1 == 1, pos + 1) else .err .other := by
  unfold vp9ReadFlag
  by_cases h : pos + 1 ≤ 8 * buf.length
  · rw [if_pos h, if_pos ((space_iff buf pos 1).mpr h), readFlagUnsafe_eq buf pos h]
  · rw [if_neg h, if_neg (mt (space_iff buf pos 1).mp h)]

theorem readBits_eq (buf : Bytes) (pos n : Nat) (hn : 0 < n) (h64 : n ≤ 64) :
    vp9ReadBits buf pos n =
      if pos + n ≤ 8 * buf.length then .ok (bitsVal buf pos n, pos + n) else .err .other := by
  unfold vp9ReadBits
  by_cases h : pos + n ≤ 8 * buf.length
  · rw [if_pos h, if_pos ((space_iff buf pos n).mpr h), readBitsUnsafe_eq buf pos n hn h64 h]
  · rw [if_neg h, if_neg (mt (space_iff buf pos n).mp h)]

end Rtp.Proofs.VP9Bits
