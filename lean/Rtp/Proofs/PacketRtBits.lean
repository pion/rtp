/-
  Rtp/Proofs/PacketRtBits.lean — the bit fields of the first two header bytes and of the one-byte
  element header, in one normal form: a byte is written `n.toUInt8` with `n` an arithmetic expression in
  the fields, and each accessor of `Header.Unmarshal` is `/` and `%` on `toNat`.  With that, every
  "field reads back" fact is linear arithmetic; the three packers of `MarshalTo` (`byte0`, `byte1` below,
  the model's `oneByteHdr`) are brought into the normal form by one table each (≤ 256 rows, kernel
  evaluation); `fixedBytes_eq` ties `byte0`/`byte1` to the model.
-/
import Rtp.Model.Packet
import Rtp.Proofs.Lib.BitField
import Rtp.Proofs.Lib.BigEndian
import Rtp.Proofs.Lib.Arith
namespace Rtp

theorem u8_shr6_and3 (b : UInt8) : ((b >>> 6) &&& 0x3).toNat = b.toNat / 64 % 4 := u8_shr_and b 6 3 6 2 rfl rfl
theorem u8_and15 (b : UInt8) : (b &&& 0x0F).toNat = b.toNat % 16 := u8_and_mask b 15 4 rfl
theorem u8_and127 (b : UInt8) : (b &&& 0x7F).toNat = b.toNat % 128 := u8_and_mask b 127 7 rfl
theorem u8_shr4 (b : UInt8) : (b >>> 4).toNat = b.toNat / 16 := u8_shr b 4 4 rfl

/-- the digits of `v·64 + p·32 + x·16 + c` in the mixed radix (·, 2, 2, 16), peeled off from the right -/
theorem digits_2_2_16 (v p x c : Nat) (hp : p < 2) (hx : x < 2) (hc : c < 16) :
    (v * 64 + p * 32 + x * 16 + c) / 64 = v ∧ (v * 64 + p * 32 + x * 16 + c) / 32 % 2 = p ∧
    (v * 64 + p * 32 + x * 16 + c) / 16 % 2 = x ∧ (v * 64 + p * 32 + x * 16 + c) % 16 = c := by
  have e : v * 64 + p * 32 + x * 16 + c = ((v * 2 + p) * 2 + x) * 16 + c := by
    simp only [Nat.add_mul, Nat.mul_assoc]
  obtain ⟨d1, r1⟩ := div_mod_of_eq e hc
  obtain ⟨d2, r2⟩ := div_mod_of_eq d1 hx
  obtain ⟨d3, r3⟩ := div_mod_of_eq d2 hp
  rw [Nat.div_div_eq_div_mul] at d2 r3 d3
  rw [Nat.div_div_eq_div_mul] at d3
  exact ⟨d3, r3, r2, r1⟩

theorem packed_2_2_16_lt {v p x c : Nat} (hv : v < 4) (hp : p < 2) (hx : x < 2) (hc : c < 16) :
    v * 64 + p * 32 + x * 16 + c < 256 := by omega

theorem packed_128_lt {m t : Nat} (hm : m < 2) (ht : t < 128) : m * 128 + t < 256 := by omega

end Rtp

namespace Rtp.Proofs.PacketRt
open Rtp Rtp.Model

/-- `65535 * 4`: the extension header counts 32-bit words in 16 bits (RFC 3550 §5.3.1; last clause of `wfH`) -/
theorem wordCount_roundtrip (n : Nat) (h4 : n % 4 = 0) (hle : n ≤ 65535 * 4) :
    (n / 4).toUInt16.toNat * 4 = n := by
  rw [toNat_toUInt16_of_lt (by omega)]; omega

def byte0 (v : UInt8) (cc : Nat) (p x : Bool) : UInt8 :=
  let b0 : UInt8 := (v <<< 6) ||| cc.toUInt8
  let b0 := if p then b0 ||| ((1 : UInt8) <<< 5) else b0
  if x then b0 ||| ((1 : UInt8) <<< 4) else b0

theorem byte0_table : ∀ (v : Fin 4) (c : Fin 16) (p x : Bool),
    byte0 (UInt8.ofNat v.val) c.val p x = (v.val * 64 + p.toNat * 32 + x.toNat * 16 + c.val).toUInt8 := by
  decide +kernel

theorem byte0_eq (v : UInt8) (cc : Nat) (p x : Bool) (hv : v.toNat < 4) (hc : cc ≤ 15) :
    byte0 v cc p x = (v.toNat * 64 + p.toNat * 32 + x.toNat * 16 + cc).toUInt8 := by
  simpa using byte0_table ⟨v.toNat, hv⟩ ⟨cc, by omega⟩ p x

theorem byte0_decode (v cc : Nat) (p x : Bool) (hv : v < 4) (hc : cc ≤ 15) :
    let b := (v * 64 + p.toNat * 32 + x.toNat * 16 + cc).toUInt8
    ((b >>> 6) &&& 0x3) = v.toUInt8 ∧ decide (((b >>> 5) &&& 0x1) > 0) = p ∧
    decide (((b >>> 4) &&& 0x1) > 0) = x ∧ (b &&& 0x0F).toNat = cc := by
  have hp := Nat.lt_succ_of_le p.toNat_le
  have hx := Nat.lt_succ_of_le x.toNat_le
  intro b
  have hb : b.toNat = v * 64 + p.toNat * 32 + x.toNat * 16 + cc :=
    toNat_toUInt8_of_lt (packed_2_2_16_lt hv hp hx (Nat.lt_succ_of_le hc))
  obtain ⟨d64, d32, d16, m16⟩ := digits_2_2_16 v p.toNat x.toNat cc hp hx (Nat.lt_succ_of_le hc)
  refine ⟨?_, u8_flag_eq b 5 5 rfl p (hb ▸ d32), u8_flag_eq b 4 4 rfl x (hb ▸ d16), ?_⟩
  · rw [eq_toUInt8_iff, u8_shr6_and3, hb, d64, Nat.mod_eq_of_lt hv, Nat.mod_eq_of_lt (Nat.lt_trans hv (by decide))]
  · rw [u8_and15, hb, m16]

def byte1 (pt : UInt8) (m : Bool) : UInt8 := if m then pt ||| ((1 : UInt8) <<< 7) else pt

theorem byte1_table : ∀ (pt : Fin 128) (m : Bool),
    byte1 (UInt8.ofNat pt.val) m = (m.toNat * 128 + pt.val).toUInt8 := by
  decide +kernel

theorem byte1_eq (pt : UInt8) (m : Bool) (hpt : pt.toNat < 128) :
    byte1 pt m = (m.toNat * 128 + pt.toNat).toUInt8 := by
  simpa using byte1_table ⟨pt.toNat, hpt⟩ m

theorem byte1_decode (pt : Nat) (m : Bool) (hpt : pt < 128) :
    let b := (m.toNat * 128 + pt).toUInt8
    decide (((b >>> 7) &&& 0x1) > 0) = m ∧ (b &&& 0x7F) = pt.toUInt8 := by
  have hm := m.toNat_le
  intro b
  have hb : b.toNat = m.toNat * 128 + pt := toNat_toUInt8_of_lt (packed_128_lt (Nat.lt_succ_of_le hm) hpt)
  obtain ⟨d, r⟩ := div_mod_of_eq (m := 128) hb hpt
  refine ⟨u8_flag_eq b 7 7 rfl m ?_, ?_⟩
  · exact d ▸ Nat.mod_eq_of_lt (by omega)
  · rw [eq_toUInt8_iff, u8_and127, r, Nat.mod_eq_of_lt (by omega)]

theorem oneByteHdr_table : ∀ (id : Fin 16) (l : Fin 16),
    oneByteHdr (UInt8.ofNat id.val) (l.val + 1) = (id.val * 16 + l.val).toUInt8 := by
  decide +kernel

theorem oneByteHdr_eq (id : UInt8) (len : Nat) (hid : id.toNat ≤ 15) (h1 : 1 ≤ len) (h16 : len ≤ 16) :
    oneByteHdr id len = (id.toNat * 16 + (len - 1)).toUInt8 := by
  have := oneByteHdr_table ⟨id.toNat, by omega⟩ ⟨len - 1, by omega⟩
  simpa [Nat.sub_add_cancel h1] using this

/-- the element header byte `id·16 + l` read by the one-byte walk: its two nibbles, and it is the
    pad byte only for id 0 with length 1 -/
theorem hdr1_decode (id l : Nat) (hid : id ≤ 15) (hl : l ≤ 15) :
    let b := (id * 16 + l).toUInt8
    (b >>> 4) = id.toUInt8 ∧ (b &&& 0x0F).toNat = l ∧ (b = 0 ↔ id = 0 ∧ l = 0) := by
  intro b
  have hb : b.toNat = id * 16 + l := toNat_toUInt8_of_lt (by omega)
  obtain ⟨d, r⟩ := div_mod_of_eq (m := 16) hb (by omega)
  refine ⟨?_, ?_, ?_⟩
  · rw [eq_toUInt8_iff, u8_shr4, d, Nat.mod_eq_of_lt (by omega)]
  · rw [u8_and15, r]
  · rw [← UInt8.toNat_inj, hb, UInt8.toNat_zero]; omega

theorem fixedBytes_eq (h : Header) :
    fixedBytes h = byte0 h.version h.csrc.length h.padding h.extension :: byte1 h.payloadType h.marker ::
      (be16 h.seq ++ (be32 h.ts ++ (be32 h.ssrc ++ (h.csrc.map be32).flatten))) := by
  simp [fixedBytes, byte0, byte1]

end Rtp.Proofs.PacketRt
