/-
  Rtp/Proofs/Leb128Go.lean — ReadLeb128 (the Go code, 64-bit accumulator) agrees with the LEB128
  specification on every input whose value ends within eight bytes (`readLebGo_eq_spec`); hence it
  inverts WriteToLeb128 on every value below 2^56, i.e. `LebGoSpec`, and 2^56 is sharp
  (`readLebGo_writeLeb_2_56`).  Before that the lengths of `writeLeb` by size classes; after it what
  holds of ReadLeb128 on every input: the byte count (`readLebGo_count_eq_spec`), the byte it stops
  at (`readLebGoLoop_stop`) and the bounds and the rejection that follow from it.

  Shape of the argument.  ReadLeb128 first packs the raw bytes big-endian into a `uint64`
  (`packGo`), then decodeLEB128 peels that word apart from its least significant byte, which is the
  *last* byte read = the most significant base-128 digit.  The specification reads `b :: rest` as
  `b % 128 + 128 * (value of rest)`, so the induction on the input carries the bytes already packed
  above as a prefix word `A`:

    readLebGoLoop_of_spec   the read loop stops after the `k` bytes the specification consumes, with
                            accumulator `packGo A (l.take k)`  (no bounds)
    decode_packGo_of_spec   `decode (fuel + k) (packGo A (l.take k)) 0` has produced the value after
                            `k` rounds and goes on with the prefix `A` (needs `A` and the `k` bytes
                            to fit 64 bits)

  Kernel-only: no bv_decide, no native_decide.
-/
import Rtp.Model.Leb128
import Rtp.Proofs.Leb128
import Rtp.Proofs.Lib.BitField
namespace Rtp.Model
open Rtp

theorem writeLeb_length_pos (n : Nat) : 0 < (writeLeb n).length :=
  List.length_pos_iff.mpr (writeLeb_ne_nil n)

theorem writeLeb_length_le_of_lt (k n : Nat) (h : n < 128 ^ (k + 1)) :
    (writeLeb n).length ≤ k + 1 := by
  induction k generalizing n with
  | zero => rw [writeLeb_lt n (by simpa using h)]; simp
  | succ k ih =>
    by_cases h1 : n < 128
    · rw [writeLeb_lt n h1]; simp
    · rw [writeLeb_ge n (by omega), List.length_cons]
      have : n / 128 < 128 ^ (k + 1) := by
        rw [Nat.div_lt_iff_lt_mul (by decide)]; rw [Nat.pow_succ] at h; exact h
      have := ih (n / 128) this
      omega

theorem writeLeb_length_gt_of_le (k n : Nat) (h : 128 ^ k ≤ n) : k < (writeLeb n).length := by
  induction k generalizing n with
  | zero => exact writeLeb_length_pos n
  | succ k ih =>
    have hk : 1 ≤ 128 ^ k := Nat.one_le_two_pow (n := 7 * k) |> fun h => by
      rwa [Nat.pow_mul] at h
    rw [Nat.pow_succ] at h
    rw [writeLeb_ge n (by omega), List.length_cons]
    have : 128 ^ k ≤ n / 128 := by
      rw [Nat.le_div_iff_mul_le (by decide)]; exact h
    have := ih (n / 128) this
    omega

theorem writeLeb_length_eq_iff (k n : Nat) (hn : 0 < n) :
    (writeLeb n).length = k + 1 ↔ 128 ^ k ≤ n ∧ n < 128 ^ (k + 1) := by
  constructor
  · intro hl
    constructor
    · cases k with
      | zero => rw [Nat.pow_zero]; exact hn
      | succ k =>
        apply Nat.le_of_not_lt; intro hlt
        have := writeLeb_length_le_of_lt k n hlt
        omega
    · apply Nat.lt_of_not_le; intro hge
      have := writeLeb_length_gt_of_le (k + 1) n hge
      omega
  · intro ⟨h1, h2⟩
    have := writeLeb_length_le_of_lt k n h2
    have := writeLeb_length_gt_of_le k n h1
    omega

theorem writeLeb_length_mono {a b : Nat} (h : a ≤ b) :
    (writeLeb a).length ≤ (writeLeb b).length := by
  obtain ⟨k, hk⟩ : ∃ k, (writeLeb b).length = k + 1 :=
    ⟨_, (Nat.succ_pred_eq_of_pos (writeLeb_length_pos b)).symm⟩
  have hb : b < 128 ^ (k + 1) := Nat.lt_of_not_le fun hge => by
    have := writeLeb_length_gt_of_le (k + 1) b hge
    omega
  rw [hk]
  exact writeLeb_length_le_of_lt k a (Nat.lt_of_le_of_lt h hb)

theorem writeLeb_length_one (n : Nat) (h : n < 128) : (writeLeb n).length = 1 := by
  rw [writeLeb_lt n h]; rfl

theorem writeLeb_length_two (n : Nat) (h1 : 128 ≤ n) (h2 : n < 16384) :
    (writeLeb n).length = 2 :=
  (writeLeb_length_eq_iff 1 n (by omega)).mpr ⟨h1, h2⟩

theorem writeLeb_length_le (n : Nat) (h : n < 2 ^ 64) : (writeLeb n).length ≤ 10 :=
  writeLeb_length_le_of_lt 9 n (Nat.lt_trans h (by decide))

theorem writeLeb_length_le_8 (n : Nat) (h : n < 2 ^ 56) : (writeLeb n).length ≤ 8 :=
  writeLeb_length_le_of_lt 7 n (Nat.lt_of_lt_of_le h (by decide))

/-- the test that ends the read loop: top bit clear -/
theorem stop_bit (b : UInt8) : (b &&& 0x80 == 0) = decide (b.toNat < 128) := by
  revert b; apply Bits.forall_u8; decide +kernel

/-- what the accumulator of ReadLeb128 holds after the bytes `l`, starting from `A` (before its
    shift): big-endian packing -/
def packGo : UInt64 → Bytes → UInt64
  | A, [] => A
  | A, b :: l => packGo (A <<< 8 ||| b.toUInt64) l

theorem u64_push_toNat (A : UInt64) (b : UInt8) (hA : A.toNat < 2 ^ 56) :
    (A <<< 8 ||| b.toUInt64).toNat = A.toNat * 256 + b.toNat := by
  rw [u64_shl_or A b.toUInt64 8 8 rfl hA (by decide)
    (by rw [UInt8.toNat_toUInt64]; exact b.toNat_lt), UInt8.toNat_toUInt64]

theorem u64_push_shr (A : UInt64) (b : UInt8) (hA : A.toNat < 2 ^ 56) :
    (A <<< 8 ||| b.toUInt64) >>> 8 = A := by
  apply UInt64.toNat_inj.mp
  rw [u64_shr _ 8 8 rfl, u64_push_toNat A b hA]
  have := b.toNat_lt
  omega

theorem u64_and_7f (x : UInt64) : (x &&& 0x7f).toNat = x.toNat % 128 :=
  u64_and_mask x 0x7f 7 rfl

/-- one round of decodeLEB128's output update: `(q << 7) | r = q*128 + r` -/
theorem u64_out_step (q : Nat) (x : UInt64) (hq : q < 2 ^ 57) :
    (q.toUInt64 <<< 7) ||| (x &&& 0x7f) = (q * 128 + x.toNat % 128).toUInt64 := by
  apply UInt64.toNat_inj.mp
  have hq' : q.toUInt64.toNat = q := toNat_toUInt64_of_lt (by omega)
  rw [u64_shl_or _ _ 7 7 rfl (by omega) (by decide) (by rw [u64_and_7f]; omega), u64_and_7f, hq',
    toNat_toUInt64_of_lt (by omega)]

theorem u64_zero_or_and (x : UInt64) : (0 : UInt64) ||| (x &&& 0x7f) = (x.toNat % 128).toUInt64 := by
  have := u64_out_step 0 x (by decide)
  simpa using this

/-! ### agreement with the specification on arbitrary (also non-canonical) input

    Whenever the LEB128 value occupies at most eight bytes, ReadLeb128 returns what the
    specification says — padded encodings such as `[0x80, 0x00]` included. -/

theorem readLebSpec_cons_ge_some (b : UInt8) (rest : Bytes) (h : 128 ≤ b.toNat) (v k : Nat)
    (hs : readLebSpec (b :: rest) = some (v, k)) :
    ∃ v' k', readLebSpec rest = some (v', k') ∧ v = b.toNat % 128 + 128 * v' ∧ k = k' + 1 := by
  rw [readLebSpec_cons_ge b rest h] at hs
  obtain ⟨⟨v', k'⟩, hs', he⟩ := Option.map_eq_some_iff.mp hs
  cases he
  exact ⟨v', k', hs', rfl, rfl⟩

theorem readLebSpec_bounds (l : Bytes) (v k : Nat) (hs : readLebSpec l = some (v, k)) :
    0 < k ∧ k ≤ l.length ∧ v < 128 ^ k := by
  induction l generalizing v k with
  | nil => simp [readLebSpec] at hs
  | cons b rest ih =>
    by_cases hb : b.toNat < 128
    · rw [readLebSpec_cons_lt b rest hb] at hs
      cases hs
      simp only [List.length_cons]; omega
    · obtain ⟨v', k', hs', rfl, rfl⟩ := readLebSpec_cons_ge_some b rest (by omega) v k hs
      have := ih v' k' hs'
      simp only [List.length_cons, Nat.pow_succ]; omega

/-- the read loop ORs a byte into the accumulator and shifts before the next one, so on entry the
    accumulator is always some `A <<< 8`; 9 is the fuel the model gives decodeLEB128 -/
theorem readLebGoLoop_of_spec (l : Bytes) (v k : Nat) (hs : readLebSpec l = some (v, k))
    (A : UInt64) (i : Nat) :
    readLebGoLoop l (A <<< 8) i = some (decodeLeb128Go 9 (packGo A (l.take k)) 0, i + k) := by
  induction l generalizing v k A i with
  | nil => simp [readLebSpec] at hs
  | cons b rest ih =>
    by_cases hb : b.toNat < 128
    · rw [readLebSpec_cons_lt b rest hb] at hs
      cases hs
      have : (b &&& 0x80 == 0) = true := by rw [stop_bit]; simpa using hb
      simp [readLebGoLoop, this, packGo]
    · obtain ⟨v', k', hs', rfl, rfl⟩ := readLebSpec_cons_ge_some b rest (by omega) v k hs
      have : (b &&& 0x80 == 0) = false := by rw [stop_bit]; simpa using hb
      simp only [readLebGoLoop, this, Bool.false_eq_true, if_false, List.take_succ_cons, packGo]
      rw [ih v' k' hs']
      congr 2
      omega

/-- After the `k` rounds that consume the bytes of the value, decodeLEB128 on `packGo A (l.take k)`
    has assembled `v` and is left with the prefix word `A`: it returns if `A = 0` and otherwise
    continues with `v << 7`.  `j` bounds the number of bytes in `A`; at most eight bytes fit the
    word. -/
theorem decode_packGo_of_spec (l : Bytes) (v k : Nat) (hs : readLebSpec l = some (v, k))
    (A : UInt64) (j fuel : Nat) (hA : A.toNat < 256 ^ j) (hj : j + k ≤ 8) :
    decodeLeb128Go (fuel + k) (packGo A (l.take k)) 0
      = if A = 0 then v.toUInt64 else decodeLeb128Go fuel A (v.toUInt64 <<< 7) := by
  induction l generalizing v k A j fuel with
  | nil => simp [readLebSpec] at hs
  | cons b rest ih =>
    have hA56 : A.toNat < 2 ^ 56 := by
      have := (readLebSpec_bounds _ v k hs).1
      apply Nat.lt_of_lt_of_le hA
      rw [show (256 : Nat) ^ j = 2 ^ (8 * j) from (Nat.pow_mul 2 8 j).symm]
      exact Nat.pow_le_pow_right (by decide) (by omega)
    by_cases hb : b.toNat < 128
    · rw [readLebSpec_cons_lt b rest hb] at hs
      cases hs
      simp only [List.take_succ_cons, List.take_zero, packGo]
      rw [decodeLeb128Go]
      simp only [u64_push_shr A _ hA56, u64_zero_or_and, u64_push_toNat A _ hA56]
      have : (A.toNat * 256 + b.toNat) % 128 = b.toNat := by omega
      rw [this]
      simp
    · obtain ⟨v', k', hs', rfl, rfl⟩ := readLebSpec_cons_ge_some b rest (by omega) v k hs
      have hv' : v' < 2 ^ 49 := by
        have := (readLebSpec_bounds _ v' k' hs').2.2
        apply Nat.lt_of_lt_of_le this
        rw [show (128 : Nat) ^ k' = 2 ^ (7 * k') from (Nat.pow_mul 2 7 k').symm]
        exact Nat.pow_le_pow_right (by decide) (by omega)
      simp only [List.take_succ_cons, packGo]
      have hb8 := b.toNat_lt
      have hA' : (A <<< 8 ||| b.toUInt64).toNat = A.toNat * 256 + b.toNat :=
        u64_push_toNat A _ hA56
      have hA'lt : (A <<< 8 ||| b.toUInt64).toNat < 256 ^ (j + 1) := by
        rw [hA', Nat.pow_succ]; omega
      have hne : ¬ (A <<< 8 ||| b.toUInt64) = 0 := by
        intro h0
        have := congrArg UInt64.toNat h0
        rw [hA'] at this
        simp at this
        omega
      rw [show fuel + (k' + 1) = (fuel + 1) + k' by omega]
      rw [ih v' k' hs' _ (j + 1) (fuel + 1) hA'lt (by omega)]
      rw [if_neg hne, decodeLeb128Go]
      simp only [u64_push_shr A _ hA56, u64_out_step v' _ (by omega), hA']
      have : v' * 128 + (A.toNat * 256 + b.toNat) % 128 = b.toNat % 128 + 128 * v' := by omega
      rw [this]
      simp

/-- ReadLeb128 = LEB128 on every input whose value ends within the first eight bytes -/
theorem readLebGo_eq_spec (l : Bytes) (v k : Nat) (hs : readLebSpec l = some (v, k))
    (hk : k ≤ 8) : readLebGo l = some (v.toUInt64, k) := by
  have h0 : (0 : UInt64) = (0 : UInt64) <<< 8 := by decide
  rw [readLebGo, h0, readLebGoLoop_of_spec l v k hs 0 0]
  have h9 : 9 = (9 - k) + k := by omega
  rw [h9, decode_packGo_of_spec l v k hs 0 0 _ (by decide) (by omega)]
  simp

theorem readLebGo_writeLeb : LebGoSpec := fun n rest hn =>
  readLebGo_eq_spec _ n _ (readLebSpec_writeLeb n rest) (writeLeb_length_le_8 n hn)

/-- success/failure and the byte count agree with the specification on *every* input; only the
    value can differ, and only beyond eight bytes -/
theorem readLebGo_count_eq_spec (l : Bytes) :
    (readLebGo l).map Prod.snd = (readLebSpec l).map Prod.snd := by
  cases hs : readLebSpec l with
  | none =>
    have : ∀ (l : Bytes) (acc : UInt64) (i : Nat), readLebSpec l = none →
        readLebGoLoop l acc i = none := by
      intro l
      induction l with
      | nil => intros; rfl
      | cons b rest ih =>
        intro acc i h
        by_cases hb : b.toNat < 128
        · rw [readLebSpec_cons_lt b rest hb] at h; simp at h
        · have hf : (b &&& 0x80 == 0) = false := by rw [stop_bit]; simpa using hb
          simp only [readLebGoLoop, hf, Bool.false_eq_true, if_false]
          apply ih
          rw [readLebSpec_cons_ge b rest (by omega)] at h
          exact Option.map_eq_none_iff.mp h
    simp [readLebGo, this l 0 0 hs]
  | some p =>
    obtain ⟨v, k⟩ := p
    have := readLebGoLoop_of_spec l v k hs 0 0
    have h0 : (0 : UInt64) <<< 8 = (0 : UInt64) := by decide
    rw [h0] at this
    simp [readLebGo, this]

/-! ### the bound 2^56 in `LebGoSpec` is sharp

    `writeLeb (2^56)` is nine bytes; the first one (the least significant group) is shifted out of
    the 64-bit accumulator, so ReadLeb128 reports 2^49 (and still "9 bytes read"). -/
theorem readLebGo_writeLeb_2_56 : readLebGo (writeLeb (2 ^ 56)) = some ((2 ^ 49 : Nat).toUInt64, 9) := by
  decide +kernel

/-- the byte that stops ReadLeb128 is the `k`-th one, and it is the first with the top bit clear -/
theorem readLebGoLoop_stop (l : Bytes) (acc : UInt64) (i : Nat) (v : UInt64) (k : Nat)
    (h : readLebGoLoop l acc i = some (v, k)) :
    ∃ pre b post, l = pre ++ b :: post ∧ i + pre.length + 1 = k ∧ b.toNat < 128 ∧
      ∀ c ∈ pre, 128 ≤ c.toNat := by
  induction l generalizing acc i with
  | nil => simp [readLebGoLoop] at h
  | cons b l ih =>
    simp only [readLebGoLoop] at h
    split at h
    · rename_i hb
      simp only [Option.some.injEq, Prod.mk.injEq] at h
      rw [stop_bit] at hb
      exact ⟨[], b, l, rfl, by simp; omega, by simpa using hb, by simp⟩
    · rename_i hb
      rw [stop_bit] at hb
      obtain ⟨pre, c, post, rfl, hk, hc, hpre⟩ := ih _ _ h
      refine ⟨b :: pre, c, post, rfl, by simp only [List.length_cons]; omega, hc, ?_⟩
      intro d hd
      rcases List.mem_cons.mp hd with rfl | hd
      · simpa using hb
      · exact hpre d hd

/-- input without a terminating byte is rejected (the hypothesis spells "top bit set" as the Go
    source tests it) -/
theorem readLebGo_none_of_all_cont' (l : Bytes) (h : ∀ b ∈ l, b &&& 0x80 ≠ 0) :
    readLebGo l = none := by
  cases hr : readLebGo l with
  | none => rfl
  | some vk =>
    obtain ⟨pre, b, post, rfl, _, hb, _⟩ := readLebGoLoop_stop l 0 0 vk.1 vk.2 hr
    exact absurd (beq_iff_eq.mp ((stop_bit b).trans (decide_eq_true hb))) (h b (by simp))

theorem readLebGoLoop_le_length (l : Bytes) (acc : UInt64) (i : Nat) (v : UInt64) (k : Nat)
    (h : readLebGoLoop l acc i = some (v, k)) : i < k ∧ k ≤ i + l.length := by
  obtain ⟨pre, b, post, rfl, hk, _, _⟩ := readLebGoLoop_stop l acc i v k h
  simp only [List.length_append, List.length_cons]
  omega

theorem readLebGo_le_length (l : Bytes) (v : UInt64) (k : Nat)
    (h : readLebGo l = some (v, k)) : 0 < k ∧ k ≤ l.length := by
  have := readLebGoLoop_le_length l 0 0 v k h
  omega

end Rtp.Model
