/-
  Rtp/Proofs/Pipeline.lean — the generic half of the end-to-end composition: for ANY payloader and
  ANY depacketizer,

    round_eq   one frame's trip through `send` / `receive` (general `pktMarshal` / `pktUnmarshal`) is
               the "ideal" trip: the datagrams are the packets' wire images, every datagram parses
               to the packet's header fields, and the depacketizer receives exactly the payloader's
               fragments, in order                     (C06 packet construction + C01 via the bridge)
    ideal_train  the packet train clauses (≤ MTU, consecutive sequence numbers, marker on the last,
               timestamp / payload type / SSRC) for a payloader that respects its budget  (C06 + C08)
    run_train / run_reasmE / run_outs / run_each   the same along a history of frames on one packetizer
               and one depacketizer, for a payloader described on a per-call domain (`PayOk`);
               `run_each` carries any per-frame statement (used for H265, whose receiver hands back no
               bytes);
    round_okE / run_okE / run_ok   train clauses and reassembly together: what every `pipeline_*` theorem
               instantiates;  round_empty: an empty frame sends nothing;
    seqFrom_get / markLast_get   the train predicate read by index (for `pipeline_train_spelled`).

  The codec-specific halves are in Rtp/Proofs/PipelineCodecs.lean, PipelineVP9.lean, PipelineAV1.lean,
  PipelineH265.lean.
-/
import Rtp.Pred.Pipeline
import Rtp.Proofs.Packetizer
import Rtp.Proofs.PacketizerBridge
namespace Rtp.Proofs.Pipeline
open Rtp Rtp.Model Rtp.Model.Packetizer Rtp.Model.Pipeline Rtp.Pred.Pipeline
open Rtp.Proofs.Packetizer Rtp.Proofs.PacketizerBridge

theorem toPacket_eq : Rtp.Model.Pipeline.toPacket = Rtp.Proofs.PacketizerBridge.toPacket := rfl

/-- the datagram of a packet observation (`[]` if `Marshal` failed, which no packet of the packetizer does) -/
def wireOf (q : PktObs) : Bytes := match q.marshal with | .ok b => b | _ => []

def hdrObs (q : PktObs) : Hdr := { seq := q.seq, marker := q.marker, ts := q.ts, pt := q.pt, ssrc := q.ssrc }

/-- C01 for one packet, in the form `round` needs it: the general `pktMarshal` gives `wireOf q`, and
    `pktUnmarshal` of that into a FRESH `Packet` gives its header fields and payload -/
def Good (q : PktObs) : Prop :=
  pktMarshal (Rtp.Model.Pipeline.toPacket q) = .ok (wireOf q) ∧
  ∃ P, pktUnmarshal {} (wireOf q) = .ok P ∧ P.payload = q.payload ∧ hdrOf P = hdrObs q

theorem mkPkts_good (p : Packetizer) (hv : AbsValid p) (hpt : p.pt < 128) (now : Int64) (s : SeqState)
    (frags : List Bytes) : ∀ q ∈ (mkPkts p (extOf p now) s frags).1, Good q := by
  intro q hq
  obtain ⟨v, m, e, f, rfl, he, _⟩ := mkPkts_mem hq
  have hf := mkPkt_faithful p v m e ((extOf_ext3 p now).of_mem he) f
  obtain ⟨b, prof, hm, hu, _⟩ := mkPkt_roundtrip p hpt v m e ((extOf_legal p hv now).of_mem he) f {}
  have hw : wireOf (mkPkt p v m e f) = b := by simp [wireOf, hm]
  exact ⟨by rw [toPacket_eq, hf.1, hm, hw], by rw [hw]; exact ⟨_, hu, rfl, rfl⟩⟩

theorem okBytes_map_ok (l : List Bytes) : okBytes (l.map Res.ok) = l := by
  induction l with
  | nil => rfl
  | cons a l ih => simp [okBytes, ih]

theorem marshal_all (pkts : List PktObs) (h : ∀ q ∈ pkts, Good q) :
    pkts.map (fun q => pktMarshal (Rtp.Model.Pipeline.toPacket q)) = (pkts.map wireOf).map Res.ok := by
  induction pkts with
  | nil => rfl
  | cons q qs ih =>
    simp only [List.map_cons]
    rw [(h q (by simp)).1, ih (fun x hx => h x (by simp [hx]))]

theorem parse_all (pkts : List PktObs) (h : ∀ q ∈ pkts, Good q) :
    (parseAll (pkts.map wireOf)).map (Res.map hdrOf) = pkts.map (fun q => Res.ok (hdrObs q)) ∧
    okPayloads (parseAll (pkts.map wireOf)) = pkts.map (·.payload) := by
  induction pkts with
  | nil => exact ⟨rfl, rfl⟩
  | cons q qs ih =>
    obtain ⟨_, P, hu, hp, hh⟩ := h q (by simp)
    obtain ⟨i1, i2⟩ := ih (fun x hx => h x (by simp [hx]))
    simp only [parseAll, List.map_cons] at i1 i2 ⊢
    rw [hu]
    simp only [Res.map, okPayloads, hh, hp, i1, i2, and_self]

theorem depackAll_length {ρ} (dep : Depack ρ) : ∀ (r : ρ) (ps : List Bytes),
    (depackAll dep r ps).1.length = ps.length := by
  intro r ps
  induction ps generalizing r with
  | nil => rfl
  | cons p ps ih => simp [depackAll, ih]

theorem depackAll_append {ρ} (dep : Depack ρ) : ∀ (r : ρ) (a b : List Bytes),
    depackAll dep r (a ++ b) =
      ((depackAll dep r a).1 ++ (depackAll dep (depackAll dep r a).2 b).1,
       (depackAll dep (depackAll dep r a).2 b).2) := by
  intro r a b
  induction a generalizing r with
  | nil => simp [depackAll]
  | cons p ps ih => simp [depackAll, ih]

/-- the trip of one frame, described without any wire format: `pkts` are the packets
    `Packetize` builds from the payloader's fragments -/
def idealObs {ρ} (dep : Depack ρ) (r : ρ) (pkts : List PktObs) (frags : List Bytes) : FrameObs :=
  { dgs := pkts.map (fun q => Res.ok (wireOf q)),
    hdrs := pkts.map (fun q => Res.ok (hdrObs q)),
    outs := (depackAll dep r frags).1 }

def fragsOf {σ} (pay : Pay σ) (s : Sender σ) (f : FrameIn) : List Bytes := (pay s.st s.pk.budget f.frame).1

def pktsOf {σ} (pay : Pay σ) (s : Sender σ) (f : FrameIn) : List PktObs :=
  (mkPkts s.pk (extOf s.pk f.now) s.pk.seq (fragsOf pay s f)).1

def senderAfter {σ} (pay : Pay σ) (s : Sender σ) (f : FrameIn) : Sender σ :=
  { pk := { s.pk with ts := s.pk.ts + f.samples,
                      seq := (mkPkts s.pk (extOf s.pk f.now) s.pk.seq (fragsOf pay s f)).2 },
    st := (pay s.st s.pk.budget f.frame).2 }

/-- **one frame's trip is the ideal trip** — any payloader, any depacketizer, any state of both,
    any sequencer state, timestamp, SSRC, clock reading; 7-bit payload type, abs-send-time off or a
    legal id; non-empty frame. -/
theorem round_eq {σ ρ} (pay : Pay σ) (dep : Depack ρ) (s : Sender σ) (r : ρ) (f : FrameIn)
    (hv : AbsValid s.pk) (hpt : s.pk.pt < 128) (hne : f.frame.isEmpty = false) :
    round pay dep s r f =
      (idealObs dep r (pktsOf pay s f) (fragsOf pay s f), senderAfter pay s f,
       (depackAll dep r (fragsOf pay s f)).2) := by
  have hg := mkPkts_good s.pk hv hpt f.now s.pk.seq (fragsOf pay s f)
  have hm := marshal_all _ hg
  obtain ⟨hp1, hp2⟩ := parse_all _ hg
  have hpl := mkPkts_payloads s.pk (extOf s.pk f.now) s.pk.seq (fragsOf pay s f)
  simp only [round, send, receive, packetize_eq _ s.pk hv f.frame hne, hne, Bool.false_eq_true, if_false]
  simp only [fragsOf] at hm hp1 hp2 hpl
  simp only [hm, okBytes_map_ok, hp1, hp2, hpl, idealObs, pktsOf, fragsOf, senderAfter]
  simp only [List.map_map, Function.comp_def]

theorem round_empty {σ ρ} (pay : Pay σ) (dep : Depack ρ) (s : Sender σ) (r : ρ) (f : FrameIn)
    (he : f.frame.isEmpty = true) :
    round pay dep s r f = ({ dgs := [], hdrs := [], outs := [] }, s, r) := by
  simp [round, send, receive, packetize_empty _ s.pk f.frame he, he, okBytes, parseAll, okPayloads, depackAll]

theorem seqFrom_map (e : UInt16) (pkts : List PktObs) :
    seqFrom e (pkts.map (fun q => Res.ok (hdrObs q))) = Rtp.Pred.C06.seqFrom e pkts := by
  induction pkts generalizing e with
  | nil => rfl
  | cons q qs ih =>
    simp only [List.map_cons, seqFrom, Rtp.Pred.C06.seqFrom, ih]
    rfl

theorem markLast_map (pkts : List PktObs) :
    markLast (pkts.map (fun q => Res.ok (hdrObs q))) = Rtp.Pred.C06.markersOk pkts := by
  induction pkts with
  | nil => rfl
  | cons q qs ih =>
    cases qs with
    | nil => simp [markLast, Rtp.Pred.C06.markersOk, hdrObs]
    | cons q' qs' =>
      simp only [List.map_cons] at ih ⊢
      simp only [markLast, Rtp.Pred.C06.markersOk, ih]
      rfl

theorem overhead_eq (p : Packetizer) : overhead p = 12 + (if p.absId = 0 then 0 else 8) := by
  by_cases h0 : p.absId = 0 <;> simp [overhead, h0]

/-- an MTU with `k` bytes beyond the reserved header bytes hands the payloader a budget of at least `k` -/
theorem budget_ge (p : Packetizer) (k : Nat) (hm : overhead p + k ≤ p.mtu.toNat) :
    overhead p ≤ p.mtu.toNat ∧ k ≤ p.budget.toNat := by
  refine ⟨Nat.le_of_add_right_le hm, ?_⟩
  rw [overhead_eq] at hm
  rw [budget_toNat p (Nat.le_of_add_right_le hm)]
  exact Nat.le_sub_of_add_le' hm

theorem cfgOk_parts {p : Packetizer} (h : cfgOk p = true) : AbsValid p ∧ p.pt < 128 := by
  simp only [cfgOk, Bool.and_eq_true, Bool.or_eq_true, decide_eq_true_eq, beq_iff_eq] at h
  exact ⟨h.2, by rw [UInt8.lt_iff_toNat_lt]; exact h.1⟩

/-- **the packet train of one frame**: when the payloader kept its fragments within the budget it
    was handed and the MTU leaves room for the header bytes, the ideal trip satisfies the train
    predicate (datagrams ≤ MTU, all parse, consecutive sequence numbers, marker on the last packet
    only, timestamp / payload type / SSRC, one depacketizer call per packet), given its last clause
    `hok`: the depacketizer accepted every fragment. -/
theorem ideal_train {σ ρ} (pay : Pay σ) (dep : Depack ρ) (s : Sender σ) (r : ρ) (f : FrameIn)
    (hm : overhead s.pk ≤ s.pk.mtu.toNat)
    (hfit : ∀ x ∈ fragsOf pay s f, x.length ≤ s.pk.budget.toNat)
    (hok : (depackAll dep r (fragsOf pay s f)).1.all Res.isOk = true) :
    trainOk s.pk (s.pk.seq.seq + 1) s.pk.ts (idealObs dep r (pktsOf pay s f) (fragsOf pay s f)) = true := by
  have hfits := mkPkts_fits s.pk s.pk.mtu s.pk.budget.toNat _ (extOf_ext3 s.pk f.now)
    (budget_fits s.pk (by rw [← overhead_eq]; exact hm)) s.pk.seq _ hfit
  have hsh := mkPkts_shape s.pk (extOf s.pk f.now) s.pk.seq (fragsOf pay s f)
  simp only [trainOk, idealObs, pktsOf, Bool.and_eq_true, List.length_map, beq_self_eq_true,
    seqFrom_map, markLast_map, hsh.2.2.2.1, hsh.2.1, hok, depackAll_length, mkPkts_length, and_true,
    List.all_map, List.all_eq_true]
  -- what is left is per packet, and every packet is a `mkPkt`
  refine ⟨?_, ?_⟩
  · intro q hq
    have := List.all_eq_true.mp hfits q hq
    obtain ⟨v, m, e, x, rfl, _, _⟩ := mkPkts_mem hq
    simp only [Rtp.Pred.C06.fitsMtu, mkPkt, Bool.and_eq_true] at this
    simp only [Function.comp, dgOk, wireOf, mkPkt]
    exact this.2
  · intro q hq
    obtain ⟨v, m, e, x, rfl, _, _⟩ := mkPkts_mem hq
    simp only [Function.comp, fieldsOk, hdrObs, mkPkt, beq_self_eq_true, Bool.and_self]

theorem senderAfter_seq {σ} (pay : Pay σ) (s : Sender σ) (f : FrameIn) :
    (senderAfter pay s f).pk.seq.seq = s.pk.seq.seq + (fragsOf pay s f).length.toUInt16 :=
  (mkPkts_shape _ _ _ _).2.2.2.2

theorem trainOk_cfg (p p' : Packetizer) (h1 : p'.mtu = p.mtu) (h2 : p'.pt = p.pt) (h3 : p'.ssrc = p.ssrc)
    (first : UInt16) (ts : UInt32) (o : FrameObs) : trainOk p' first ts o = trainOk p first ts o := by
  have : fieldsOk p' ts = fieldsOk p ts := by
    funext x; cases x <;> simp [fieldsOk, h2, h3]
  simp [trainOk, h1, this]

/-- every call of a history is in the payloader's domain `Inv` (a relation between its state and the
    frame handed to it); what the domain gives is asked separately (`PayFits`, `DepOkE`) -/
def PayOk {σ} (pay : Pay σ) (B : UInt16) (Inv : σ → Bytes → Prop) : σ → List FrameIn → Prop
  | _, [] => True
  | st, f :: fs => Inv st f.frame ∧ PayOk pay B Inv (pay st B f.frame).2 fs

/-- what a codec has to provide for the train clauses: on its domain the frame is non-empty and the
    fragments respect the budget -/
def PayFits {σ} (pay : Pay σ) (B : UInt16) (Inv : σ → Bytes → Prop) : Prop :=
  ∀ st frame, Inv st frame → frame.isEmpty = false ∧ ∀ x ∈ (pay st B frame).1, x.length ≤ B.toNat

/-- what a codec with per-frame reassembly has to provide: from ANY depacketizer state the
    fragments of a frame are all accepted and their values concatenate to `exp frame` (the frame in
    the codec's normal form) -/
def DepOkE {σ ρ} (pay : Pay σ) (dep : Depack ρ) (B : UInt16) (Inv : σ → Bytes → Prop) (exp : Bytes → Bytes) : Prop :=
  ∀ st frame (r : ρ), Inv st frame →
    (depackAll dep r (pay st B frame).1).1.all Res.isOk = true ∧
    (depackAll dep r (pay st B frame).1).1.flatMap resBytes = exp frame

/-- … when the normal form is the frame itself -/
def DepOk {σ ρ} (pay : Pay σ) (dep : Depack ρ) (B : UInt16) (Inv : σ → Bytes → Prop) : Prop :=
  DepOkE pay dep B Inv id

/-- all fragments of a history of frames on one payloader, in order -/
def fragsHist {σ} (pay : Pay σ) (B : UInt16) : σ → List FrameIn → List Bytes
  | _, [] => []
  | st, f :: fs => (pay st B f.frame).1 ++ fragsHist pay B (pay st B f.frame).2 fs

/-- a history, one frame on.  `senderAfter` keeps the configuration, so what the history theorems assume
    of `s.pk` (`AbsValid`, payload type, budget) holds of it again by unfolding: their induction steps
    pass the hypotheses on as they are -/
theorem run_cons {σ ρ} (pay : Pay σ) (dep : Depack ρ) (s : Sender σ) (r : ρ) (f : FrameIn) (fs : List FrameIn)
    (hv : AbsValid s.pk) (hpt : s.pk.pt < 128) (hne : f.frame.isEmpty = false) :
    run pay dep s r (f :: fs) =
      idealObs dep r (pktsOf pay s f) (fragsOf pay s f) ::
        run pay dep (senderAfter pay s f) (depackAll dep r (fragsOf pay s f)).2 fs := by
  rw [Pipeline.run, round_eq pay dep s r f hv hpt hne]

/-- **the depacketizer sees exactly the payloader's fragments of the whole history, in order** —
    the outputs of a history are those of ONE depacketizer run over all fragments -/
theorem run_outs {σ ρ} (pay : Pay σ) (dep : Depack ρ) (Inv : σ → Bytes → Prop) :
    ∀ (fs : List FrameIn) (s : Sender σ) (r : ρ), AbsValid s.pk → s.pk.pt < 128 →
      (∀ st frame, Inv st frame → frame.isEmpty = false) →
      PayOk pay s.pk.budget Inv s.st fs →
      (run pay dep s r fs).flatMap (·.outs) = (depackAll dep r (fragsHist pay s.pk.budget s.st fs)).1 := by
  intro fs
  induction fs with
  | nil => intro s r _ _ _ _; rfl
  | cons f fs ih =>
    intro s r hv hpt hne hp
    obtain ⟨hi, hp'⟩ := hp
    rw [run_cons pay dep s r f fs hv hpt (hne _ _ hi), List.flatMap_cons, fragsHist, depackAll_append,
      ih (senderAfter pay s f) _ hv hpt hne hp']
    rfl

/-- **the train clauses along a history** (codec-independent half of every `pipeline_*_history`).
    `cfg` is the packetizer the predicate is read against; it stays while `s.pk` moves along the history -/
theorem run_train {σ ρ} (pay : Pay σ) (dep : Depack ρ) (Inv : σ → Bytes → Prop) (cfg : Packetizer) :
    ∀ (fs : List FrameIn) (s : Sender σ) (r : ρ), AbsValid s.pk → s.pk.pt < 128 →
      s.pk.mtu = cfg.mtu → s.pk.pt = cfg.pt → s.pk.ssrc = cfg.ssrc →
      overhead s.pk ≤ s.pk.mtu.toNat →
      PayFits pay s.pk.budget Inv →
      PayOk pay s.pk.budget Inv s.st fs →
      (∀ o ∈ run pay dep s r fs, o.outs.all Res.isOk = true) →
      histTrain cfg (s.pk.seq.seq + 1) s.pk.ts fs (run pay dep s r fs) = true := by
  intro fs
  induction fs with
  | nil => intro s r _ _ _ _ _ _ _ _ _; rfl
  | cons f fs ih =>
    intro s r hv hpt c1 c2 c3 hm hfit hp hout
    obtain ⟨hi, hp'⟩ := hp
    obtain ⟨he, hx⟩ := hfit _ _ hi
    rw [run_cons pay dep s r f fs hv hpt he] at hout ⊢
    rw [histTrain, he, if_neg Bool.false_ne_true, Bool.and_eq_true]
    refine ⟨?_, ?_⟩
    · rw [← trainOk_cfg cfg s.pk c1 c2 c3]
      exact ideal_train pay dep s r f hm hx (hout _ (List.mem_cons_self ..))
    · have := ih (senderAfter pay s f) (depackAll dep r (fragsOf pay s f)).2 hv hpt c1 c2 c3 hm hfit hp'
        (fun o ho => hout o (List.mem_cons_of_mem _ ho))
      rw [senderAfter_seq] at this
      simp only [idealObs, List.length_map, pktsOf, mkPkts_length]
      rw [UInt16.add_assoc, UInt16.add_comm 1, ← UInt16.add_assoc]
      exact this

/-- **per-frame reassembly along a history**: every frame's outputs are all values and concatenate
    to the frame in normal form (for codecs with `DepOkE`) -/
theorem run_reasmE {σ ρ} (pay : Pay σ) (dep : Depack ρ) (Inv : σ → Bytes → Prop) (exp : Bytes → Bytes) :
    ∀ (fs : List FrameIn) (s : Sender σ) (r : ρ), AbsValid s.pk → s.pk.pt < 128 →
      (∀ st frame, Inv st frame → frame.isEmpty = false) →
      DepOkE pay dep s.pk.budget Inv exp →
      PayOk pay s.pk.budget Inv s.st fs →
      (∀ o ∈ run pay dep s r fs, o.outs.all Res.isOk = true) ∧
      histReasm (fs.map (fun f => exp f.frame)) (run pay dep s r fs) = true := by
  intro fs
  induction fs with
  | nil => intro s r _ _ _ _ _; exact ⟨by simp [Pipeline.run], rfl⟩
  | cons f fs ih =>
    intro s r hv hpt hne hd hp
    obtain ⟨hi, hp'⟩ := hp
    obtain ⟨d1, d2⟩ := hd _ _ r hi
    obtain ⟨i1, i2⟩ := ih (senderAfter pay s f) (depackAll dep r (fragsOf pay s f)).2 hv hpt hne hd hp'
    rw [run_cons pay dep s r f fs hv hpt (hne _ _ hi)]
    refine ⟨?_, ?_⟩
    · intro o ho
      rcases List.mem_cons.mp ho with rfl | ho
      · exact d1
      · exact i1 o ho
    · simp only [List.map_cons, histReasm, reasmOk, FrameObs.reasm, idealObs, fragsOf, d2, beq_self_eq_true,
        Bool.true_and]
      exact i2

/-- `P frame observation` holds of every frame of a history and its observation -/
def EachFrame (P : Bytes → FrameObs → Prop) : List FrameIn → List FrameObs → Prop
  | [], [] => True
  | f :: fs, o :: os => P f.frame o ∧ EachFrame P fs os
  | _, _ => False

/-- **a per-frame statement along a history**: whatever holds of the ideal trip of every frame in
    the payloader's domain, from every payloader and depacketizer state, holds of every frame of a
    history.  `P` is asked for ALL `pkts`: it may speak of the depacketizer's outputs only -/
theorem run_each {σ ρ} (pay : Pay σ) (dep : Depack ρ) (Inv : σ → Bytes → Prop) (P : Bytes → FrameObs → Prop) :
    ∀ (fs : List FrameIn) (s : Sender σ) (r : ρ), AbsValid s.pk → s.pk.pt < 128 →
      (∀ st frame, Inv st frame → frame.isEmpty = false) →
      (∀ st (r : ρ) frame pkts, Inv st frame → P frame (idealObs dep r pkts (pay st s.pk.budget frame).1)) →
      PayOk pay s.pk.budget Inv s.st fs →
      EachFrame P fs (run pay dep s r fs) := by
  intro fs
  induction fs with
  | nil => intro s r _ _ _ _ _; exact trivial
  | cons f fs ih =>
    intro s r hv hpt hne hP hp
    obtain ⟨hi, hp'⟩ := hp
    rw [run_cons pay dep s r f fs hv hpt (hne _ _ hi)]
    exact ⟨hP _ r _ _ hi, ih (senderAfter pay s f) _ hv hpt hne hP hp'⟩

theorem eachFrame_mem (P : Bytes → FrameObs → Prop) : ∀ (fs : List FrameIn) (obs : List FrameObs),
    EachFrame P fs obs → ∀ o ∈ obs, ∃ f ∈ fs, P f.frame o := by
  intro fs
  induction fs with
  | nil => intro obs h o ho; cases obs with
    | nil => cases ho
    | cons _ _ => exact absurd h (by simp [EachFrame])
  | cons f fs ih =>
    intro obs h o ho
    cases obs with
    | nil => cases ho
    | cons o' os' =>
      simp only [EachFrame] at h
      simp only [List.mem_cons] at ho
      rcases ho with rfl | ho
      · exact ⟨f, by simp, h.1⟩
      · obtain ⟨g, hg, hp⟩ := ih os' h.2 o ho
        exact ⟨g, by simp [hg], hp⟩

/-- from the propositional per-frame statement to the executable per-frame check over frame
    descriptions `α` -/
theorem histEach_of_eachFrame {α} (inp : α → FrameIn) (Q : α → FrameObs → Bool) (P : Bytes → FrameObs → Prop)
    (D : α → Prop) (hPQ : ∀ a o, D a → P (inp a).frame o → Q a o = true) :
    ∀ (as : List α) (obs : List FrameObs), (∀ a ∈ as, D a) → EachFrame P (as.map inp) obs →
      histEach Q as obs = true := by
  intro as
  induction as with
  | nil => intro obs _ h; cases obs with
    | nil => rfl
    | cons _ _ => exact absurd h (by simp [EachFrame])
  | cons a as ih =>
    intro obs hd h
    cases obs with
    | nil => exact absurd h (by simp [EachFrame])
    | cons o os =>
      simp only [List.map_cons, EachFrame] at h
      simp only [histEach, Bool.and_eq_true]
      exact ⟨hPQ a o (hd a (by simp)) h.1, ih os (fun b hb => hd b (by simp [hb])) h.2⟩

/-- **one frame, end to end**, for a codec with per-frame reassembly -/
theorem round_okE {σ ρ} (pay : Pay σ) (dep : Depack ρ) (Inv : σ → Bytes → Prop) (exp : Bytes → Bytes)
    (s : Sender σ) (r : ρ) (f : FrameIn)
    (hcfg : cfgOk s.pk = true) (hm : overhead s.pk ≤ s.pk.mtu.toNat)
    (hfit : PayFits pay s.pk.budget Inv) (hdep : DepOkE pay dep s.pk.budget Inv exp) (hi : Inv s.st f.frame) :
    trainOk s.pk (s.pk.seq.seq + 1) s.pk.ts (round pay dep s r f).1 = true ∧
    (round pay dep s r f).1.reasm = exp f.frame := by
  obtain ⟨hv, hpt⟩ := cfgOk_parts hcfg
  obtain ⟨he, hx⟩ := hfit _ _ hi
  obtain ⟨d1, d2⟩ := hdep _ _ r hi
  rw [round_eq pay dep s r f hv hpt he]
  exact ⟨ideal_train pay dep s r f hm hx d1, d2⟩

/-- **a history of frames, end to end**, for a codec with per-frame reassembly -/
theorem run_okE {σ ρ} (pay : Pay σ) (dep : Depack ρ) (Inv : σ → Bytes → Prop) (exp : Bytes → Bytes)
    (s : Sender σ) (r : ρ)
    (fs : List FrameIn) (hcfg : cfgOk s.pk = true) (hm : overhead s.pk ≤ s.pk.mtu.toNat)
    (hfit : PayFits pay s.pk.budget Inv) (hdep : DepOkE pay dep s.pk.budget Inv exp)
    (hp : PayOk pay s.pk.budget Inv s.st fs) :
    histOkE s.pk fs (fs.map (fun f => exp f.frame)) (run pay dep s r fs) = true := by
  obtain ⟨hv, hpt⟩ := cfgOk_parts hcfg
  have hne : ∀ st frame, Inv st frame → frame.isEmpty = false := fun st fr h => (hfit st fr h).1
  obtain ⟨h1, h2⟩ := run_reasmE pay dep Inv exp fs s r hv hpt hne hdep hp
  simp only [histOkE, Bool.and_eq_true]
  exact ⟨run_train pay dep Inv s.pk fs s r hv hpt rfl rfl rfl hm hfit hp h1, h2⟩

theorem run_ok {σ ρ} (pay : Pay σ) (dep : Depack ρ) (Inv : σ → Bytes → Prop) (s : Sender σ) (r : ρ)
    (fs : List FrameIn) (hcfg : cfgOk s.pk = true) (hm : overhead s.pk ≤ s.pk.mtu.toNat)
    (hfit : PayFits pay s.pk.budget Inv) (hdep : DepOk pay dep s.pk.budget Inv)
    (hp : PayOk pay s.pk.budget Inv s.st fs) :
    histOk s.pk fs (run pay dep s r fs) = true :=
  run_okE pay dep Inv id s r fs hcfg hm hfit hdep hp

theorem seqFrom_get : ∀ (l : List (Res Hdr)) (e : UInt16), seqFrom e l = true →
    ∀ i (hi : i < l.length), ∃ h, l[i] = .ok h ∧ h.seq = e + i.toUInt16 := by
  intro l
  induction l with
  | nil => intro e _ i hi; cases hi
  | cons x xs ih =>
    intro e h i hi
    cases x with
    | ok hd =>
      simp only [seqFrom, Bool.and_eq_true, beq_iff_eq] at h
      cases i with
      | zero => exact ⟨hd, rfl, by simp [h.1, Nat.toUInt16]⟩
      | succ j =>
        obtain ⟨g, hg1, hg2⟩ := ih (e + 1) h.2 j (by simpa using hi)
        refine ⟨g, by simpa using hg1, ?_⟩
        rw [hg2, toUInt16_succ, UInt16.add_assoc, UInt16.add_comm 1]
    | err _ => simp [seqFrom] at h
    | panic => simp [seqFrom] at h

theorem markLast_get : ∀ (l : List (Res Hdr)), markLast l = true →
    ∀ i (hi : i < l.length), ∃ h, l[i] = .ok h ∧ h.marker = decide (i + 1 = l.length) := by
  intro l
  induction l with
  | nil => intro _ i hi; cases hi
  | cons x xs ih =>
    intro h i hi
    cases x with
    | ok hd =>
      cases xs with
      | nil =>
        simp only [markLast] at h
        cases i with
        | zero => exact ⟨hd, rfl, by simp [h]⟩
        | succ j => simp at hi
      | cons y ys =>
        simp only [markLast, Bool.and_eq_true, Bool.not_eq_true'] at h
        cases i with
        | zero => exact ⟨hd, rfl, by simp [h.1]⟩
        | succ j =>
          obtain ⟨g, hg1, hg2⟩ := ih h.2 j (by simpa using hi)
          exact ⟨g, by simpa using hg1, by simpa using hg2⟩
    | err _ => cases xs <;> simp [markLast] at h
    | panic => cases xs <;> simp [markLast] at h

end Rtp.Proofs.Pipeline
