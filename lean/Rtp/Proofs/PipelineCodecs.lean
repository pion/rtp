/-
  Rtp/Proofs/PipelineCodecs.lean — the codec-specific halves of the end-to-end composition: for each
  payloader / depacketizer pair, what Rtp/Proofs/Pipeline.lean asks of a codec (`PayFits`: the
  fragments respect the budget — C08; `DepOk`: the depacketizer accepts them all and returns the
  frame — C16 / C11; for H264 the history-level statement of C10), for G.711 / G.722, Opus, VP8 and
  H264, and the lemmas about `C12.obsFrags` that PipelineVP9.lean builds on.  VP9, AV1 and H265 have
  files of their own.
-/
import Rtp.Proofs.Pipeline
import Rtp.Proofs.Audio
import Rtp.Proofs.VP8Pay
import Rtp.Proofs.VP8Own
import Rtp.Proofs.VP9Pay
import Rtp.Proofs.H264History
import Rtp.Proofs.H264Size
import Rtp.Proofs.H264Decoder
import Rtp.Proofs.Lib.Res
namespace Rtp.Proofs.Pipeline
open Rtp Rtp.Model Rtp.Model.Pipeline Rtp.Pred.Pipeline

/-- establishing `PayOk` along a history from a state invariant `I` and a frame domain `D` -/
theorem payOk_of {σ} (pay : Pay σ) (B : UInt16) (Inv : σ → Bytes → Prop) (I : σ → Prop) (D : Bytes → Prop)
    (hInv : ∀ st fr, I st → D fr → Inv st fr) (hstep : ∀ st fr, I st → D fr → I (pay st B fr).2) :
    ∀ (fs : List FrameIn) (st : σ), I st → (∀ f ∈ fs, D f.frame) → PayOk pay B Inv st fs := by
  intro fs
  induction fs with
  | nil => intro st _ _; trivial
  | cons f fs ih =>
    intro st hi hd
    exact ⟨hInv _ _ hi (hd f (by simp)),
      ih _ (hstep _ _ hi (hd f (by simp))) (fun g hg => hd g (by simp [hg]))⟩

theorem framesNonEmpty_mem (fs : List FrameIn) (h : framesNonEmpty fs = true) : ∀ f ∈ fs, f.frame ≠ [] := by
  intro f hf
  have := (List.all_eq_true.mp h) f hf
  intro he; simp [he] at this

theorem vp8State_eq (enable : Bool) (k : Nat) : vp8State enable k = Rtp.Proofs.VP8.payState enable k := rfl

/-! ### a depacketizer that accepts every fragment and strips nothing: outputs = fragments -/

theorem depackAll_raw : ∀ (l : List Bytes), depackAll rawDepack () l = (l.map Res.ok, ()) := by
  intro l
  induction l with
  | nil => rfl
  | cons a l ih => simp [depackAll, rawDepack, ih]

theorem flatMap_resBytes_ok (l : List Bytes) : (l.map Res.ok).flatMap resBytes = l.flatten := by
  induction l with
  | nil => rfl
  | cons a l ih => simp [resBytes, ih]

/-- domain: a non-empty frame (C16 holds of every input at MTU ≥ 1; here the MTU is the budget, which
    `budget_ge pk 1` makes positive) -/
def g711Inv : Unit → Bytes → Prop := fun _ frame => frame ≠ []

theorem g711_fits (B : UInt16) (hB : 0 < B.toNat) : PayFits g711Pay B g711Inv := by
  intro st frame hne
  refine ⟨List.isEmpty_eq_false_iff.mpr hne, ?_⟩
  show ∀ x ∈ g711Payload B (some frame), _
  rw [g711Payload_some B hB]
  exact splitGt_le _ _ _

theorem g711_dep (B : UInt16) (hB : 0 < B.toNat) : DepOk g711Pay rawDepack B g711Inv := by
  intro st frame r _
  cases r
  simp only [depackAll_raw, Res.all_isOk_map_ok, flatMap_resBytes_ok, true_and]
  show (g711Payload B (some frame)).flatten = frame
  rw [g711Payload_some B hB]
  exact splitGt_flatten _ _ _

/-- domain: a non-empty frame that fits one packet (the Opus payloader never fragments) -/
def opusInv (B : UInt16) : Unit → Bytes → Prop := fun _ frame => frame ≠ [] ∧ frame.length ≤ B.toNat

theorem opus_fits (B : UInt16) : PayFits opusPay B (opusInv B) := by
  intro st frame h
  refine ⟨List.isEmpty_eq_false_iff.mpr h.1, ?_⟩
  intro x hx
  simp only [opusPay, opusPayload, List.mem_singleton] at hx
  subst hx; exact h.2

theorem opus_dep (B : UInt16) : DepOk opusPay opusDepack B (opusInv B) := by
  intro st frame r h
  cases frame with
  | nil => exact absurd rfl h.1
  | cons a t => simp [opusPay, opusPayload, depackAll, opusDepack, opusUnmarshal, Res.isOk, resBytes]

open Rtp.Proofs.VP8 in
/-- domain: the payloader has packetized `k` frames (for some `k`), the frame is non-empty and the
    budget exceeds the descriptor the payloader will write (1 octet, or 3 / 4 with picture ids) -/
def vp8Inv (enable : Bool) (B : UInt16) : VP8Pay → Bytes → Prop := fun st frame =>
  frame ≠ [] ∧ ∃ k, st = payState enable k ∧ Rtp.Pred.C11.hdrLen enable k < B.toNat

theorem vp8_fits (enable : Bool) (B : UInt16) : PayFits vp8Pay B (vp8Inv enable B) := by
  intro st frame h
  refine ⟨List.isEmpty_eq_false_iff.mpr h.1, ?_⟩
  intro x hx
  exact (Rtp.Proofs.VP8.payload_frag st B (some frame) x hx).1

open Rtp.Proofs.VP8 in
theorem depackAll_vp8_map (enable : Bool) (k : Nat) (first : Bool) : ∀ (cs : List Bytes) (p : VP8Packet),
    (depackAll vp8Depack p (cs.map (fun c => (payDesc enable k first).encode ++ c))).1 = cs.map Res.ok := by
  intro cs
  induction cs with
  | nil => intro p; rfl
  | cons c cs ih =>
    intro p
    simp only [List.map_cons, depackAll, vp8Depack, unmarshal_encode _ (payDesc_wf enable k first), ih]

open Rtp.Proofs.VP8 in
theorem vp8_dep (enable : Bool) (B : UInt16) : DepOk vp8Pay vp8Depack B (vp8Inv enable B) := by
  intro st frame r h
  obtain ⟨hne, k, rfl, hm⟩ := h
  obtain ⟨c, cs, _, hp, hfl, _, _⟩ := payload_spec enable k B frame hm hne
  have : (depackAll vp8Depack r (vp8Pay (payState enable k) B frame).1).1 = (c :: cs).map Res.ok := by
    show (depackAll vp8Depack r (vp8Payload (payState enable k) B (some frame)).1).1 = _
    rw [hp]
    simp only [depackAll, vp8Depack, unmarshal_encode _ (payDesc_wf enable k true), List.map_cons]
    rw [depackAll_vp8_map]
  rw [this]
  exact ⟨Res.all_isOk_map_ok _, by rw [flatMap_resBytes_ok]; exact hfl⟩

open Rtp.Proofs.VP8 in
theorem vp8_next (enable : Bool) (B : UInt16) (k : Nat) (frame : Bytes)
    (hm : Rtp.Pred.C11.hdrLen enable k < B.toNat) (hne : frame ≠ []) :
    (vp8Pay (payState enable k) B frame).2 = payState enable (k + 1) := by
  show (vp8Payload (payState enable k) B (some frame)).2 = _
  rw [payload_proper enable k B frame hm hne]

theorem vp8_hdrLen_le (enable : Bool) (k : Nat) : Rtp.Pred.C11.hdrLen enable k ≤ vp8MaxHdr enable := by
  simp only [Rtp.Pred.C11.hdrLen, vp8MaxHdr]
  cases enable <;> simp <;> split <;> omega

open Rtp.Proofs.VP8 in
/-- a history of non-empty frames from a payloader that has sent `k` frames, budget above the
    longest descriptor: the hypotheses hold along the whole history -/
theorem vp8_payOk (enable : Bool) (B : UInt16) (hB : vp8MaxHdr enable < B.toNat) (fs : List FrameIn) (k : Nat)
    (hne : ∀ f ∈ fs, f.frame ≠ []) : PayOk vp8Pay B (vp8Inv enable B) (payState enable k) fs := by
  refine payOk_of vp8Pay B (vp8Inv enable B) (fun st => ∃ k, st = payState enable k) (fun fr => fr ≠ [])
    ?_ ?_ fs _ ⟨k, rfl⟩ hne
  · intro st fr ⟨k, hk⟩ hd
    exact ⟨hd, k, hk, Nat.lt_of_le_of_lt (vp8_hdrLen_le enable k) hB⟩
  · intro st fr ⟨k, hk⟩ hd
    subst hk
    exact ⟨k + 1, vp8_next enable B k fr (Nat.lt_of_le_of_lt (vp8_hdrLen_le enable k) hB) hd⟩

/-- the results `C12.obsFrags` records are the depacketizer run's, error kinds forgotten -/
theorem obsFrags_res : ∀ (l : List Bytes) (p : VP9Packet),
    (Rtp.Pred.C12.obsFrags p l).1.map (·.res) = (depackAll vp9Depack p l).1.map Res.coarse := by
  intro l
  induction l with
  | nil => intro p; rfl
  | cons a l ih =>
    intro p
    simp only [Rtp.Pred.C12.obsFrags, depackAll, vp9Depack, List.map_cons, ih]

theorem coarse_resBytes (l : List (Res Bytes)) : (l.map Res.coarse).flatMap resBytes = l.flatMap resBytes := by
  induction l with
  | nil => rfl
  | cons a l ih => cases a <;> simp [Res.coarse, resBytes, ih]

theorem fragPayload_eq (l : List Rtp.Pred.C12.FragObs) :
    (l.map Rtp.Pred.C12.fragPayload).flatten = (l.map (·.res)).flatMap resBytes := by
  induction l with
  | nil => rfl
  | cons a l ih =>
    simp only [List.map_cons, List.flatten_cons, List.flatMap_cons, ih]
    congr 1

theorem mask15_lt (x : UInt16) : x &&& 0x7FFF < 32768 := by
  rw [Rtp.Proofs.VP9.mask15, UInt16.lt_iff_toNat_lt]
  simp only [Nat.toUInt16, UInt16.toNat_ofNat', UInt16.reduceToNat]
  omega

theorem h264Frame_WF_of_wf (fr : H264Frame) (h : fr.wf = true) : fr.WF := by
  simp only [H264Frame.wf, Bool.and_eq_true, Bool.or_eq_true, Bool.not_eq_true', beq_iff_eq, List.all_eq_true] at h
  refine ⟨?_, ?_, h.2⟩
  · intro he; simp [he] at h
  · intro hb; rcases h.1.2 with h' | h'
    · rw [hb] at h'; cases h'
    · exact h'

open Rtp.Model.H264 Rtp.Spec.Rfc6184 Rtp.Pred in
theorem h264_buffer_ne (fr : H264Frame) (hw : fr.WF) : fr.buffer ≠ [] := by
  obtain ⟨hne, hb, hu⟩ := hw
  simp only [H264Frame.buffer, H264Frame.call, C10.RtCall.buffer]
  cases hunits : fr.units with
  | nil => exact absurd hunits hne
  | cons u us =>
    obtain ⟨four, n⟩ := u
    have hn : nalWF n = true := hu (four, n) (by simp [hunits])
    have hn' : n ≠ [] := (Rtp.Proofs.H264.nalOk_of_wf n hn).1
    by_cases hbare : fr.bare = true
    · simp [hbare, hn']
    · cases four <;> simp [hbare, annexB]

def h264Inv : H264.PayState → Bytes → Prop := fun _ frame => frame ≠ []

theorem h264_fits (disable : Bool) (B : UInt16) : PayFits (h264Pay disable) B h264Inv := by
  intro st frame h
  refine ⟨List.isEmpty_eq_false_iff.mpr h, ?_⟩
  intro x hx
  exact (Rtp.Proofs.H264.payload_bounded disable B st frame x hx).2

theorem h264_payOk (disable : Bool) (B : UInt16) (frames : List H264Frame) (hw : ∀ fr ∈ frames, fr.WF)
    (st : H264.PayState) :
    PayOk (h264Pay disable) B h264Inv st (frames.map H264Frame.frameIn) := by
  refine payOk_of (h264Pay disable) B h264Inv (fun _ => True) (fun fr => fr ≠ []) (fun _ _ _ h => h)
    (fun _ _ _ _ => trivial) _ st trivial ?_
  intro f hf
  obtain ⟨fr, hfr, rfl⟩ := List.mem_map.mp hf
  exact h264_buffer_ne fr (hw fr hfr)

open Rtp.Model.H264.Obs in
/-- the fragments of a history of frames are C10's `fragsCalls` of the corresponding calls -/
theorem h264_fragsHist (disable : Bool) (B : UInt16) : ∀ (frames : List H264Frame) (st : H264.PayState),
    fragsHist (h264Pay disable) B st (frames.map H264Frame.frameIn) =
      fragsCalls disable st (frames.map (H264Frame.call B)) := by
  intro frames
  induction frames with
  | nil => intro st; rfl
  | cons fr frs ih =>
    intro st
    simp only [List.map_cons, fragsHist, fragsCalls, ih]
    rfl

/-- one H264Packet receiver fed with payloads in order is C10's `run` -/
theorem h264_depackAll (avc : Bool) : ∀ (ps : List Bytes) (buf : Bytes),
    depackAll (h264Depack avc) buf ps = H264.run avc buf ps := by
  intro ps
  induction ps with
  | nil => intro buf; rfl
  | cons p ps ih => intro buf; simp only [depackAll, H264.run, h264Depack, ih]

theorem resBytes_eq : resBytes = Rtp.Pred.C10.resBytes := by
  funext r; cases r <;> rfl

end Rtp.Proofs.Pipeline
