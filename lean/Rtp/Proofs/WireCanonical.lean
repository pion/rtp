/-
  Rtp/Proofs/WireCanonical.lean — a canonical wire description (no pad items, zero filler, no
  reserved id) is recovered from the packet it describes: `ofPacket ∘ toPacket = id`; and the parse lemmas
  restated for well-formed descriptions outside the two known-finding regions (`pktUnmarshal_encode_wf`).
-/
import Rtp.Proofs.WireParsed
namespace Rtp.Proofs.Wire
open Rtp Rtp.Model Rtp.Spec.Wire

theorem toItems_elems (items : List Item) (h : noPads items = true) : toItems (elems items) = items := by
  induction items with
  | nil => rfl
  | cons it r ih =>
    simp only [noPads, List.all_cons, Bool.and_eq_true] at h
    cases it with
    | pad => simp at h
    | elem id d =>
      simp only [elems, toItems, List.map_cons]
      congr 1
      exact ih (by simpa [noPads] using h.2)

theorem rep_of_all_zero (f : Bytes) (h : f.all (· == 0) = true) : rep f.length 0 = f := by
  induction f with
  | nil => rfl
  | cons b r ih =>
    simp only [List.all_cons, Bool.and_eq_true, beq_iff_eq] at h
    simp only [rep, List.length_cons, List.replicate_succ, h.1]
    congr 1
    exact ih h.2

theorem hdrOf_empty (w : Wire) : hdrOf {} w = w.toPacket.header := by
  cases hx : w.ext <;> simp [hdrOf, Wire.toPacket, hx]

theorem pktUnmarshal_encode_wf (w : Wire) (hw : w.WF = true) (hi : w.ignored = 0) (ha : w.appbits = false) (r : Packet) :
    pktUnmarshal r w.encode =
      .ok { header := hdrOf r.header w, payload := w.payload, paddingSize := w.toPacket.paddingSize } :=
  pktUnmarshal_encode w r (wireOk_of_WF w hw ha) hi

theorem pktUnmarshal_encode_fresh (w : Wire) (hw : w.WF = true) (hi : w.ignored = 0) (ha : w.appbits = false) :
    pktUnmarshal {} w.encode = .ok w.toPacket := by
  rw [pktUnmarshal_encode_wf w hw hi ha, show ({} : Packet).header = ({} : Header) from rfl, hdrOf_empty]
  rfl

theorem pad_roundtrip (f : Bytes) (hl : f.length ≤ 254) (hz : f.all (· == 0) = true) :
    rep ((f.length + 1).toUInt8.toNat - 1) 0 = f := by
  have : (f.length + 1).toUInt8.toNat - 1 = f.length := by simp [Nat.toUInt8]; omega
  rw [this, rep_of_all_zero f hz]

theorem extOf_block (hd : Header) (b : ExtBlock) (hc : b.canonical = true) (hwf : b.WF = true) :
    extOf { hd with extension := true, extProfile := b.profile, exts := b.elements } = some b := by
  cases b with
  | oneByte items stop =>
    simp only [ExtBlock.canonical, Bool.and_eq_true, Option.isNone_iff_eq_none] at hc
    obtain ⟨h1, h2⟩ := hc
    subst h2
    simp [extOf, ExtBlock.profile, ExtBlock.elements, profileOneByte, toItems_elems _ h1]
  | twoByte a items =>
    simp only [ExtBlock.canonical, Bool.and_eq_true, beq_iff_eq] at hc
    obtain ⟨h1, h2⟩ := hc
    subst h1
    have e1 : ((0x1000 + (0 : UInt8).toNat).toUInt16 == profileOneByte) = false := by decide
    have e2 : ((0x1000 + (0 : UInt8).toNat).toUInt16 == profileTwoByte) = true := by decide
    simp only [extOf, ExtBlock.profile, ExtBlock.elements, e1, e2, ↓reduceIte, Bool.false_eq_true, toItems_elems _ h2]
  | legacy p ws =>
    simp only [ExtBlock.WF, Bool.and_eq_true, bne_iff_ne, ne_eq] at hwf
    have e1 : (p == profileOneByte) = false := by simpa [profileOneByte] using hwf.1.1.1
    have e2 : (p == profileTwoByte) = false := by
      have := legacy_profile p (by simpa using hwf.1.1.2)
      simpa [profileTwoByte] using this
    simp [extOf, ExtBlock.profile, ExtBlock.elements, e1, e2]

theorem ofPacket_toPacket (w : Wire) (h : w.canonical = true) : ofPacket w.toPacket = w := by
  simp only [Wire.canonical, Bool.and_eq_true] at h
  obtain ⟨⟨hwf, hext⟩, hpad⟩ := h
  simp only [Wire.WF, Bool.and_eq_true] at hwf
  obtain ⟨⟨_, hewf⟩, hpwf⟩ := hwf
  obtain ⟨v, m, pt, sq, ts, ss, cs, ext, pl, pad⟩ := w
  simp only at hext hpad hewf hpwf
  have hE : extOf (Wire.toPacket ⟨v, m, pt, sq, ts, ss, cs, ext, pl, pad⟩).header = ext := by
    cases ext with
    | none => simp [Wire.toPacket, extOf]
    | some b =>
      have := extOf_block { version := v, padding := pad.isSome, marker := m, payloadType := pt, seq := sq, ts := ts, ssrc := ss, csrc := cs } b hext hewf
      simpa [Wire.toPacket] using this
  cases pad with
  | none =>
    simp only [Wire.toPacket, Option.isSome_none] at hE
    simp [ofPacket, hE, Wire.toPacket]
  | some f =>
    simp only [decide_eq_true_eq] at hpwf hpad
    simp only [Wire.toPacket, Option.isSome_some] at hE
    simp [ofPacket, hE, Wire.toPacket]
    simpa using pad_roundtrip f hpwf hpad

end Rtp.Proofs.Wire
