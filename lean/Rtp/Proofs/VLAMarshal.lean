/-
  Rtp/Proofs/VLAMarshal.lean — C19, the sender.  Validation (`preprocess`, with the two checks before
  it as `validated`); the slot table is a permutation of the validated layers in (stream, spatial id)
  order; the sized buffer is filled exactly (`marshal v = validated v (.ok (marshalBody v))`), so
  Marshal never panics; on a valid allocation the sections are those of `VlaSpec.encode`.
-/
import Rtp.Model.VLA
import Rtp.Pred.C19
import Rtp.Proofs.Leb128Go
import Rtp.Proofs.Lib.BitField
import Rtp.Proofs.Lib.Lists
namespace Rtp.Model.Vla
open Rtp Rtp.Spec.VlaSpec Rtp.Bits

/-- what preprocessForMashaling checks of one layer -/
def LayerOk (count : Int) (l : Layer) : Prop :=
  0 ≤ l.stream ∧ l.stream < count ∧ 0 ≤ l.spatial ∧ l.spatial < 4 ∧
  1 ≤ l.rates.length ∧ l.rates.length ≤ 4

def SameSlot (a b : Layer) : Prop := a.stream = b.stream ∧ a.spatial = b.spatial

theorem preprocess_cons_none (count : Int) (l : Layer) (rest : List Layer) (seen : List (Int × Int)) :
    preprocess count (l :: rest) seen = none ↔
      LayerOk count l ∧ (l.stream, l.spatial) ∉ seen ∧
        preprocess count rest ((l.stream, l.spatial) :: seen) = none := by
  rw [preprocess, LayerOk]
  simp only [Bool.or_eq_true, decide_eq_true_eq, beq_iff_eq, List.contains_iff_mem]
  split
  · exact ⟨nofun, fun h => by omega⟩
  split
  · exact ⟨nofun, fun h => by omega⟩
  split
  · exact ⟨nofun, fun h => by omega⟩
  split
  · exact ⟨nofun, fun h => absurd ‹_› h.2.1⟩
  · exact ⟨fun h => ⟨by omega, ‹_›, h⟩, fun h => h.2.2⟩

theorem preprocess_none_iff (count : Int) (ls : List Layer) :
    ∀ seen : List (Int × Int), preprocess count ls seen = none ↔
      ((∀ l ∈ ls, LayerOk count l ∧ (l.stream, l.spatial) ∉ seen) ∧
       ls.Pairwise (fun a b => ¬ SameSlot a b)) := by
  induction ls with
  | nil => intro seen; simp [preprocess]
  | cons l rest ih =>
    intro seen
    rw [preprocess_cons_none, ih]
    have hx : ∀ x : Layer, (x.stream, x.spatial) ∉ (l.stream, l.spatial) :: seen ↔
        ¬ SameSlot l x ∧ (x.stream, x.spatial) ∉ seen := fun x => by
      rw [List.mem_cons, not_or, Prod.mk.injEq, SameSlot, eq_comm, @eq_comm _ x.spatial]
    simp only [hx, List.forall_mem_cons, List.pairwise_cons]
    exact ⟨fun ⟨ok, ns, hall, hp⟩ => ⟨⟨⟨ok, ns⟩, fun x m => ⟨(hall x m).1, (hall x m).2.2⟩⟩, fun x m => (hall x m).2.1, hp⟩,
      fun ⟨⟨⟨ok, ns⟩, hall⟩, hd, hp⟩ => ⟨ok, ns, fun x m => ⟨(hall x m).1, hd x m, (hall x m).2⟩, hp⟩⟩

theorem layerOk_of_wf {c : Int} {l : Layer} (h : l.WF c) : LayerOk c l :=
  ⟨h.1, h.2.1, h.2.2.1, h.2.2.2.1, h.2.2.2.2.1, h.2.2.2.2.2.1⟩

theorem rates_of_wf {c : Int} {l : Layer} (h : l.WF c) : ∀ k ∈ l.rates, 0 ≤ k ∧ k < 2 ^ 63 := h.2.2.2.2.2.2

theorem preprocess_wf (v : VLA) (h : v.WF) : preprocess v.count v.layers [] = none := by
  obtain ⟨_, _, _, _, _, hs, hw, _⟩ := h
  exact (preprocess_none_iff ..).mpr ⟨fun l hl => ⟨layerOk_of_wf (hw l hl), List.not_mem_nil⟩,
    hs.imp fun hab hsame => by unfold Layer.before at hab; unfold SameSlot at hsame; omega⟩

/-- what `Marshal` and its statement-by-statement model do before writing: the three checks in Go's
    order with the comparisons read as ranges; `k` is what happens once they have passed -/
def validated (v : VLA) (k : MRes) : MRes :=
  if ¬ (1 ≤ v.count ∧ v.count ≤ 4) then .err .streamCount
  else if ¬ (0 ≤ v.rid ∧ v.rid < v.count) then .err .streamID
  else match preprocess v.count v.layers [] with
    | some e => .err e
    | none => k

/-- the left side is how `marshal` and `marshalGo` begin, with Go's comparisons -/
theorem validated_eq (v : VLA) (k : MRes) :
    (if v.count ≤ 0 || v.count > 4 then MRes.err .streamCount
     else if v.rid < 0 || v.rid ≥ v.count then .err .streamID
     else match preprocess v.count v.layers [] with
       | some e => .err e
       | none => k) = validated v k := by
  have hc : (decide (v.count ≤ 0) || decide (v.count > 4)) = true ↔ ¬ (1 ≤ v.count ∧ v.count ≤ 4) := by
    rw [Bool.or_eq_true, decide_eq_true_eq, decide_eq_true_eq]; omega
  have hr : (decide (v.rid < 0) || decide (v.rid ≥ v.count)) = true ↔ ¬ (0 ≤ v.rid ∧ v.rid < v.count) := by
    rw [Bool.or_eq_true, decide_eq_true_eq, decide_eq_true_eq]; omega
  simp only [validated, hc, hr]

theorem validated_congr (v : VLA) {k k' : MRes}
    (h : 1 ≤ v.count ∧ v.count ≤ 4 → 0 ≤ v.rid ∧ v.rid < v.count → preprocess v.count v.layers [] = none → k = k') :
    validated v k = validated v k' := by
  unfold validated
  split
  · rfl
  split
  · rfl
  rename_i hc hr
  split
  · rfl
  · rename_i hp; rw [h (Decidable.not_not.mp hc) (Decidable.not_not.mp hr) hp]

/-- position of a layer's slot in the order `tableOrder` visits them: streams outside, spatial ids inside -/
def lkey (l : Layer) : Nat := 4 * l.stream.toNat + l.spatial.toNat

theorem tableOrder_flat (layers : List Layer) (c : Nat) :
    tableOrder c layers = (List.range (4 * c)).filterMap (fun i => slot layers (i / 4) (i % 4)) := by
  induction c with
  | zero => rfl
  | succ c ih =>
    rw [Nat.mul_succ, List.range_add, List.filterMap_append, ← ih, List.filterMap_map, tableOrder, tableOrder,
      List.range_succ (n := c), List.flatMap_append, List.flatMap_cons, List.flatMap_nil, List.append_nil]
    refine congrArg _ (filterMap_congr' fun k hk => ?_)
    have hk' : k < 4 := List.mem_range.mp hk
    rw [Function.comp_apply, Nat.mul_add_div (by decide), Nat.mul_add_mod, Nat.div_eq_of_lt hk', Nat.mod_eq_of_lt hk']
    rfl

/-- the test by which `slot` finds the layer of stream `s`, spatial id `k` -/
def hit (s k : Nat) (l : Layer) : Bool := l.stream == (s : Int) && l.spatial == (k : Int)

/-- a validated layer's slot as natural numbers; below, `omega` then sees no `Int.toNat` -/
theorem slot_nat {c : Int} {l : Layer} (h : LayerOk c l) :
    ∃ s k : Nat, l.stream = s ∧ l.spatial = k ∧ k < 4 ∧ (s : Int) < c ∧ lkey l = 4 * s + k :=
  ⟨l.stream.toNat, l.spatial.toNat, by unfold LayerOk at h; omega, by unfold LayerOk at h; omega,
    by unfold LayerOk at h; omega, by unfold LayerOk at h; omega, rfl⟩

theorem lkey_lt {c : Int} {l : Layer} (h : LayerOk c l) : lkey l < 4 * c.toNat := by
  obtain ⟨s, k, _, _, hk, hs, e⟩ := slot_nat h; omega

theorem hit_iff_lkey {c : Int} {l : Layer} (h : LayerOk c l) (i : Nat) : hit (i / 4) (i % 4) l = true ↔ lkey l = i := by
  obtain ⟨s, k, hs, hk, hk4, _, e⟩ := slot_nat h
  rw [hit, Bool.and_eq_true, beq_iff_eq, beq_iff_eq, hs, hk, e]; omega

theorem lkey_ne {c : Int} {a b : Layer} (ha : LayerOk c a) (hb : LayerOk c b) (h : ¬ SameSlot a b) : lkey a ≠ lkey b := fun e => by
  have h1 := (hit_iff_lkey ha _).mpr e
  have h2 := (hit_iff_lkey hb _).mpr rfl
  rw [hit, Bool.and_eq_true, beq_iff_eq, beq_iff_eq] at h1 h2
  exact h ⟨h1.1.trans h2.1.symm, h1.2.trans h2.2.symm⟩

theorem tableOrder_perm (layers : List Layer) (count : Int)
    (hw : ∀ l ∈ layers, LayerOk count l) (hp : layers.Pairwise (fun a b => ¬ SameSlot a b)) :
    (tableOrder count.toNat layers).Perm layers ∧
    (tableOrder count.toNat layers).Pairwise (fun a b => lkey a < lkey b) := by
  rw [tableOrder_flat]
  exact filterMap_find_perm lkey (fun i => hit (i / 4) (i % 4)) layers _
    (hp.imp_of_mem fun ha hb h => lkey_ne (hw _ ha) (hw _ hb) h) (fun l hl => lkey_lt (hw l hl))
    (fun l hl i => hit_iff_lkey (hw l hl) i)

theorem tableOrder_sorted (layers : List Layer) (count : Int)
    (hs : layers.Pairwise Layer.before) (hw : ∀ l ∈ layers, l.WF count) :
    tableOrder count.toNat layers = layers := by
  have hok : ∀ l ∈ layers, LayerOk count l := fun l hl => layerOk_of_wf (hw l hl)
  have hlt : layers.Pairwise (fun a b => lkey a < lkey b) :=
    hs.imp_of_mem fun ha hb h => by
      obtain ⟨s, k, es, ek, _, _, e⟩ := slot_nat (hok _ ha)
      obtain ⟨s', k', es', ek', _, _, e'⟩ := slot_nat (hok _ hb)
      rw [Layer.before, es, ek, es', ek'] at h; omega
  have ⟨hperm, hsorted⟩ := tableOrder_perm layers count hok
    (hlt.imp fun h s => by rw [lkey, lkey, s.1, s.2] at h; exact Nat.lt_irrefl _ h)
  exact hperm.eq_of_pairwise (fun a b _ _ h h' => absurd h (Nat.lt_asymm h')) hsorted hlt

/-! ## Packed bytes: four 2-bit fields, two 4-bit fields

  The facts about one byte are finite: each is a table over `Fin 4` / `Fin 16` values checked by evaluation,
  and the lemma over lists instantiates it at the list's entries (`getD_lt` bounds them). -/

/-- the byte holding the first four 2-bit fields of `l`, most significant first, zero padded -/
def quad (l : List Nat) : UInt8 :=
  (64 * l.getD 0 0 + 16 * l.getD 1 0 + 4 * l.getD 2 0 + l.getD 3 0).toUInt8

theorem pack2_eq : ∀ l : List Nat, pack2 l = if l = [] then [] else quad l :: pack2 (l.drop 4)
  | [] => rfl
  | [_] => rfl
  | [_, _] => rfl
  | [_, _, _] => rfl
  | _ :: _ :: _ :: _ :: _ => rfl

theorem quad_field_table : ∀ a b c d i : Fin 4,
    ((quad [a.val, b.val, c.val, d.val] >>> (2 * (3 - i.val)).toUInt8) &&& 3).toNat =
      [a.val, b.val, c.val, d.val].getD i.val 0 := by
  decide +kernel

/-- field `i` read back the way `rdTl` does -/
theorem quad_field (l : List Nat) (h : ∀ x ∈ l, x < 4) (i : Nat) (hi : i < 4) :
    ((quad l >>> (2 * (3 - i)).toUInt8) &&& 3).toNat = l.getD i 0 :=
  (quad_field_table ⟨_, getD_lt h 0⟩ ⟨_, getD_lt h 1⟩ ⟨_, getD_lt h 2⟩
    ⟨_, getD_lt h 3⟩ ⟨i, hi⟩).trans
    (match i, hi with | 0, _ | 1, _ | 2, _ | 3, _ => rfl)

theorem quad_or_table : ∀ p q r a : Fin 4,
    a.val.toUInt8 <<< (6 : Nat).toUInt8 = quad [a.val] ∧
    quad [p.val] ||| (a.val.toUInt8 <<< (4 : Nat).toUInt8) = quad [p.val, a.val] ∧
    quad [p.val, q.val] ||| (a.val.toUInt8 <<< (2 : Nat).toUInt8) = quad [p.val, q.val, a.val] ∧
    quad [p.val, q.val, r.val] ||| (a.val.toUInt8 <<< (0 : Nat).toUInt8) = quad [p.val, q.val, r.val, a.val] := by
  decide +kernel

/-- the #tl loop's `|=`: the next field goes below the `l.length` fields already in the byte -/
theorem quad_or : ∀ (l : List Nat), (∀ x ∈ l, x < 4) → l.length < 4 → ∀ a, a < 4 →
    quad l ||| (a.toUInt8 <<< (2 * (3 - l.length)).toUInt8) = quad (l ++ [a])
  | [], _, _, a, ha => UInt8.zero_or.trans (quad_or_table 0 0 0 ⟨a, ha⟩).1
  | [_], h, _, a, ha => (quad_or_table ⟨_, getD_lt h 0⟩ 0 0 ⟨a, ha⟩).2.1
  | [_, _], h, _, a, ha => (quad_or_table ⟨_, getD_lt h 0⟩ ⟨_, getD_lt h 1⟩ 0 ⟨a, ha⟩).2.2.1
  | [_, _, _], h, _, a, ha => (quad_or_table ⟨_, getD_lt h 0⟩ ⟨_, getD_lt h 1⟩ ⟨_, getD_lt h 2⟩ ⟨a, ha⟩).2.2.2
  | _ :: _ :: _ :: _ :: _, _, hl, _, _ => absurd hl (Nat.not_lt.mpr (Nat.le_add_left 4 _))

theorem quad_one (a : Nat) (ha : a < 4) : a.toUInt8 <<< (2 * (3 - 0) : Nat).toUInt8 = quad [a] :=
  (quad_or_table 0 0 0 ⟨a, ha⟩).1

theorem quad_append (l r : List Nat) (h : 4 ≤ l.length) : quad (l ++ r) = quad l := by
  simp (disch := omega) only [quad, List.getD_eq_getElem?_getD, List.getElem?_append_left]

/-- the byte holding the first two 4-bit fields of `l`, high nibble first, zero padded -/
def nib (l : List Nat) : UInt8 := (16 * l.getD 0 0 + l.getD 1 0).toUInt8

theorem packNibbles_eq : ∀ l : List Nat, packNibbles l = if l = [] then [] else nib l :: packNibbles (l.drop 2)
  | [] => rfl
  | [_] => rfl
  | _ :: _ :: _ => rfl

theorem nib_table : ∀ a b : Fin 16,
    (a.val.toUInt8 <<< 4) ||| b.val.toUInt8 = nib [a.val, b.val] ∧
    (nib [a.val, b.val] >>> 4) &&& 15 = a.val.toUInt8 ∧ nib [a.val, b.val] &&& 15 = b.val.toUInt8 := by
  decide +kernel

theorem nib_hi (l : List Nat) (h : ∀ x ∈ l, x < 16) : (nib l >>> 4) &&& 15 = (l.getD 0 0).toUInt8 :=
  (nib_table ⟨_, getD_lt h 0⟩ ⟨_, getD_lt h 1⟩).2.1

theorem nib_lo (l : List Nat) (h : ∀ x ∈ l, x < 16) : nib l &&& 15 = (l.getD 1 0).toUInt8 :=
  (nib_table ⟨_, getD_lt h 0⟩ ⟨_, getD_lt h 1⟩).2.2

theorem nib_or (a b : Nat) (ha : a < 16) (hb : b < 16) : (a.toUInt8 <<< 4) ||| b.toUInt8 = nib [a, b] :=
  (nib_table ⟨a, ha⟩ ⟨b, hb⟩).1

theorem nib_shl (a : Nat) (ha : a < 16) : a.toUInt8 <<< 4 = nib [a] :=
  UInt8.or_zero.symm.trans (nib_or a 0 ha (by decide))

theorem packNibbles_length : ∀ l : List Nat, (packNibbles l).length = (l.length + 1) / 2
  | [] => rfl
  | [_] => show 1 = 2 / 2 from rfl
  | _ :: _ :: r => by
    show (packNibbles r).length + 1 = (r.length + 1 + 2) / 2
    rw [packNibbles_length r, Nat.add_div_right _ (by decide : 0 < 2)]

theorem pack2_length : ∀ (l : List Nat), (pack2 l).length = (l.length + 3) / 4
  | [] => rfl
  | [_] => show 1 = 4 / 4 from rfl
  | [_, _] => show 1 = 5 / 4 from rfl
  | [_, _, _] => show 1 = 6 / 4 from rfl
  | _ :: _ :: _ :: _ :: r => by
    show (pack2 r).length + 1 = (r.length + 3 + 4) / 4
    rw [pack2_length r, Nat.add_div_right _ (by decide : 0 < 4)]

theorem maskBytes_length : ∀ l : List UInt8, (maskBytes l).length = (l.length + 1) / 2
  | [] => rfl
  | [_] => show 1 = 2 / 2 from rfl
  | _ :: _ :: r => by
    show (maskBytes r).length + 1 = (r.length + 1 + 2) / 2
    rw [maskBytes_length r, Nat.add_div_right _ (by decide : 0 < 2)]

def bmOf (b0 b1 b2 b3 : Bool) : Nat :=
  (if b0 then 1 else 0) + (if b1 then 2 else 0) + (if b2 then 4 else 0) + (if b3 then 8 else 0)

theorem bmOf_or : ∀ (b0 b1 b2 b3 : Bool) (k : Fin 4),
    (bmOf b0 b1 b2 b3).toUInt8 ||| ((1 : UInt8) <<< k.val.toUInt8) =
      (bmOf (b0 || k.val == 0) (b1 || k.val == 1) (b2 || k.val == 2) (b3 || k.val == 3)).toUInt8 := by
  decide +kernel

theorem bmOf_bit : ∀ (b0 b1 b2 b3 : Bool) (k : Fin 4),
    (((bmOf b0 b1 b2 b3).toUInt8 &&& ((1 : UInt8) <<< k.val.toUInt8)) == 0) =
      !(if k.val = 0 then b0 else if k.val = 1 then b1 else if k.val = 2 then b2 else b3) := by decide +kernel

theorem bmOf_lt (b0 b1 b2 b3 : Bool) : bmOf b0 b1 b2 b3 < 16 := by
  unfold bmOf; cases b0 <;> cases b1 <;> cases b2 <;> cases b3 <;> decide

theorem slMB_fold {c : Int} (s : Nat) (ls : List Layer) (hw : ∀ l ∈ ls, LayerOk c l) : ∀ b0 b1 b2 b3 : Bool,
    ls.foldl (fun a l => if l.stream == (s : Int) then a ||| ((1 : UInt8) <<< l.spatial.toNat.toUInt8) else a)
        (bmOf b0 b1 b2 b3).toUInt8 =
      (bmOf (b0 || ls.any (hit s 0)) (b1 || ls.any (hit s 1)) (b2 || ls.any (hit s 2))
        (b3 || ls.any (hit s 3))).toUInt8 := by
  induction ls with
  | nil => intro _ _ _ _; simp only [List.foldl_nil, List.any_nil, Bool.or_false]
  | cons l ls ih =>
    intro b0 b1 b2 b3
    have ih := ih fun x hx => hw x (List.mem_cons_of_mem _ hx)
    obtain ⟨s', k, hs, hk, hk4, _, _⟩ := slot_nat (hw l List.mem_cons_self)
    have hh : ∀ j : Nat, hit s j l = ((s' : Int) == (s : Int) && k == j) := fun j => by
      rw [hit, hs, hk]
      exact congrArg _ (Bool.eq_iff_iff.mpr (by rw [beq_iff_eq, beq_iff_eq, Int.natCast_inj]))
    rw [List.foldl_cons, hs, hk, Int.toNat_natCast]
    simp only [List.any_cons, hh]
    cases (s' : Int) == (s : Int)
    · simp only [Bool.false_eq_true, if_false, Bool.false_and, Bool.false_or]
      exact ih ..
    · simp only [if_true, Bool.true_and, ← Bool.or_assoc]
      rw [← ih, ← bmOf_or b0 b1 b2 b3 ⟨k, hk4⟩]

theorem slMB_eq (v : VLA) (s : Nat) (hw : ∀ l ∈ v.layers, LayerOk v.count l) :
    slMB v.layers s = (bm v s).toUInt8 :=
  slMB_fold s v.layers hw false false false false

theorem bm_lt (v : VLA) (s : Nat) : bm v s < 16 :=
  bmOf_lt (active v s 0) (active v s 1) (active v s 2) (active v s 3)

theorem slBm_lt (v : VLA) : slBm v < 16 := by
  unfold slBm; split
  · exact bm_lt v 0
  · omega

theorem range_1 : List.range 1 = [0] := rfl
theorem range_2 : List.range 2 = [0, 1] := rfl
theorem range_3 : List.range 3 = [0, 1, 2] := rfl
theorem range_4 : List.range 4 = [0, 1, 2, 3] := rfl

theorem byteOfInt_eq (x : Int) (h : 0 ≤ x) : byteOfInt x = x.toNat.toUInt8 := by
  rw [byteOfInt, show (x % 256).toNat = x.toNat % 256 from Int.toNat_emod h (by decide), toUInt8_mod]

theorem maskBytes_map (l : List Nat) : (∀ x ∈ l, x < 16) → maskBytes (l.map Nat.toUInt8) = packNibbles l := by
  induction l using packNibbles.induct with
  | case1 => intro _; rfl
  | case2 a => intro h; rw [packNibbles_eq]; exact congrArg (· :: []) (nib_shl a (h a List.mem_cons_self))
  | case3 a b r ih =>
    intro h
    rw [packNibbles_eq, List.map_cons, List.map_cons, maskBytes,
      nib_or a b (h a List.mem_cons_self) (h b (List.mem_cons_of_mem _ List.mem_cons_self)),
      ih fun x hx => h x (List.mem_cons_of_mem _ (List.mem_cons_of_mem _ hx))]
    rfl

theorem header_pack : ∀ (r c : Fin 4) (m : Fin 16),
    (64 * r.val).toUInt8 ||| (c.val.toUInt8 <<< 4) ||| m.val.toUInt8 = (64 * r.val + 16 * c.val + m.val).toUInt8 := by
  decide +kernel

theorem map_slMB_eq (v : VLA) (hw : ∀ l ∈ v.layers, LayerOk v.count l) :
    (List.range v.count.toNat).map (slMB v.layers) = ((List.range (ns v)).map (bm v)).map Nat.toUInt8 := by
  rw [List.map_map]
  exact List.map_congr_left fun s _ => slMB_eq v s hw

theorem commonSLBM_eq_slBm (v : VLA) (hn : 1 ≤ ns v) :
    commonSLBM (((List.range (ns v)).map (bm v)).map Nat.toUInt8) = (slBm v).toUInt8 := by
  obtain ⟨m, hm⟩ : ∃ m, ns v = m + 1 := ⟨ns v - 1, by omega⟩
  have hlt : ∀ s, bm v s < 256 := fun s => Nat.lt_trans (bm_lt v s) (by decide)
  -- both sides test streams 1 … m against stream 0; the casts to `UInt8` lose nothing below 256
  rw [slBm, hm, List.range_succ_eq_map, List.map_cons, List.map_cons, commonSLBM, List.all_cons, beq_self_eq_true,
    Bool.true_and, List.all_map, List.all_map, List.all_map, List.all_map, apply_ite Nat.toUInt8]
  exact congrArg (fun b : Bool => if b = true then (bm v 0).toUInt8 else 0)
    (List.all_congr rfl fun s => toUInt8_beq_of_lt (hlt _) (hlt 0))

/-- the #tl loop with the fields `pre` already in the current byte -/
theorem tlLoop_quad (c : Int) : ∀ (L : List Layer) (pre : List Nat) (done : Bytes),
    (∀ l ∈ L, LayerOk c l) → (∀ x ∈ pre, x < 4) → pre.length ≤ 4 → (L ≠ [] ∨ pre ≠ []) →
    tlLoop L pre.length (quad pre) done = done ++ pack2 (pre ++ L.map (fun l => l.rates.length - 1)) := by
  intro L
  induction L with
  | nil =>
    intro pre done _ _ hl hne
    have : pre ≠ [] := by simpa using hne
    rw [tlLoop, List.map_nil, List.append_nil, pack2_eq, if_neg this, List.drop_of_length_le hl, pack2]
  | cons l rest ih =>
    intro pre done hL hpre hl _
    have hl' := (hL l List.mem_cons_self).2.2.2.2
    have hfl : l.rates.length - 1 < 4 := by omega
    have hrest := fun x hx => hL x (List.mem_cons_of_mem l hx)
    rw [tlLoop, byteOfInt_eq _ (by omega), show ((l.rates.length : Int) - 1).toNat = l.rates.length - 1 by omega,
      List.map_cons]
    by_cases h4 : pre.length ≥ 4
    · -- the byte is full: it is emitted and `l` opens the next one
      rw [if_pos h4, quad_one _ hfl, pack2_eq (pre ++ _), if_neg (by simp), List.drop_left' (by omega),
        quad_append _ _ h4]
      exact (ih [_] _ hrest (by simpa using hfl) (Nat.le_of_ble_eq_true rfl) (Or.inr (by simp))).trans (List.append_assoc ..)
    · rw [if_neg h4, quad_or pre hpre (by omega) _ hfl]
      have := ih (pre ++ [l.rates.length - 1]) done hrest (by simpa [or_imp, forall_and] using ⟨hpre, hfl⟩)
        (by rw [List.length_append, List.length_singleton]; omega) (Or.inr (by simp))
      rwa [List.length_append, List.length_singleton, List.append_assoc] at this

theorem tlLoop_eq {c : Int} (L : List Layer) (hne : L ≠ []) (hw : ∀ l ∈ L, LayerOk c l) :
    tlLoop L 0 0 [] = pack2 (L.map (fun l => l.rates.length - 1)) :=
  tlLoop_quad c L [] [] hw nofun (Nat.zero_le 4) (Or.inl hne)

theorem uintOfInt_eq (k : Int) (h : 0 ≤ k ∧ k < 2 ^ 63) : uintOfInt k = k.toNat := by
  unfold uintOfInt
  have : k % 18446744073709551616 = k := Int.emod_eq_of_lt h.1 (by omega)
  rw [this]

theorem encodedRates_flatten (ls : List Layer) (hw : ∀ l ∈ ls, ∀ k ∈ l.rates, 0 ≤ k ∧ k < 2 ^ 63) :
    (encodedRates ls).flatten = ls.flatMap (fun l => l.rates.flatMap (fun k => writeLeb k.toNat)) := by
  unfold encodedRates
  induction ls with
  | nil => rfl
  | cons l ls ih =>
    rw [List.flatMap_cons, List.flatMap_cons, List.flatten_append, ih fun x hx => hw x (List.mem_cons_of_mem _ hx),
      List.map_congr_left fun k hk => congrArg writeLeb (uintOfInt_eq k (hw l List.mem_cons_self k hk))]
    rfl

theorem u16OfInt_eq (x : Int) (h : 0 ≤ x) : u16OfInt x = x.toNat.toUInt16 := by
  rw [u16OfInt, show (x % 65536).toNat = x.toNat % 65536 from Int.toNat_emod h (by decide), toUInt16_mod]

theorem resBytes_eq (l : Layer) (h : l.ResWF) : resBytes l = resRecord l := by
  unfold Layer.ResWF at h
  rw [resBytes, resRecord, u16OfInt_eq (l.width - 1) (by omega), u16OfInt_eq (l.height - 1) (by omega),
    byteOfInt_eq l.fps (by omega)]

theorem resBytes_length (l : Layer) : (resBytes l).length = 5 := rfl

/-- Go's `(len-1)/4 + 1` #tl bytes in `requiredLen`, with its truncating division (one byte for `len = 0`) -/
theorem tdiv_len (n : Nat) : (((n : Int) - 1).tdiv 4 + 1).toNat = (n - 1) / 4 + 1 := by
  cases n with
  | zero => rfl
  | succ m => rw [Int.natCast_succ, Int.add_sub_cancel]; rfl

/-! ## Marshal fills the sized buffer exactly, sorted layers or not -/

/-- the bytes Marshal writes once validation has passed -/
def marshalBody (v : VLA) : Bytes :=
  (byteOfInt (v.rid * 64) ||| (byteOfInt (v.count - 1) <<< 4) |||
      commonSLBM ((List.range v.count.toNat).map (slMB v.layers))) ::
    ((if commonSLBM ((List.range v.count.toNat).map (slMB v.layers)) == 0
        then maskBytes ((List.range v.count.toNat).map (slMB v.layers)) else []) ++
      tlLoop (tableOrder v.count.toNat v.layers) 0 0 [] ++
      (encodedRates (tableOrder v.count.toNat v.layers)).flatten ++
      (if v.hasRes then v.layers.flatMap resBytes else []))

theorem tlLoop_length0 {c : Int} (L : List Layer) (hw : ∀ l ∈ L, LayerOk c l) :
    (tlLoop L 0 0 []).length = (L.length - 1) / 4 + 1 := by
  cases L with
  | nil => rfl
  | cons l r => rw [tlLoop_eq _ (List.cons_ne_nil l r) hw, pack2_length, List.length_map, List.length_cons]; omega

theorem requiredLen_eq_body (v : VLA) (hc : 1 ≤ v.count ∧ v.count ≤ 4)
    (hp : preprocess v.count v.layers [] = none) :
    requiredLen v (commonSLBM ((List.range v.count.toNat).map (slMB v.layers)))
      (encodedRates (tableOrder v.count.toNat v.layers)) = (marshalBody v).length := by
  obtain ⟨hall, hpw⟩ := (preprocess_none_iff v.count v.layers []).mp hp
  have hperm := (tableOrder_perm v.layers v.count (fun l hl => (hall l hl).1) hpw).1
  have htl := tlLoop_length0 (tableOrder v.count.toNat v.layers) fun l hl => (hall l (hperm.subset hl)).1
  rw [marshalBody, List.length_cons, List.length_append, List.length_append, List.length_append, htl, hperm.length_eq,
    apply_ite List.length, apply_ite List.length, maskBytes_length, List.length_map, List.length_range, List.length_nil,
    length_flatMap_const resBytes 5 _ (fun l _ => resBytes_length l), requiredLen, ← List.length_flatten, tdiv_len, bne]
  cases commonSLBM ((List.range v.count.toNat).map (slMB v.layers)) == 0
  · simp only [Bool.not_false, Bool.false_eq_true, ↓reduceIte]; omega
  · simp only [Bool.not_true, Bool.false_eq_true, ↓reduceIte]; omega

theorem fit_exact (b : Bytes) (n : Nat) (h : n = b.length) : fit n b = .ok b := by
  subst h; simp [fit]

theorem marshal_eq (v : VLA) : marshal v = validated v (.ok (marshalBody v)) :=
  (validated_eq v _).trans
    (validated_congr v fun hc _ hp => fit_exact _ _ (requiredLen_eq_body v hc hp))

theorem marshal_valid (v : VLA) (hc : 1 ≤ v.count ∧ v.count ≤ 4) (hr : 0 ≤ v.rid ∧ v.rid < v.count)
    (hp : preprocess v.count v.layers [] = none) : marshal v = .ok (marshalBody v) := by
  rw [marshal_eq, validated, if_neg (not_not_intro hc), if_neg (not_not_intro hr), hp]

theorem marshal_ne_panic (v : VLA) : marshal v ≠ .panic := by
  rw [marshal_eq, validated]
  split
  · nofun
  split
  · nofun
  split
  · nofun
  · nofun

/-! ## Marshal = VlaSpec.encode on valid allocations -/

theorem body_eq_encode (v : VLA) (h : v.WF) : marshalBody v = encode v := by
  obtain ⟨hc1, hc4, hr0, hr1, hne, hs, hw, hres⟩ := h
  have hok : ∀ l ∈ v.layers, LayerOk v.count l := fun l hl => layerOk_of_wf (hw l hl)
  have hsl := slBm_lt v
  have hzero : ((slBm v).toUInt8 == 0) = decide (slBm v = 0) := by
    rw [show (0 : UInt8) = (0 : Nat).toUInt8 from rfl, toUInt8_beq_of_lt (by omega) (by omega)]
    exact Bool.eq_iff_iff.mpr (by rw [beq_iff_eq, decide_eq_true_eq])
  have hhdr : byteOfInt (v.rid * 64) ||| (byteOfInt (v.count - 1) <<< 4) ||| (slBm v).toUInt8 = header v := by
    rw [byteOfInt_eq _ (by omega), byteOfInt_eq _ (by omega), show (v.rid * 64).toNat = 64 * v.rid.toNat by omega,
      show (v.count - 1).toNat = ns v - 1 by unfold ns; omega,
      header_pack ⟨_, show v.rid.toNat < 4 by omega⟩ ⟨_, show ns v - 1 < 4 by unfold ns; omega⟩ ⟨_, hsl⟩, header]
  have hnib := maskBytes_map ((List.range (ns v)).map (bm v)) fun x hx => by
    obtain ⟨s, _, rfl⟩ := List.mem_map.mp hx; exact bm_lt v s
  have hresb : (if v.hasRes then v.layers.flatMap resBytes else []) = resolutions v := by
    unfold resolutions
    split
    · rename_i hh
      rw [List.flatMap_def, List.flatMap_def, List.map_congr_left fun l hl => resBytes_eq l (hres hh l hl)]
    · rfl
  rw [marshalBody, tableOrder_sorted v.layers v.count hs hw, map_slMB_eq v hok, commonSLBM_eq_slBm v (by unfold ns; omega), hzero, hhdr,
    hnib, tlLoop_eq v.layers hne hok, encodedRates_flatten v.layers fun l hl => rates_of_wf (hw l hl), hresb,
    encode, if_neg hne, streamMasks, temporalCounts, bitrates]
  simp only [decide_eq_true_eq]

theorem marshal_eq_encode (v : VLA) (h : v.WF) : marshal v = .ok (encode v) := by
  rw [marshal_valid v ⟨h.1, h.2.1⟩ ⟨h.2.2.1, h.2.2.2.1⟩ (preprocess_wf v h), body_eq_encode v h]

theorem writeLeb_two (n : Nat) (h1 : 128 ≤ n) (h2 : n < 16384) :
    writeLeb n = [(n % 128 + 128).toUInt8, (n / 128).toUInt8] := by
  rw [writeLeb_ge n h1, writeLeb_lt _ (by omega)]

end Rtp.Model.Vla
