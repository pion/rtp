/-
  Rtp/Proofs/WireRemarshal.lean — `encodable` packets (what Unmarshal can return, but for P = 1 with count 0,
  and C01's domain), their pad-free wire description `ofPacket`, Marshal = Wire.encode ∘ ofPacket, and the
  round trip Marshal then Unmarshal on that class.
-/
import Rtp.Proofs.PacketRtWrite
import Rtp.Proofs.WireAccept
namespace Rtp.Proofs.Wire
open Rtp Rtp.Model Rtp.Spec.Wire
open Rtp.Pred.C01 (canonP canonH wfP wfH extsLegal)

def toItems (es : List Ext) : List Item := es.map fun e => .elem e.id e.payload

def extOf (h : Header) : Option ExtBlock :=
  if h.extension then
    some (if h.extProfile == profileOneByte then .oneByte (toItems h.exts) none
          else if h.extProfile == profileTwoByte then .twoByte 0 (toItems h.exts)
          else .legacy h.extProfile (match h.exts with | e :: _ => e.payload | [] => []))
  else none

/-- the canonical wire description of a packet value: no pad items, zero filler -/
def ofPacket (p : Packet) : Wire :=
  { version := p.header.version, marker := p.header.marker, pt := p.header.payloadType, seq := p.header.seq,
    ts := p.header.ts, ssrc := p.header.ssrc, csrc := p.header.csrc, ext := extOf p.header,
    payload := p.payload,
    pad := if p.header.padding then some (rep (p.paddingSize.toNat - 1) 0) else none }

def extOk1 (e : Ext) : Bool :=
  e.id.toNat ≤ 14 && 1 ≤ e.payload.length && e.payload.length ≤ 16 && !(e.id == 0 && e.payload.length == 1)
def extOk2 (e : Ext) : Bool := e.id != 0 && e.payload.length ≤ 255

/-- packets Marshal writes faithfully: what `Unmarshal` returns (`pktUnmarshal_out`), and more (C01's domain) -/
def encodable (p : Packet) : Bool :=
  p.header.version.toNat < 4 && p.header.payloadType.toNat < 128 && p.header.csrc.length ≤ 15 &&
  (if p.header.padding then decide (1 ≤ p.paddingSize.toNat) else p.paddingSize == 0) &&
  (if p.header.extension then
     if p.header.extProfile == profileOneByte then p.header.exts.all extOk1 && extBodySize p.header ≤ maxBody
     else if p.header.extProfile == profileTwoByte then p.header.exts.all extOk2 && extBodySize p.header ≤ maxBody
     else match p.header.exts with
       | [e] => e.id == 0 && e.payload.length % 4 == 0 && e.payload.length ≤ maxBody
       | _ => false
   else p.header.exts.isEmpty)

def extClause (h : Header) : Bool :=
  if h.extension then
     if h.extProfile == profileOneByte then h.exts.all extOk1 && extBodySize h ≤ maxBody
     else if h.extProfile == profileTwoByte then h.exts.all extOk2 && extBodySize h ≤ maxBody
     else match h.exts with
       | [e] => e.id == 0 && e.payload.length % 4 == 0 && e.payload.length ≤ maxBody
       | _ => false
   else h.exts.isEmpty

theorem encodable_iff (p : Packet) : encodable p =
    (decide (p.header.version.toNat < 4) && decide (p.header.payloadType.toNat < 128) && decide (p.header.csrc.length ≤ 15) &&
     (if p.header.padding then decide (1 ≤ p.paddingSize.toNat) else p.paddingSize == 0) && extClause p.header) := rfl

theorem body1_toItems (es : List Ext) (h : es.all extOk1 = true) :
    body1 (toItems es) = (es.map fun e => (oneByteHdr e.id e.payload.length :: e.payload)).flatten := by
  induction es with
  | nil => rfl
  | cons e r ih =>
    simp only [List.all_cons, Bool.and_eq_true] at h
    obtain ⟨he, hr⟩ := h
    simp only [extOk1, Bool.and_eq_true, decide_eq_true_eq] at he
    obtain ⟨⟨⟨h14, h1⟩, h16⟩, _⟩ := he
    have := PacketRt.oneByteHdr_eq e.id e.payload.length (by omega) h1 h16
    simp only [toItems, List.map_cons, body1_elem, List.flatten_cons, this, List.cons_append]
    congr 2
    exact ih hr

theorem body2_toItems (es : List Ext) :
    body2 (toItems es) = (es.map fun e => (e.id :: e.payload.length.toUInt8 :: e.payload)).flatten := by
  induction es with
  | nil => rfl
  | cons e r ih =>
    simp only [toItems, List.map_cons, body2_elem, List.flatten_cons, List.cons_append]
    congr 3

theorem elems_toItems (es : List Ext) : elems (toItems es) = es := by
  induction es with
  | nil => rfl
  | cons e r ih => simp only [toItems, List.map_cons, elems] at ih ⊢; rw [ih]

theorem toItems_ok1 (es : List Ext) (h : es.all extOk1 = true) : (toItems es).all Item.ok1 = true := by
  simp only [List.all_eq_true] at h ⊢
  intro it hit
  simp only [toItems, List.mem_map] at hit
  obtain ⟨e, he, rfl⟩ := hit
  have := h e he
  simp only [extOk1, Bool.and_eq_true, decide_eq_true_eq] at this
  obtain ⟨⟨⟨a, b⟩, c⟩, d⟩ := this
  simp only [Item.ok1, Bool.and_eq_true, decide_eq_true_eq]
  exact ⟨⟨⟨by omega, b⟩, c⟩, d⟩

theorem toItems_ok2 (es : List Ext) (h : es.all extOk2 = true) : (toItems es).all Item.ok2 = true := by
  simp only [List.all_eq_true] at h ⊢
  intro it hit
  simp only [toItems, List.mem_map] at hit
  obtain ⟨e, he, rfl⟩ := hit
  exact h e he

theorem extOf_spec (h : Header) (hx : h.extension = true) (he : extClause h = true) :
    ∃ b, extOf h = some b ∧ b.profile = h.extProfile ∧ extBodyBytes h = .ok b.body ∧ blockOk b = true ∧
      b.ignored = 0 ∧ b.elements = h.exts := by
  simp only [extClause, hx, if_true] at he
  by_cases h1 : h.extProfile == profileOneByte
  · simp only [h1, ↓reduceIte, Bool.and_eq_true, decide_eq_true_eq] at he
    have hb : extBodyBytes h = .ok (ExtBlock.oneByte (toItems h.exts) none).body := by
      simp [extBodyBytes, h1, ExtBlock.body, body1_toItems _ he.1, stopBytes]
    have hl := PacketRt.extBody_length h _ hb
    refine ⟨.oneByte (toItems h.exts) none, by simp [extOf, hx, h1], (beq_iff_eq.mp h1).symm, hb, ?_, rfl, elems_toItems _⟩
    simp only [blockOk, Bool.and_eq_true, decide_eq_true_eq, toItems_ok1 _ he.1, stopWF, true_and]
    simp only [ExtBlock.body] at hl; omega
  · by_cases h2 : h.extProfile == profileTwoByte
    · simp only [h1, h2, ↓reduceIte, Bool.false_eq_true, Bool.and_eq_true, decide_eq_true_eq] at he
      have hb : extBodyBytes h = .ok (ExtBlock.twoByte 0 (toItems h.exts)).body := by
        simp [extBodyBytes, h1, h2, ExtBlock.body, body2_toItems]
      have hl := PacketRt.extBody_length h _ hb
      refine ⟨.twoByte 0 (toItems h.exts), by simp [extOf, hx, h1, h2], (beq_iff_eq.mp h2).symm, hb, ?_, rfl, elems_toItems _⟩
      simp only [blockOk, Bool.and_eq_true, decide_eq_true_eq, toItems_ok2 _ he.1, beq_self_eq_true, true_and]
      simp only [ExtBlock.body] at hl; omega
    · simp only [h1, h2, ↓reduceIte, Bool.false_eq_true] at he
      match hes : h.exts, he with
      | [e], he =>
        simp only [Bool.and_eq_true, beq_iff_eq, decide_eq_true_eq] at he
        obtain ⟨⟨e1, e2⟩, e3⟩ := he
        refine ⟨.legacy h.extProfile e.payload, by simp [extOf, hx, h1, h2, hes], rfl, ?_, ?_, rfl, ?_⟩
        · simp [extBodyBytes, h1, h2, hes, ExtBlock.body, e2]
        · simp only [blockOk, Bool.and_eq_true, bne_iff_ne, ne_eq, beq_iff_eq, decide_eq_true_eq]
          simp only [beq_iff_eq, profileOneByte, profileTwoByte] at h1 h2
          exact ⟨⟨⟨h1, h2⟩, e2⟩, e3⟩
        · cases e; simp_all [ExtBlock.elements]

theorem round4_padTo4 (n : Nat) : round4 n = n + padTo4 n := by
  unfold round4 padTo4; omega

theorem fixedBytes_spec (h : Header) (hv : h.version.toNat < 4) (hpt : h.payloadType.toNat < 128)
    (hcc : h.csrc.length ≤ 15) :
    fixedBytes h =
      [ (h.version.toNat * 64 + b2n h.padding * 32 + b2n h.extension * 16 + h.csrc.length).toUInt8,
        (b2n h.marker * 128 + h.payloadType.toNat).toUInt8 ] ++
      be16 h.seq ++ be32 h.ts ++ be32 h.ssrc ++ (h.csrc.map be32).flatten := by
  rw [PacketRt.fixedBytes_eq, PacketRt.byte0_eq _ _ _ _ hv hcc, PacketRt.byte1_eq _ _ hpt]
  simp only [b2n_eq, List.cons_append, List.nil_append, List.append_assoc]

theorem encodable_ser (p : Packet) (h : encodable p = true) : PacketRt.Ser p.header ∧ PacketRt.PadOK p := by
  simp only [encodable_iff, Bool.and_eq_true, decide_eq_true_eq] at h
  obtain ⟨⟨_, hpad⟩, hext⟩ := h
  constructor
  · intro hx
    obtain ⟨b, _, _, hb3, _⟩ := extOf_spec p.header hx hext
    rw [PacketRt.wireBody, hb3]
  · unfold PacketRt.PadOK
    cases hp : p.header.padding with
    | true => rw [hp] at hpad; exact hpad.symm
    | false =>
      simp only [hp, Bool.false_eq_true, ↓reduceIte, beq_iff_eq] at hpad
      rw [hpad]; rfl

theorem hdrWire_ofPacket (p : Packet) (h : encodable p = true) : PacketRt.hdrWire p.header = headBytes (ofPacket p) := by
  simp only [encodable_iff, Bool.and_eq_true, decide_eq_true_eq] at h
  obtain ⟨⟨⟨⟨hv, hpt⟩, hcc⟩, _⟩, hext⟩ := h
  have hps : (ofPacket p).pad.isSome = p.header.padding := by
    cases hp : p.header.padding <;> simp [ofPacket, hp]
  have hxs : (ofPacket p).ext.isSome = p.header.extension := by
    cases hx : p.header.extension <;> simp [ofPacket, extOf, hx]
  simp only [PacketRt.hdrWire, PacketRt.hdrBytes, fixedBytes_spec p.header hv hpt hcc, headBytes, hps, hxs]
  cases hx : p.header.extension with
  | false => simp [ofPacket, extOf, hx, encodeExt]
  | true =>
    obtain ⟨b, hb1, hb2, hb3, _⟩ := extOf_spec p.header hx hext
    have hext' : (ofPacket p).ext = some b := by simp [ofPacket, hb1]
    have hwb : PacketRt.wireBody p.header = b.body := by rw [PacketRt.wireBody, hb3]
    simp only [↓reduceIte, hext', encodeExt, PacketRt.extPart, hwb, ExtBlock.encode, round4_padTo4, hb2,
      Nat.add_sub_cancel_left]
    simp [ofPacket]

theorem pktWire_ofPacket (p : Packet) (h : encodable p = true) : PacketRt.pktWire p = (ofPacket p).encode := by
  obtain ⟨_, hpo⟩ := encodable_ser p h
  have hpadEq : PacketRt.padBytes p = encodePad (ofPacket p).pad := by
    cases hp : p.header.padding with
    | false => simp [PacketRt.padBytes, ofPacket, hp, encodePad]
    | true =>
      have h1 : 1 ≤ p.paddingSize.toNat := of_decide_eq_true (hpo.symm.trans hp)
      simp [PacketRt.padBytes, ofPacket, hp, encodePad, Nat.sub_add_cancel h1]
  rw [PacketRt.pktWire, hdrWire_ofPacket p h, hpadEq, encode_split]
  rfl

theorem pktMarshal_ofPacket (p : Packet) (h : encodable p = true) :
    pktMarshal p = .ok (ofPacket p).encode := by
  obtain ⟨hser, hpo⟩ := encodable_ser p h
  rw [PacketRt.pktMarshal_ser p hser hpo, pktWire_ofPacket p h]

theorem ofPacket_padSize (p : Packet)
    (hpad : (if p.header.padding then decide (1 ≤ p.paddingSize.toNat) else p.paddingSize == 0) = true) :
    (ofPacket p).toPacket.paddingSize = p.paddingSize := by
  cases hp : p.header.padding with
  | false => simp only [hp, Bool.false_eq_true, ↓reduceIte, beq_iff_eq] at hpad; simp [Wire.toPacket, ofPacket, hp, hpad]
  | true =>
    simp only [hp, ↓reduceIte, decide_eq_true_eq] at hpad
    have : p.paddingSize.toNat - 1 + 1 = p.paddingSize.toNat := by omega
    simp [Wire.toPacket, ofPacket, hp, this]

theorem ofPacket_padOk (p : Packet) :
    (match (ofPacket p).pad with | some f => decide (f.length ≤ 254) | none => true) = true := by
  cases hp : p.header.padding with
  | false => simp [ofPacket, hp]
  | true =>
    have := p.paddingSize.toNat_lt
    simp [ofPacket, hp, rep_length]; omega

/-- the header of the described packet, given what the description's block says (`prof`, `es`: profile and
    elements of the block, or `0`, `[]` without one) -/
theorem ofPacket_header (p : Packet) (prof : UInt16) (es : List Ext)
    (hprof : (match extOf p.header with | some b => b.profile | none => 0) = prof)
    (hes : (match extOf p.header with | some b => b.elements | none => []) = es)
    (hc : canonH p.header = { p.header with extProfile := prof, exts := es }) :
    (ofPacket p).toPacket.header = canonH p.header := by
  have hpi : (ofPacket p).pad.isSome = p.header.padding := by
    cases hp : p.header.padding <;> simp [ofPacket, hp]
  have hxs : (ofPacket p).ext.isSome = p.header.extension := by
    cases hx : p.header.extension <;> simp [ofPacket, extOf, hx]
  rw [hc, ← hprof, ← hes]
  simp only [Wire.toPacket, hpi, hxs]
  rfl

/-- the description of an encodable packet meets the hypotheses of the parse lemmas, leaves
    nothing unread, and describes that packet -/
theorem ofPacket_ok (p : Packet) (h : encodable p = true) :
    wireOk (ofPacket p) = true ∧ (ofPacket p).ignored = 0 ∧ (ofPacket p).toPacket = canonP p := by
  simp only [encodable_iff, Bool.and_eq_true, decide_eq_true_eq] at h
  obtain ⟨⟨⟨⟨hv, hpt⟩, hcc⟩, hpad⟩, hext⟩ := h
  have hps := ofPacket_padSize p hpad
  have hpadok := ofPacket_padOk p
  have hpkt : ∀ hd, (ofPacket p).toPacket.header = hd → (ofPacket p).toPacket = { p with header := hd } := by
    intro hd hh
    have e1 : (ofPacket p).toPacket.payload = p.payload := rfl
    rw [← hh, ← hps, ← e1]
  cases hx : p.header.extension with
  | false =>
    simp only [extClause, hx, Bool.false_eq_true, ↓reduceIte, List.isEmpty_iff] at hext
    have he : (ofPacket p).ext = none := by simp [ofPacket, extOf, hx]
    refine ⟨?_, by simp [Wire.ignored, he], ?_⟩
    · simp only [wireOk, Bool.and_eq_true, decide_eq_true_eq, he]
      exact ⟨⟨⟨⟨hv, hpt⟩, hcc⟩, trivial⟩, hpadok⟩
    · exact hpkt _ (ofPacket_header p 0 [] (by simp [extOf, hx]) (by simp [extOf, hx])
        (by rw [canonH, if_neg (by simp [hx]), ← hext]))
  | true =>
    obtain ⟨b, hb1, hb2, _, hb3, hb4, hb5⟩ := extOf_spec p.header hx hext
    have he : (ofPacket p).ext = some b := by simp [ofPacket, hb1]
    refine ⟨?_, by simp [Wire.ignored, he, hb4], ?_⟩
    · simp only [wireOk, Bool.and_eq_true, decide_eq_true_eq, he]
      exact ⟨⟨⟨⟨hv, hpt⟩, hcc⟩, hb3⟩, hpadok⟩
    · exact hpkt _ (ofPacket_header p p.header.extProfile p.header.exts (by rw [hb1]; exact hb2) (by rw [hb1]; exact hb5)
        (by rw [canonH, if_pos hx]))

theorem canonP_decoded (r : Header) (w : Wire) :
    canonP { header := hdrOf r w, payload := w.payload, paddingSize := w.toPacket.paddingSize } = canonP w.toPacket := by
  simp only [canonP, canonH_hdrOf]
  simp [Wire.toPacket]

theorem canonP_idem (p : Packet) : canonP (canonP p) = canonP p := by
  cases hx : p.header.extension <;> simp [canonP, canonH, hx]

/-- Marshal then Unmarshal (into any receiver) gives the packet back: C01's round trip on the
    whole `encodable` class -/
theorem marshal_unmarshal (p : Packet) (h : encodable p = true) (r : Packet) :
    ∃ bs p', pktMarshal p = .ok bs ∧ pktUnmarshal r bs = .ok p' ∧ canonP p' = canonP p := by
  obtain ⟨h1, h2, h3⟩ := ofPacket_ok p h
  refine ⟨_, _, pktMarshal_ofPacket p h, pktUnmarshal_encode (ofPacket p) r h1 h2, ?_⟩
  rw [canonP_decoded, h3, canonP_idem]

theorem hdrOf_ofPacket (r : Header) (p : Packet) (h : encodable p = true) :
    hdrOf r (ofPacket p) = PacketParse.withProfile r.extProfile p.header := by
  obtain ⟨_, _, h3⟩ := ofPacket_ok p h
  have hh : (ofPacket p).toPacket.header = canonH p.header := congrArg Packet.header h3
  simp only [encodable_iff, Bool.and_eq_true] at h
  unfold hdrOf PacketParse.withProfile
  rw [hh, canonH]
  cases hx : p.header.extension with
  | false =>
    have he : (ofPacket p).ext = none := by simp [ofPacket, extOf, hx]
    simp only [he, Bool.false_eq_true, if_false]
  | true =>
    obtain ⟨b, hb1, hb2, _⟩ := extOf_spec p.header hx h.2
    have he : (ofPacket p).ext = some b := by simp [ofPacket, hb1]
    simp only [he, hb2, if_true]

theorem encodable_of_wfP (p : Packet) (h : wfP p = true) : encodable p = true := by
  simp only [wfP, wfH, Bool.and_eq_true, decide_eq_true_eq, beq_iff_eq] at h
  obtain ⟨⟨⟨⟨⟨hv, hpt⟩, hcc⟩, hleg⟩, hsz⟩, hpad⟩ := h
  rw [encodable_iff]
  simp only [hv, hpt, hcc, decide_true, Bool.true_and, Bool.and_eq_true]
  refine ⟨?_, ?_⟩
  · rw [hpad]
    by_cases h1 : 1 ≤ p.paddingSize.toNat
    · simp [h1]
    · simp only [h1, decide_false, Bool.false_eq_true, if_false, beq_iff_eq]
      exact UInt8.toNat_inj.mp (Nat.eq_zero_of_not_pos h1)
  · cases hx : p.header.extension with
    | false => simpa [extClause, extsLegal, hx] using hleg
    | true =>
      have hsz' : extBodySize p.header ≤ maxBody := hsz
      rw [extClause, if_pos hx]
      rcases PacketRt.extsLegal_cases hx hleg with ⟨h1, hes⟩ | ⟨h1, h2, hes⟩ | ⟨h1, h2, e, he, h0, h4⟩
      · rw [if_pos h1, Bool.and_eq_true, decide_eq_true_eq]
        refine ⟨List.all_eq_true.mpr (fun e he => ?_), hsz'⟩
        obtain ⟨a, b, c, d⟩ := hes e he
        have hid : (e.id == 0) = false := beq_eq_false_iff_ne.mpr (fun h0 => by rw [h0] at a; cases a)
        simp [extOk1, b, c, d, hid]
      · rw [if_neg (by rw [h1]; decide), if_pos h2, Bool.and_eq_true, decide_eq_true_eq]
        refine ⟨List.all_eq_true.mpr (fun e he => ?_), hsz'⟩
        obtain ⟨a, b⟩ := hes e he
        have hid : e.id ≠ 0 := fun h0 => by rw [h0] at a; cases a
        simp [extOk2, b, hid]
      · have : extBodySize p.header = e.payload.length := by simp [extBodySize, h1, h2, he]
        rw [if_neg (by rw [h1]; decide), if_neg (by rw [h2]; decide), he]
        simp [h0, h4]
        omega

/-- C01 (packet part) on the whole `encodable` class, hence on `Pred.C01.wfP`: Marshal succeeds with
    exactly MarshalSize bytes and Unmarshal of them, into any receiver, gives the packet back -/
theorem c01_packet_roundtrip_encodable (p : Packet) (h : encodable p = true) :
    ∃ bs, pktMarshal p = .ok bs ∧ bs.length = pktMarshalSize p ∧
      ∀ r, ∃ p', pktUnmarshal r bs = .ok p' ∧ canonP p' = canonP p := by
  obtain ⟨hser, hpo⟩ := encodable_ser p h
  have henc := pktMarshal_ofPacket p h
  refine ⟨_, henc, ?_, ?_⟩
  · rw [← pktWire_ofPacket p h, PacketRt.pktWire_length_ser p hser hpo]
  · intro r
    obtain ⟨bs, p', h1, h2, h3⟩ := marshal_unmarshal p h r
    rw [henc] at h1
    cases h1
    exact ⟨p', h2, h3⟩

end Rtp.Proofs.Wire
