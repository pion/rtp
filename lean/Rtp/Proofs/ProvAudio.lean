/-
  Rtp/Proofs/ProvAudio.lean — the provenance-level G711/G722/Opus payloaders
  (Rtp/Model/ProvAudio.lean): forgetting origins gives Model/Audio.lean, and every fragment is
  `fresh` when the step copies.
-/
import Rtp.Model.ProvAudio
import Rtp.Proofs.Prov
namespace Rtp.Proofs.ProvAudio
open Rtp Rtp.Model Rtp.Model.Prov Rtp.Model.ProvAudio Rtp.Proofs.Prov

theorem forget_pSplitGt (keep : PBytes → PBytes) (hk : ∀ x, (keep x).bytes = x.bytes) (k : Nat)
    (h0 : 0 < k) (l : PBytes) : forgetAll (pSplitGt keep k h0 l) = splitGt k h0 l.bytes := by
  fun_induction pSplitGt keep k h0 l with
  | case1 l h ih =>
    rw [splitGt, dif_pos h]
    simp [hk, ih]
  | case2 l h =>
    rw [splitGt, dif_neg h]
    simp [hk]

/-- every fragment carries the origin `keep` gives to a view of the argument -/
theorem from_pSplitGt (keep : PBytes → PBytes) (o : Origin) (k : Nat) (h0 : 0 < k) (l : PBytes)
    (hk : ∀ x, x.origin = l.origin → (keep x).origin = o) : ∀ x ∈ pSplitGt keep k h0 l, x.origin = o := by
  fun_induction pSplitGt keep k h0 l with
  | case1 l h ih =>
    intro x hx
    rcases List.mem_cons.mp hx with rfl | hx
    · exact hk _ rfl
    · exact ih hk x hx
  | case2 l h =>
    intro x hx
    rw [List.mem_singleton.mp hx]; exact hk _ rfl

theorem forget_pG711PayloadG (keep : PBytes → PBytes) (hk : ∀ x, (keep x).bytes = x.bytes)
    (mtu : UInt16) (i : Nat) (payload : Option Bytes) :
    forgetAll (pG711PayloadG keep mtu i payload) = g711Payload mtu payload := by
  unfold pG711PayloadG g711Payload
  cases payload with
  | none => rfl
  | some p =>
    dsimp only
    split
    · rfl
    · exact forget_pSplitGt keep hk _ _ _

theorem from_pG711PayloadG (keep : PBytes → PBytes) (o : Origin) (mtu : UInt16) (i : Nat)
    (hk : ∀ x, x.origin = .input i → (keep x).origin = o) (payload : Option Bytes) :
    ∀ x ∈ pG711PayloadG keep mtu i payload, x.origin = o := by
  unfold pG711PayloadG
  cases payload with
  | none => simp
  | some p =>
    dsimp only
    split
    · simp
    · exact from_pSplitGt keep o _ _ _ hk

theorem forget_pOpusPayloadG (keep : PBytes → PBytes) (hk : ∀ x, (keep x).bytes = x.bytes)
    (mtu : UInt16) (i : Nat) (payload : Option Bytes) :
    forgetAll (pOpusPayloadG keep mtu i payload) = opusPayload mtu payload := by
  cases payload <;> simp [pOpusPayloadG, opusPayload, hk]

theorem owned_pOpusPayloadG (keep : PBytes → PBytes) (hk : ∀ x, (keep x).origin = .fresh)
    (mtu : UInt16) (i : Nat) (payload : Option Bytes) :
    AllOwned (pOpusPayloadG keep mtu i payload) := by
  cases payload <;> simp [pOpusPayloadG, hk]

/-! ### histories of a payloader without state -/

theorem forget_pHistStateless (f : UInt16 → Nat → Option Bytes → List PBytes)
    (g : UInt16 → Option Bytes → List Bytes) (h : ∀ m i inp, forgetAll (f m i inp) = g m inp)
    (i : Nat) (calls : List (UInt16 × Option Bytes)) :
    (pHistStateless f i calls).map forgetAll = calls.map (fun c => g c.1 c.2) := by
  induction calls generalizing i with
  | nil => rfl
  | cons c cs ih =>
    obtain ⟨m, inp⟩ := c
    simp only [pHistStateless, List.map_cons, h, ih]

theorem owned_pHistStateless (f : UInt16 → Nat → Option Bytes → List PBytes)
    (h : ∀ m i inp, AllOwned (f m i inp)) (i : Nat) (calls : List (UInt16 × Option Bytes)) :
    ∀ o ∈ pHistStateless f i calls, AllOwned o := by
  induction calls generalizing i with
  | nil => simp [pHistStateless]
  | cons c cs ih =>
    obtain ⟨m, inp⟩ := c
    simp only [pHistStateless, List.mem_cons, forall_eq_or_imp]
    exact ⟨h m i inp, ih _⟩

end Rtp.Proofs.ProvAudio
