/-
  Rtp/Proofs/HeaderExtSpec.lean — the algebra of Rtp/Spec/OrderedMap.lean: what "ordered map" means
  (last value per id, first-insertion order, deleted ids absent).
-/
import Rtp.Spec.OrderedMap
namespace Rtp.Proofs.HeaderExtSpec
open Rtp Rtp.Spec.OrderedMap
-- bare `get`/`set` are ambiguous with core's here, hence `Spec.OrderedMap.get` in the simp lists

theorem has_cons (k : UInt8) (w : Bytes) (m : Map) (id : UInt8) :
    has ((k, w) :: m) id = (k == id || has m id) := by
  simp only [has, keys, List.map_cons, List.contains_cons, BEq.comm (a := id)]

theorem get_isSome (m : Map) (id : UInt8) : (get m id).isSome = has m id := by
  induction m with
  | nil => rfl
  | cons kv m ih =>
    obtain ⟨k, w⟩ := kv
    rw [has_cons]
    simp only [Spec.OrderedMap.get]
    cases hk : k == id <;> simp [ih]

theorem get_set_same (m : Map) (id : UInt8) (v : Bytes) : get (set m id v) id = some v := by
  induction m with
  | nil => simp [Spec.OrderedMap.set, Spec.OrderedMap.get]
  | cons kv m ih =>
    obtain ⟨k, w⟩ := kv
    simp only [Spec.OrderedMap.set]
    cases hk : k == id <;> simp [Spec.OrderedMap.get, hk, ih]

theorem get_set_other (m : Map) (id k : UInt8) (v : Bytes) (hne : k ≠ id) :
    get (set m id v) k = get m k := by
  induction m with
  | nil => simp [Spec.OrderedMap.set, Spec.OrderedMap.get, Ne.symm hne]
  | cons kv m ih =>
    obtain ⟨k', w⟩ := kv
    by_cases hk : k' = id
    · subst hk; simp [Spec.OrderedMap.set, Spec.OrderedMap.get, Ne.symm hne]
    · simp [Spec.OrderedMap.set, Spec.OrderedMap.get, hk, ih]

/-- first-insertion order: an update keeps the key list, an insertion appends -/
theorem keys_set (m : Map) (id : UInt8) (v : Bytes) :
    keys (set m id v) = if has m id then keys m else keys m ++ [id] := by
  induction m with
  | nil => rfl
  | cons kv m ih =>
    obtain ⟨k, w⟩ := kv
    rw [has_cons]
    simp only [Spec.OrderedMap.set]
    cases hk : k == id
    · simp only [Bool.false_eq_true, if_false, Bool.false_or]
      have : keys ((k, w) :: set m id v) = k :: keys (set m id v) := rfl
      rw [this, ih]
      split <;> rfl
    · simp [keys]

/-- deleting removes the first entry of that id from the key list and nothing else -/
theorem keys_del (m : Map) (id : UInt8) : keys (del m id) = (keys m).erase id := by
  induction m with
  | nil => rfl
  | cons kv m ih =>
    obtain ⟨k, w⟩ := kv
    simp only [del, keys, List.map_cons, List.erase_cons]
    cases hk : k == id
    · simp only [Bool.false_eq_true, if_false, List.map_cons]
      congr 1
    · simp

theorem get_del_other (m : Map) (id k : UInt8) (hne : k ≠ id) : get (del m id) k = get m k := by
  induction m with
  | nil => rfl
  | cons kv m ih =>
    obtain ⟨k', w⟩ := kv
    by_cases hk : k' = id
    · subst hk; simp [del, Spec.OrderedMap.get, Ne.symm hne]
    · simp [del, Spec.OrderedMap.get, hk, ih]

theorem get_none_of_not_has (m : Map) (id : UInt8) (h : has m id = false) : get m id = none := by
  have := get_isSome m id
  rw [h] at this
  cases hg : get m id <;> simp_all

theorem get_del_same (m : Map) (id : UInt8) (hnd : (keys m).Nodup) : get (del m id) id = none := by
  induction m with
  | nil => rfl
  | cons kv m ih =>
    obtain ⟨k, w⟩ := kv
    simp only [keys, List.map_cons, List.nodup_cons] at hnd
    simp only [del]
    cases hk : k == id
    · simp only [Bool.false_eq_true, if_false, Spec.OrderedMap.get, hk]
      exact ih hnd.2
    · have hk' : k = id := by simpa using hk
      subst hk'
      simp only [if_true]
      apply get_none_of_not_has
      simp only [has, keys, List.contains_eq_mem, decide_eq_false_iff_not]
      exact hnd.1

theorem nodup_set (m : Map) (id : UInt8) (v : Bytes) (hnd : (keys m).Nodup) :
    (keys (set m id v)).Nodup := by
  rw [keys_set]
  cases hh : has m id
  · have : id ∉ keys m := by simpa [has] using hh
    simp only [Bool.false_eq_true, if_false]
    exact List.nodup_append.mpr ⟨hnd, by simp, fun a ha b hb => by
      cases List.mem_singleton.mp hb; exact fun h => this (h ▸ ha)⟩
  · simpa using hnd

theorem nodup_del (m : Map) (id : UInt8) (hnd : (keys m).Nodup) : (keys (del m id)).Nodup := by
  rw [keys_del]; exact hnd.erase id

end Rtp.Proofs.HeaderExtSpec
