/-
  Rtp/Proofs/H264Agg.lean — the aggregation claim of C10 ("SPS/PPS arrive as one STAP-A before the
  next unit") for the grouping the payloader model produces on paired streams.
-/
import Rtp.Proofs.H264History
namespace Rtp.Proofs.H264
open Rtp Rtp.Spec.Rfc6184 Rtp.Pred

/-- `keep` on units tagged with the MTU of their call -/
def keepT (ts : List (Nat × Bytes)) : List (Nat × Bytes) := ts.filter (fun u => !isDropped u.2)

theorem keepT_map (ts : List (Nat × Bytes)) : (keepT ts).map (·.2) = keep (ts.map (·.2)) := by
  rw [keep, List.filter_map]; rfl

/-- AUD and filler release nothing and leave the pending pair alone -/
theorem stepsOut_keepT (disable : Bool) (p : Pend) (ts : List (Nat × Bytes)) :
    stepsOut disable p ts = stepsOut disable p (keepT ts) := by
  induction ts generalizing p with
  | nil => rfl
  | cons t ts ih =>
    by_cases hd : isDropped t.2 = true
    · simp only [keepT, List.filter_cons, stepsOut, stepOut, hd, Bool.not_true, Bool.false_eq_true, if_true, if_false,
        List.nil_append, ih]
    · simp only [keepT, List.filter_cons, stepsOut, stepOut, hd, Bool.not_false, Bool.false_eq_true, if_true, if_false,
        ih]

theorem aggCheck_not_sps (m : Nat) (a : Bytes) (r : List (Nat × Bytes)) (g : Bool × List Bytes)
    (h : isSps a = false) : aggCheck ((m, a) :: r) g = true := by
  match r with
  | [] | [_] => rfl
  | _ :: _ :: _ => simp [aggCheck, h]

theorem aggCheck_nil (g : Bool × List Bytes) : aggCheck [] g = true := rfl

theorem pairedF_of_not_sps (a : Bytes) (r : List Bytes) (h : isSps a = false) :
    pairedF (a :: r) = (!isPps a && pairedF r) := by
  match r with
  | [] | [_] | _ :: _ :: _ => simp [pairedF, h]

/-- along `pairedF`: an SPS, PPS, unit triple leaves as the STAP-A (or SPS and PPS on their own) and
    the unit; any other unit leaves alone and is no SPS, so `aggCheck` asks nothing of it -/
theorem agg_clean : ∀ (ts : List (Nat × Bytes)), (∀ t ∈ ts, isDropped t.2 = false) →
    pairedF (ts.map (·.2)) = true → aggOkG ts (stepsOut false (none, none) ts).1 = true
  | [], _, _ => rfl
  | (m, a) :: r, hd, hp => by
    have da := hd (m, a) (by simp)
    by_cases h7 : isSps a = true
    · match r, hd, hp with
      | (mb, b) :: (mc, c) :: r', hd, hp =>
        simp only [List.map_cons, pairedF, h7, if_true, Bool.and_eq_true, Bool.not_eq_true'] at hp
        obtain ⟨⟨⟨h8, hc7⟩, hc8⟩, hr⟩ := hp
        have ih := agg_clean r' (fun t ht => hd t (by simp [ht])) hr
        have db := hd (mb, b) (by simp)
        have dc := hd (mc, c) (by simp)
        simp only [stepsOut, stepOut, da, db, dc, h7, h8, not_sps_of_pps b h8, hc7, hc8, Bool.false_eq_true,
          if_true, if_false, List.nil_append]
        split <;>
          simp only [aggOkG, List.cons_append, List.nil_append, List.length_cons, List.length_nil,
            List.drop_succ_cons, List.drop_zero, aggCheck_not_sps mc c _ _ hc7,
            aggCheck_not_sps mb b _ _ (not_sps_of_pps b h8), ih, Bool.and_true] <;>
          simp [aggCheck, *]
      | [], _, hp => simp [pairedF, h7] at hp
      | [_], _, hp => simp [pairedF, h7] at hp
    · have h7' : isSps a = false := by simpa using h7
      rw [List.map_cons, pairedF_of_not_sps _ _ h7', Bool.and_eq_true, Bool.not_eq_true'] at hp
      have ih := agg_clean r (fun t ht => hd t (by simp [ht])) hp.2
      simp [stepsOut, stepOut, da, h7, hp.1, aggOkG, aggCheck_not_sps m a _ _ h7', ih]

theorem agg_paired (ts : List (Nat × Bytes)) (h : paired (ts.map (·.2)) = true) :
    aggOkG (keepT ts) (stepsOut false (none, none) ts).1 = true := by
  rw [stepsOut_keepT]
  -- `paired l` is `pairedF (keep l)` by definition
  exact agg_clean (keepT ts) (fun t ht => by simpa using (List.mem_filter.mp ht).2) (by rw [keepT_map]; exact h)

end Rtp.Proofs.H264
