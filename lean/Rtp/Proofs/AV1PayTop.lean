/-
  Rtp/Proofs/AV1PayTop.lean — AV1Payloader.Payload as a whole: what its output denotes and that it
  obeys the aggregation rules.  `payloadPks` takes the MTU as a number ≥ 2; the guard of Payload is
  `payload_eq` (AV1RT.lean).
-/
import Rtp.Proofs.AV1PayStep
namespace Rtp.Model.AV1
open Rtp Rtp.Model Rtp.Spec.Av1Rtp
open Rtp.Model.ObuLemmas

/-- the OBUs Payload transmits for a scanned stream: the ones not dropped, size field removed -/
def flushedOf (l : List (ObuHeader × Bytes)) : List Bytes :=
  (l.filter (fun hb => !dropped hb.1)).map (fun hb => obuBytes hb.1 hb.2)

theorem flushedOf_cons (hb : ObuHeader × Bytes) (l : List (ObuHeader × Bytes)) :
    flushedOf (hb :: l) = (if dropped hb.1 then [] else [obuBytes hb.1 hb.2]) ++ flushedOf l := by
  unfold flushedOf
  by_cases h : dropped hb.1 = true <;> simp [h]

theorem foldl_spec (mtu : Nat) (hm : 2 ≤ mtu) (hs : mtu ≤ 65535) (l : List (ObuHeader × Bytes))
    (hwf : ∀ hb ∈ l, hdrWF hb.1 = true) (s : PSt) (us : List OUnit) (done : List Bytes)
    (hinv : PInv mtu s us done) :
    ∃ us', PInv mtu (l.foldl (step mtu) s) us' (done ++ flushedOf l) := by
  induction l generalizing s us done with
  | nil => exact ⟨us, by simpa [flushedOf] using hinv⟩
  | cons hb l ih =>
    obtain ⟨us1, h1⟩ := step_spec mtu hm hs s us done hb (hwf hb (by simp)) hinv
    obtain ⟨us2, h2⟩ := ih (fun x hx => hwf x (by simp [hx])) _ _ _ h1
    refine ⟨us2, ?_⟩
    rw [flushedOf_cons, ← List.append_assoc]
    exact h2

theorem walk_wf (fuel : Nat) (data : Bytes) : ∀ hb ∈ walk fuel data, hdrWF hb.1 = true := by
  induction fuel generalizing data with
  | zero => simp [walk]
  | succ f ih =>
    intro hb hmem
    unfold walk at hmem
    split at hmem
    · rename_i h hp
      have hw := parse_wf data h hp
      dsimp only at hmem
      split at hmem
      · split at hmem
        · simp at hmem
        · split at hmem
          · simp at hmem
          · simp only [List.mem_cons] at hmem
            rcases hmem with rfl | hmem
            · exact hw
            · exact ih _ hb hmem
      · simp only [List.mem_singleton] at hmem
        subst hmem
        exact hw
    · simp at hmem

theorem units_of_join (out : List Pk) (us : List OUnit) (h : joinPkt none (elemsRev out) = (us, none)) :
    units (out.reverse.map Pk.toPacket) = us := by
  have := joinElems_append none (elemsRev out) []
  rw [List.append_nil, h] at this
  simp only [joinElems, List.append_nil] at this
  unfold units
  rw [← elemsRev_eq, this]

/-- what is known about the packets Payload returns, oldest first -/
structure FinalInv (mtu : Nat) (pks : List Pk) (us : List OUnit) (done : List Bytes) : Prop where
  pk : ∀ p ∈ pks, PkOK p
  size : ∀ p ∈ pks, p.size ≤ mtu
  chain : zyChain false (pks.map Pk.toPacket) = true
  units : units (pks.map Pk.toPacket) = us
  bytes : us.map (·.bytes) = done
  lay1 : ∀ u ∈ us, ∀ v ∈ us, ∀ a b, layerOf u.bytes = some a → layerOf v.bytes = some b →
          sharePacket u v = true → a = b

theorem finish_spec (mtu : Nat) (hm : 2 ≤ mtu) (hs : mtu ≤ 65535) (s : PSt) (us : List OUnit)
    (done : List Bytes) (hinv : PInv mtu s us done) :
    ∃ us', FinalInv mtu (finish mtu s).reverse us' done := by
  -- once nothing is held back, the loop invariant read oldest-first
  have fin : ∀ (s' : PSt) (us' : List OUnit), PInv mtu s' us' done → s'.pending = [] →
      FinalInv mtu s'.out.reverse us' done := fun s' us' h hp =>
    ⟨fun p hp => h.out.pk p (List.mem_reverse.mp hp), fun p hp => h.size p (List.mem_reverse.mp hp),
      by
        have := zyChain_of_zyRev s'.out []
        simp only [List.append_nil, List.map_nil, zyChain] at this
        rw [this, h.out.zy, h.out.hy]; rfl,
      units_of_join _ _ h.join, by simpa [hp] using h.bytes, h.lay1⟩
  unfold finish
  by_cases hp : s.pending.isEmpty = true
  · rw [if_pos hp]
    exact ⟨us, fin s us hinv (List.isEmpty_iff.mp hp)⟩
  · rw [if_neg hp]
    obtain ⟨v, hv⟩ := flush_spec mtu hm hs s us done true hinv (fun h => hp (List.isEmpty_iff.mpr h))
    exact ⟨us ++ [v], fin _ _ hv rfl⟩

theorem payloadPks_spec (mtu : Nat) (hm : 2 ≤ mtu) (hs : mtu ≤ 65535) (data : Bytes) :
    ∃ us, FinalInv mtu (payloadPks mtu data) us (flushedOf (walk data.length data)) := by
  obtain ⟨us1, h1⟩ := foldl_spec mtu hm hs (walk data.length data) (walk_wf _ _) {} [] [] (PInv_init mtu)
  simpa [payloadPks] using finish_spec mtu hm hs _ us1 _ h1

theorem payload_denote (mtu : Nat) (hm : 2 ≤ mtu) (hs : mtu ≤ 65535) (data : Bytes) :
    denote ((payloadPks mtu data).map Pk.encode) = some (flushedOf (walk data.length data)) := by
  obtain ⟨us, hf⟩ := payloadPks_spec mtu hm hs data
  rw [denote_encode _ (fun p hp => (hf.pk p hp).1), hf.units, hf.bytes]

theorem payload_rules (mtu : Nat) (hm : 2 ≤ mtu) (hs : mtu ≤ 65535) (data : Bytes) :
    rulesOK mtu ((payloadPks mtu data).map Pk.encode) = true := by
  obtain ⟨us, hf⟩ := payloadPks_spec mtu hm hs data
  unfold rulesOK
  rw [parseAll_encode _ (fun p hp => (hf.pk p hp).1)]
  simp only [hf.units, Bool.and_eq_true, List.all_eq_true, decide_eq_true_eq, List.mem_map, forall_exists_index,
    and_imp, forall_apply_eq_imp_iff₂]
  refine ⟨?_, ⟨⟨hf.chain, ?_⟩, ?_⟩, ?_⟩
  · intro p hp
    rw [Pk.encode_length]; exact hf.size p hp
  · intro p hp e he
    rw [List.isEmpty_eq_false_iff.mpr ((hf.pk p hp).2.2.1 e he)]; rfl
  · intro u hu
    have hmem : u.bytes ∈ flushedOf (walk data.length data) :=
      hf.bytes ▸ List.mem_map.mpr ⟨u, hu, rfl⟩
    obtain ⟨hb, _, he⟩ := List.mem_map.mp hmem
    rw [← he]
    exact sizeFlagClear_obuBytes _ _
  · unfold layersOK
    simp only [List.all_eq_true]
    intro u hu v hv
    cases ha : layerOf u.bytes with
    | none => rfl
    | some a =>
      cases hb : layerOf v.bytes with
      | none => rfl
      | some b =>
        by_cases hsh : sharePacket u v = true
        · have := hf.lay1 u hu v hv a b ha hb hsh
          simp [hsh, this]
        · simp [hsh]

end Rtp.Model.AV1
