/-
  Rtp/Proofs/H265Rt.lean — the payloader's output, packet by packet, is the RFC 7798 encoding of
  a sequence of well-formed packets whose reassembly is the input units (`Emits`).  For each kind of
  packet the payloader writes (single, aggregation, FU train) a description `XDesc(s)` with three lemmas:
  `X_encode` (the bytes written are its encoding), `X_good` (well-formed and RFC-shaped), `X_depack` (what
  it reassembles to).  `Emits` is closed under `++`, which carries it through `flush`, `step`, `run`,
  `payload`; at the end the histories with options set per call.
-/
import Rtp.Proofs.H265Parse
import Rtp.Proofs.H265Pay
import Rtp.Proofs.H265AnnexB
namespace Rtp.Model.H265
open Rtp Rtp.Bits Rtp.Spec.Rfc7798 Rtp.Pred

/-- the unit predicate of the property: header + ≥ 1 payload octet, F = 0, type 0–47 -/
def UnitOK (n : Bytes) : Prop := 3 ≤ n.length ∧ (Hdr.ofNal n).f = false ∧ (Hdr.ofNal n).type.toNat < 48

theorem unit_split (n : Bytes) (h : 3 ≤ n.length) : ∃ a b c r, n = a :: b :: c :: r := by
  match n, h with
  | a :: b :: c :: r, _ => exact ⟨a, b, c, r, rfl⟩

theorem nalOf_ofNal (n : Bytes) (h : 2 ≤ n.length) : nalOf (Hdr.ofNal n) (n.drop 2) = n := by
  match n, h with
  | a :: b :: r, _ => simp [nalOf, Hdr.ofNal_bytes]

def singleDesc (cfg : Cfg) (d : UInt16) (n : Bytes) : Packet :=
  .single (Hdr.ofNal n) (if cfg.addDONL then some d else none) (n.drop 2)

theorem single_encode (cfg : Cfg) (d : UInt16) (n : Bytes) (h : 2 ≤ n.length) :
    singlePkt cfg d n = encode (singleDesc cfg d n) := by
  match n, h with
  | a :: b :: r, _ =>
    cases hd : cfg.addDONL <;>
      simp [singlePkt, singleDesc, encode, hd, Hdr.ofNal_bytes, donlBytes, be16_eq_u16be]

theorem single_good (cfg : Cfg) (d : UInt16) (n : Bytes) (h : UnitOK n) :
    (singleDesc cfg d n).WF cfg.addDONL = true ∧ shapeOk cfg.addDONL (singleDesc cfg d n) = true := by
  obtain ⟨h3, hf, ht⟩ := h
  obtain ⟨a, b, c, r, rfl⟩ := unit_split n h3
  have t48 : (Hdr.ofNal (a :: b :: c :: r)).type ≠ 48 := by intro h; rw [h] at ht; simp at ht
  have t49 : (Hdr.ofNal (a :: b :: c :: r)).type ≠ 49 := by intro h; rw [h] at ht; simp at ht
  have t50 : (Hdr.ofNal (a :: b :: c :: r)).type ≠ 50 := by intro h; rw [h] at ht; simp at ht
  constructor
  · cases hd : cfg.addDONL <;> simp [singleDesc, Packet.WF, Hdr.ofNal_WF, hf, t48, t49, t50, hd]
  · cases hd : cfg.addDONL <;> simp [singleDesc, shapeOk, ht, hd]

theorem single_depack (cfg : Cfg) (d : UInt16) (n : Bytes) (h : 2 ≤ n.length) :
    depack none [singleDesc cfg d n] = some [n] := by
  simp [depack, singleDesc, nalOf_ofNal n h]

/-- one step of the layer/TID scan: the function `minLayerTid` (Model/H265.lean) folds, given a name -/
def ltStep (acc : UInt8 × UInt8) (n : Bytes) : UInt8 × UInt8 :=
  let h := rd16 (n.getD 0 0) (n.getD 1 0)
  (if hdrLayer h < acc.1 then hdrLayer h else acc.1, if hdrTid h < acc.2 then hdrTid h else acc.2)

theorem minLayerTid_eq (ns : List Bytes) : minLayerTid ns = ns.foldl ltStep (255, 255) := rfl

theorem ltStep_spec (acc : UInt8 × UInt8) (n : Bytes) (hn : 2 ≤ n.length) :
    (ltStep acc n).1.toNat = min acc.1.toNat (Hdr.ofNal n).layer.toNat ∧
    (ltStep acc n).2.toNat = min acc.2.toNat (Hdr.ofNal n).tid.toNat := by
  match n, hn with
  | a :: b :: r, _ =>
    have hv := hdrView_ofNal a b r
    have e1 : hdrLayer (rd16 a b) = (Hdr.ofNal (a :: b :: r)).layer := by rw [← hv]; rfl
    have e2 : hdrTid (rd16 a b) = (Hdr.ofNal (a :: b :: r)).tid := by rw [← hv]; rfl
    simp only [ltStep, List.getD_cons_zero, List.getD_cons_succ, e1, e2, UInt8.lt_iff_toNat_lt]
    constructor <;> split <;> omega

theorem foldl_ltStep (ns : List Bytes) (hlen : ∀ n ∈ ns, 2 ≤ n.length) (acc : UInt8 × UInt8) :
    (ns.foldl ltStep acc).1.toNat = ns.foldl (fun m u => min m (Hdr.ofNal u).layer.toNat) acc.1.toNat ∧
    (ns.foldl ltStep acc).2.toNat = ns.foldl (fun m u => min m (Hdr.ofNal u).tid.toNat) acc.2.toNat := by
  induction ns generalizing acc with
  | nil => exact ⟨rfl, rfl⟩
  | cons n ns ih =>
    obtain ⟨s1, s2⟩ := ltStep_spec acc n (hlen n (by simp))
    simp only [List.foldl_cons, ← s1, ← s2]
    exact ih (fun m hm => hlen m (by simp [hm])) _

theorem foldl_min_le {α : Type} (f : α → Nat) (l : List α) (m : Nat) :
    l.foldl (fun m u => min m (f u)) m ≤ m := by
  induction l generalizing m with
  | nil => exact Nat.le_refl _
  | cons a l ih => exact Nat.le_trans (ih _) (Nat.min_le_left _ _)

/-- the payloader's scan finds the minimum LayerId / TID of the units (as RFC 7798 §4.4.2 asks) -/
theorem minLayerTid_spec (n : Bytes) (ns : List Bytes) (hlen : ∀ m ∈ n :: ns, 2 ≤ m.length) :
    (minLayerTid (n :: ns)).1.toNat = minLayer (n :: ns) ∧ (minLayerTid (n :: ns)).2.toNat = minTid (n :: ns) ∧
    (minLayerTid (n :: ns)).1.toNat ≤ 63 ∧ (minLayerTid (n :: ns)).2.toNat ≤ 7 := by
  -- after the first unit both scans stand at that unit's fields, which are below the start values 255 / 63 / 7
  obtain ⟨_, wl, wt⟩ := (Hdr.WF_iff _).mp (Hdr.ofNal_WF n)
  obtain ⟨s1, s2⟩ := ltStep_spec (255, 255) n (hlen n (by simp))
  obtain ⟨a1, a2⟩ := foldl_ltStep ns (fun m hm => hlen m (by simp [hm])) (ltStep (255, 255) n)
  have e1 : (ltStep (255, 255) n).1.toNat = (Hdr.ofNal n).layer.toNat := s1.trans (Nat.min_eq_right (show _ ≤ 255 by omega))
  have e2 : (ltStep (255, 255) n).2.toNat = (Hdr.ofNal n).tid.toNat := s2.trans (Nat.min_eq_right (show _ ≤ 255 by omega))
  rw [minLayerTid_eq, List.foldl_cons, a1, a2, e1, e2]
  simp only [minLayer, minTid, List.foldl_cons, Nat.min_eq_right (Nat.le_of_lt_succ wl),
    Nat.min_eq_right (Nat.le_of_lt_succ wt)]
  exact ⟨trivial, trivial, Nat.le_trans (foldl_min_le _ _ _) (Nat.le_of_lt_succ wl),
    Nat.le_trans (foldl_min_le _ _ _) (Nat.le_of_lt_succ wt)⟩

/-- the payload header of an aggregation packet as the payloader computes it; 24576 = 48·2⁹ is Type 48 -/
theorem apWord_toNat (l t : UInt8) (hl : l.toNat ≤ 63) (ht : t.toNat ≤ 7) :
    (((48 : UInt16) <<< 9) ||| (l.toUInt16 <<< 3) ||| t.toUInt16).toNat = 24576 + l.toNat * 8 + t.toNat := by
  simp only [UInt16.toNat_or, UInt16.toNat_shiftLeft, UInt8.toNat_toUInt16]
  have e1 : (48 : UInt16).toNat <<< ((9 : UInt16).toNat % 16) % 2 ^ 16 = 3072 <<< 3 := by decide
  have e2 : l.toNat <<< ((3 : UInt16).toNat % 16) % 2 ^ 16 = l.toNat <<< 3 := by
    simp [Nat.shiftLeft_eq]; omega
  rw [e1, e2, ← Nat.shiftLeft_or_distrib]
  have e3 : 3072 ||| l.toNat = 3072 + l.toNat := by
    have := nat_shl_or 48 l.toNat 6 (by omega)
    simpa using this
  rw [e3, nat_shl_or _ _ 3 (by omega)]; omega

/-- the aggregation units after the first, as descriptions -/
def restUnits (cfg : Cfg) : Nat → List Bytes → List (Option UInt8 × Bytes)
  | _, [] => []
  | i, n :: ns => ((if cfg.addDONL then some (i - 1).toUInt8 else none), n) :: restUnits cfg (i + 1) ns

theorem aggUnits_rest (cfg : Cfg) (d : UInt16) (i : Nat) (hi : i ≠ 0) (ns : List Bytes)
    (hlen : ∀ n ∈ ns, n.length < 65536) :
    aggUnits cfg d i ns = ((restUnits cfg i ns).map unitBytes).flatten := by
  induction ns generalizing i with
  | nil => rfl
  | cons n ns ih =>
    have hn : be16 n.length.toUInt16 = u16be n.length := by
      rw [be16_eq_u16be, toNat_toUInt16_of_lt (hlen n (by simp))]
    simp only [aggUnits, restUnits, List.map_cons, List.flatten_cons, unitBytes, hn,
      ih (i + 1) (by omega) (fun m hm => hlen m (by simp [hm]))]
    have : (i == 0) = false := by simp [hi]
    cases hd : cfg.addDONL <;> simp [this, dondBytes]

def aggDesc (cfg : Cfg) (d : UInt16) (n : Bytes) (ns : List Bytes) : Packet :=
  .ap { f := false, type := 48, layer := (minLayerTid (n :: ns)).1, tid := (minLayerTid (n :: ns)).2 }
    (if cfg.addDONL then some d else none) n (restUnits cfg 1 ns)

theorem agg_encode (cfg : Cfg) (d : UInt16) (n : Bytes) (ns : List Bytes)
    (h2 : ∀ m ∈ n :: ns, 2 ≤ m.length) (hlen : ∀ m ∈ n :: ns, m.length < 65536) :
    aggPacket cfg d (n :: ns) = encode (aggDesc cfg d n ns) := by
  obtain ⟨_, _, hl, ht⟩ := minLayerTid_spec n ns h2
  have hw := apWord_toNat _ _ hl ht
  simp only [aggPacket, aggDesc, encode, Hdr.bytes, Hdr.word, be16_eq_u16be, hw, aggUnits,
    aggUnits_rest cfg d 1 (by decide) ns (fun m hm => hlen m (by simp [hm]))]
  cases hd : cfg.addDONL <;> simp [donlBytes, Nat.mod_eq_of_lt (hlen n (by simp))]

theorem restUnits_snd (cfg : Cfg) (i : Nat) (ns : List Bytes) : (restUnits cfg i ns).map (·.2) = ns := by
  induction ns generalizing i with
  | nil => rfl
  | cons n ns ih => simp [restUnits, ih]

theorem restUnits_all (cfg : Cfg) (i : Nat) (ns : List Bytes) (p : Bytes → Prop) (hp : ∀ n ∈ ns, p n) :
    ∀ u ∈ restUnits cfg i ns, u.1.isSome = cfg.addDONL ∧ p u.2 := by
  induction ns generalizing i with
  | nil => intro u hu; simp [restUnits] at hu
  | cons n ns ih =>
    intro u hu
    simp only [restUnits, List.mem_cons] at hu
    rcases hu with rfl | hu
    · refine ⟨?_, hp n (by simp)⟩
      cases hd : cfg.addDONL <;> simp
    · exact ih (i + 1) (fun m hm => hp m (by simp [hm])) u hu

theorem agg_good (cfg : Cfg) (d : UInt16) (n : Bytes) (ns : List Bytes) (hne : ns ≠ [])
    (h2 : ∀ m ∈ n :: ns, 2 ≤ m.length) (hlen : ∀ m ∈ n :: ns, m.length < 65536) :
    (aggDesc cfg d n ns).WF cfg.addDONL = true ∧ shapeOk cfg.addDONL (aggDesc cfg d n ns) = true := by
  obtain ⟨ml, mt, hl, ht⟩ := minLayerTid_spec n ns h2
  have hr1 := restUnits_all cfg 1 ns (fun m => m.length < 65536) (fun m hm => hlen m (by simp [hm]))
  have hr2 := restUnits_all cfg 1 ns (fun m => 2 ≤ m.length) (fun m hm => h2 m (by simp [hm]))
  have hne' : restUnits cfg 1 ns ≠ [] := by
    cases ns with
    | nil => exact absurd rfl hne
    | cons _ _ => simp [restUnits]
  have hd' : (if cfg.addDONL then some d else none : Option UInt16).isSome = cfg.addDONL := by
    cases hd : cfg.addDONL <;> simp
  have hl' : (minLayerTid (n :: ns)).1.toNat < 64 := by omega
  have ht' : (minLayerTid (n :: ns)).2.toNat < 8 := by omega
  have hn1 := hlen n (by simp)
  constructor
  · have hall : (restUnits cfg 1 ns).all
        (fun u => u.1.isSome == cfg.addDONL && decide (u.2.length < 65536)) = true := by
      simp only [List.all_eq_true, Bool.and_eq_true, beq_iff_eq, decide_eq_true_eq]; exact hr1
    simp [aggDesc, Packet.WF, Hdr.WF, hd', hall, hne', hl', ht', hn1]
  · have hall : (restUnits cfg 1 ns).all (fun u => u.1.isSome == cfg.addDONL) = true := by
      simp only [List.all_eq_true, beq_iff_eq]; intro u hu; exact (hr1 u hu).1
    have h2' : ∀ m ∈ ns, 2 ≤ m.length := fun m hm => h2 m (by simp [hm])
    have h2n := h2 n (by simp)
    simp [aggDesc, shapeOk, restUnits_snd, hd', hall, hne', ml, mt, h2n]
    exact h2'

theorem agg_depack (cfg : Cfg) (d : UInt16) (n : Bytes) (ns : List Bytes) :
    depack none [aggDesc cfg d n ns] = some (n :: ns) := by
  simp [depack, aggDesc, restUnits_snd]

/-- payload header of the FUs of a unit whose header octets are `b0 b1`: Type 49, F/LayerId/TID kept -/
def fuHdr (b0 b1 : UInt8) : Hdr := { Hdr.ofNal [b0, b1] with type := 49 }

/-- the first octet of an FU payload header: F and the top LayerId bit of the unit kept, 98 = 49 <<< 1 is
    Type 49 (checked on all 256 octets) -/
theorem u8_fu_hi : ∀ b0 : UInt8, ((b0 &&& (0x81 : UInt8)) ||| ((49 : UInt8) <<< 1)).toNat =
    b0.toNat / 128 * 128 + 98 + b0.toNat % 2 := by
  apply forall_u8; decide +kernel

/- The FU payload header is the unit's header word with Type replaced by 49; Type sits in bits 1–6 of
   the first octet (F(1) Type(6) L(1) | L(5) TID(3)), so only that octet changes; 25088 = 49·512. -/
theorem fuHdr_word (b0 b1 : UInt8) :
    (fuHdr b0 b1).word = b0.toNat / 128 * 32768 + 25088 + (b0.toNat % 2) * 256 + b1.toNat := by
  have h1 := b1.toNat_lt
  have hw := Hdr.word_ofWord (b0.toNat * 256 + b1.toNat) (by have := b0.toNat_lt; omega)
  have ht : (Hdr.ofWord (b0.toNat * 256 + b1.toNat)).type.toNat = b0.toNat / 2 % 64 := by
    simp only [Hdr.ofWord]
    rw [toNat_toUInt8_of_lt (mod_lt_256 _ (by decide) (by decide)), show 512 = 256 * 2 from rfl,
      ← Nat.div_div_eq_div_mul, Nat.add_comm, Nat.add_mul_div_right _ _ (by decide), Nat.div_eq_of_lt h1,
      Nat.zero_add]
  have e0 : b0.toNat / 128 * 128 + b0.toNat / 2 % 64 * 2 + b0.toNat % 2 = b0.toNat := by
    have e1 := Nat.div_add_mod b0.toNat 128
    have e2 : b0.toNat % 128 = b0.toNat % 2 + 2 * (b0.toNat / 2 % 64) := Nat.mod_mul (a := 2) (b := 64)
    rw [e2] at e1
    generalize b0.toNat / 128 = f, b0.toNat / 2 % 64 = t, b0.toNat % 2 = l at e1 ⊢
    omega
  rw [Hdr.word_eq, ht] at hw
  rw [Hdr.word_eq]
  have h49 : (49 : UInt8).toNat = 49 := rfl
  simp only [fuHdr, Hdr.ofNal, h49, Nat.reduceMul]
  generalize (Hdr.ofWord (b0.toNat * 256 + b1.toNat)).f.toNat = f,
    (Hdr.ofWord (b0.toNat * 256 + b1.toNat)).layer.toNat = l, (Hdr.ofWord (b0.toNat * 256 + b1.toNat)).tid.toNat = i,
    b0.toNat / 128 = F, b0.toNat / 2 % 64 = T, b0.toNat % 2 = L at hw e0 ⊢
  omega

theorem fuHdr_bytes (b0 b1 : UInt8) :
    (fuHdr b0 b1).bytes = [(b0 &&& (0x81 : UInt8)) ||| ((49 : UInt8) <<< 1), b1] := by
  have hw : (fuHdr b0 b1).word = (rd16 ((b0 &&& (0x81 : UInt8)) ||| ((49 : UInt8) <<< 1)) b1).toNat := by
    rw [rd16_toNat, fuHdr_word, u8_fu_hi]
    generalize b0.toNat / 128 = F, b0.toNat % 2 = L
    omega
  rw [Hdr.bytes, hw, u16be_rd16]

theorem fuHdr_WF (b0 b1 : UInt8) : (fuHdr b0 b1).WF = true := by
  have := Hdr.ofNal_WF [b0, b1]
  simp only [Hdr.WF, Bool.and_eq_true, decide_eq_true_eq] at this ⊢
  simp only [fuHdr]
  refine ⟨⟨by decide, this.1.2⟩, this.2⟩

theorem fuHdr_with_type (b0 b1 : UInt8) : { fuHdr b0 b1 with type := (Hdr.ofNal [b0, b1]).type } = Hdr.ofNal [b0, b1] := by
  simp [fuHdr]

/-- what a receiver that expects a DONL in *every* FU — as `H265Payloader` writes them — takes as
    the payload of a non-first fragment: the two DONL octets are skipped.  (`H265Packet` and RFC 7798
    read a DONL only in the first fragment.) -/
def stripDonl (mode : Bool) : Packet → Packet
  | .fu h false e t none p => .fu h false e t none (if mode then p.drop 2 else p)
  | p => p

theorem stripDonl_false (p : Packet) : stripDonl false p = p := by
  cases p with
  | fu h s e t d q => cases s <;> cases d <;> simp [stripDonl]
  | _ => rfl

/-- the FU train of `fuLoop`, as `H265Packet` decodes it.  Without AddDONL these are the FUs of RFC 7798
    §4.4.3; with it (the known finding `c14_donl_fu`: a DONL in every FU) a DONL on the first fragment, and on the
    others two more payload octets, which `stripDonl` skips -/
def fuDescs (mode : Bool) (k : Nat) (b0 b1 : UInt8) : Nat → Bool → UInt16 → Bytes → List Packet
  | 0, _, _, _ => []
  | fuel + 1, first, d, l =>
    if l.isEmpty then []
    else
      let cur := if l.length > k then k else l.length
      .fu (fuHdr b0 b1) first (!first && (l.length - cur == 0)) (Hdr.ofNal [b0, b1]).type
          (if mode && first then some d else none) ((if mode && !first then be16 d else []) ++ l.take cur) ::
        fuDescs mode k b0 b1 fuel false (if mode then d + 1 else d) (l.drop cur)

theorem fuDescs_nil (mode : Bool) (k : Nat) (b0 b1 : UInt8) (fuel : Nat) (first : Bool) (d : UInt16) :
    fuDescs mode k b0 b1 fuel first d [] = [] := by
  cases fuel <;> rfl

theorem fu_encode (cfg : Cfg) (k : Nat) (b0 b1 : UInt8) (fuel : Nat) (first : Bool) (d : UInt16) (l : Bytes) :
    (fuLoop cfg k b0 b1 fuel first d l).1 = (fuDescs cfg.addDONL k b0 b1 fuel first d l).map encode := by
  induction fuel generalizing first d l with
  | zero => rfl
  | succ fuel ih =>
    simp only [fuLoop, fuDescs]
    split
    · rfl
    · have ht : hdrType (rd16 b0 b1) = (Hdr.ofNal [b0, b1]).type := by
        rw [← hdrView_ofNal b0 b1 []]; rfl
      have ht64 := ((Hdr.WF_iff _).mp (Hdr.ofNal_WF [b0, b1])).1
      simp only [List.map_cons, encode, fuHdr_bytes, ih, ht, fuType_or_flag _ ht64]
      congr 1
      cases cfg.addDONL <;> cases first <;> simp [donlBytes, be16_eq_u16be]

/-- a fragment is never empty: `maxFUPayloadSize ≥ 1` and the loop stops when nothing is left -/
theorem take_cur_ne_nil (k : Nat) (hk : 1 ≤ k) (l : Bytes) (hl : l ≠ []) :
    l.take (if l.length > k then k else l.length) ≠ [] := by
  have := List.length_pos_iff.mpr hl
  rw [Ne, List.take_eq_nil_iff, not_or]
  exact ⟨by split <;> omega, hl⟩

theorem fu_good (mode : Bool) (k : Nat) (hk : 1 ≤ k) (b0 b1 : UInt8) (hf : (Hdr.ofNal [b0, b1]).f = false)
    (ht : (Hdr.ofNal [b0, b1]).type.toNat < 48) (fuel : Nat) (first : Bool) (d : UInt16) (l : Bytes) :
    ∀ p ∈ fuDescs mode k b0 b1 fuel first d l, p.WF mode = true ∧ shapeOk mode p = true := by
  induction fuel generalizing first d l with
  | zero => intro p hp; cases hp
  | succ fuel ih =>
    intro p hp
    simp only [fuDescs] at hp
    split at hp
    · cases hp
    · rename_i hne
      rcases List.mem_cons.mp hp with rfl | hp
      · have hne' := take_cur_ne_nil k hk l (by simpa using hne)
        have ht64 : (Hdr.ofNal [b0, b1]).type.toNat < 64 := by omega
        have hff : (fuHdr b0 b1).f = false := hf
        have h49 : (fuHdr b0 b1).type = 49 := rfl
        cases mode <;> cases first <;> simp [Packet.WF, shapeOk, fuHdr_WF, hff, ht64, ht, h49, hne']
      · exact ih _ _ _ p hp

/-- reassembly of the non-first fragments, the stray DONL octets skipped -/
theorem fu_depack_tail (mode : Bool) (k : Nat) (hk : 1 ≤ k) (b0 b1 : UInt8) (fuel : Nat) (d : UInt16) (l : Bytes)
    (hl : l ≠ []) (hfuel : l.length ≤ fuel) (acc : Bytes) (rest : List Packet) :
    depack (some (Hdr.ofNal [b0, b1], acc)) ((fuDescs mode k b0 b1 fuel false d l).map (stripDonl mode) ++ rest) =
      (depack none rest).map (nalOf (Hdr.ofNal [b0, b1]) (acc ++ l) :: ·) := by
  induction fuel generalizing d l acc with
  | zero => exact absurd (List.length_pos_iff.mpr hl) (by omega)
  | succ fuel ih =>
    have hpos := List.length_pos_iff.mpr hl
    have hemp : l.isEmpty = false := List.isEmpty_eq_false_iff.mpr hl
    have hstrip : ∀ (e : Bool) (q : Bytes), stripDonl mode (.fu (fuHdr b0 b1) false e (Hdr.ofNal [b0, b1]).type
        (if mode && false then some d else none) ((if mode && true then be16 d else []) ++ q)) =
        .fu (fuHdr b0 b1) false e (Hdr.ofNal [b0, b1]).type none q := by
      intro e q; cases mode <;> rfl
    simp only [fuDescs, hemp, Bool.false_eq_true, if_false, List.map_cons, hstrip, List.cons_append, depack,
      Bool.not_false, Bool.true_and, fuHdr_with_type, beq_self_eq_true, if_true]
    by_cases hgt : l.length > k
    · have he : (l.length - k == 0) = false := by rw [beq_eq_false_iff_ne]; omega
      simp only [hgt, if_true, he, Bool.false_eq_true, if_false]
      rw [ih _ (l.drop k) (by rw [Ne, List.drop_eq_nil_iff]; omega) (by rw [List.length_drop]; omega),
        List.append_assoc, List.take_append_drop]
    · simp only [hgt, if_false, Nat.sub_self, beq_self_eq_true, if_true, List.take_length, List.drop_length,
        fuDescs_nil, List.map_nil, List.nil_append]

/-- reassembly of a whole train: at least two fragments, S on the first, E on the last -/
theorem fu_depack (mode : Bool) (k : Nat) (hk : 1 ≤ k) (b0 b1 : UInt8) (fuel : Nat) (d : UInt16) (l : Bytes)
    (hgt : l.length > k) (hfuel : l.length ≤ fuel) (rest : List Packet) :
    depack none ((fuDescs mode k b0 b1 fuel true d l).map (stripDonl mode) ++ rest) =
      (depack none rest).map (nalOf (Hdr.ofNal [b0, b1]) l :: ·) := by
  cases fuel with
  | zero => omega
  | succ fuel =>
    have hemp : l.isEmpty = false := List.isEmpty_eq_false_iff.mpr (List.length_pos_iff.mp (by omega))
    simp only [fuDescs, hemp, Bool.false_eq_true, if_false, hgt, if_true, List.map_cons, stripDonl,
      List.cons_append, depack, Bool.not_true, Bool.and_false, Bool.false_and, Bool.not_false, Bool.and_self,
      fuHdr_with_type, List.nil_append]
    rw [fu_depack_tail mode k hk b0 b1 fuel _ (l.drop k) (by rw [Ne, List.drop_eq_nil_iff]; omega)
      (by rw [List.length_drop]; omega), List.take_append_drop]

/-- reassembly distributes over complete packet runs -/
theorem depack_append (st : Option (Hdr × Bytes)) (a b : List Packet) (x : List Bytes)
    (h : depack st a = some x) : depack st (a ++ b) = (depack none b).map (x ++ ·) := by
  induction a generalizing st x with
  | nil =>
    cases st with
    | none => cases h; simp
    | some s => cases h
  | cons p ps ih =>
    -- each clause of `depack` on `p :: ps` fails, goes on with `ps`, or puts finished units in front
    have hmap : ∀ u : List Bytes, (depack none ps).map (u ++ ·) = some x →
        (depack none (ps ++ b)).map (u ++ ·) = (depack none b).map (x ++ ·) := by
      intro u hu
      obtain ⟨y, hy, rfl⟩ := Option.map_eq_some_iff.mp hu
      rw [ih none y hy, Option.map_map]
      congr 1; funext z; exact (List.append_assoc u y z).symm
    cases st with
    | none =>
      cases p with
      | single hh d pl => exact hmap [nalOf hh pl] h
      | ap hh d f r => exact hmap _ h
      | fu hh s e t d pl =>
        simp only [depack, List.cons_append] at h ⊢
        split at h
        · rename_i hc; rw [if_pos hc]; exact ih _ x h
        · cases h
      | paci hh a c phs f0 f1 f2 y phes pl =>
        simp only [depack, List.cons_append] at h ⊢
        split at h
        · rename_i hc; rw [if_pos hc]; exact hmap [nalOf _ pl] h
        · cases h
    | some s =>
      obtain ⟨uh, acc⟩ := s
      cases p with
      | fu hh s e t d pl =>
        simp only [depack, List.cons_append] at h ⊢
        split at h
        · rename_i hc
          rw [if_pos hc]
          split at h
          · rename_i he; rw [if_pos he]; exact hmap [nalOf uh (acc ++ pl)] h
          · rename_i he; rw [if_neg he]; exact ih _ x h
        · cases h
      | single hh d pl => cases h
      | ap hh d f r => cases h
      | paci hh a c phs f0 f1 f2 y phes pl => cases h

/-- `pkts` is the wire form of well-formed, RFC 7798-shaped packets that reassemble to `units` —
    for a stream with AddDONL: once the stray DONL octets of non-first FUs are skipped
    (`stripDonl`, the identity on everything but a non-first FU of a DONL stream) -/
def Emits (cfg : Cfg) (pkts : List Bytes) (units : List Bytes) : Prop :=
  ∃ descs : List Packet, pkts = descs.map encode ∧
    (∀ p ∈ descs, p.WF cfg.addDONL = true ∧ shapeOk cfg.addDONL p = true) ∧
    depack none (descs.map (stripDonl cfg.addDONL)) = some units

theorem Emits.nil (cfg : Cfg) : Emits cfg [] [] := ⟨[], rfl, by simp, rfl⟩

theorem Emits.append {cfg : Cfg} {a b ua ub : List Bytes} (ha : Emits cfg a ua) (hb : Emits cfg b ub) :
    Emits cfg (a ++ b) (ua ++ ub) := by
  obtain ⟨da, ea, ga, ra⟩ := ha
  obtain ⟨db, eb, gb, rb⟩ := hb
  refine ⟨da ++ db, by simp [ea, eb], ?_, ?_⟩
  · intro p hp
    rcases List.mem_append.mp hp with h | h
    · exact ga p h
    · exact gb p h
  · rw [List.map_append, depack_append none _ _ ua ra, rb]; rfl

/-- what is buffered are units of the property, short enough for a 16-bit size field -/
def BufOK (l : List Bytes) : Prop := ∀ n ∈ l, UnitOK n ∧ n.length < 65536

theorem BufOK.push {l : List Bytes} {n : Bytes} (hb : BufOK l) (hn : UnitOK n) (hl : n.length < 65536) :
    BufOK (l ++ [n]) := by
  intro m hm
  rcases List.mem_append.mp hm with h | h
  · exact hb m h
  · simp at h; subst h; exact ⟨hn, hl⟩

theorem BufOK.nil : BufOK [] := by intro m hm; simp at hm

theorem emits_single (cfg : Cfg) (d : UInt16) (n : Bytes) (h : UnitOK n) :
    Emits cfg [singlePkt cfg d n] [n] :=
  ⟨[singleDesc cfg d n], by simp [single_encode cfg d n (by have := h.1; omega)],
   by intro p hp; simp at hp; subst hp; exact single_good cfg d n h,
   by simpa [singleDesc, stripDonl] using single_depack cfg d n (by have := h.1; omega)⟩

theorem flush_rt (cfg : Cfg) (s : St) (hb : BufOK s.buf) : Emits cfg (flush cfg s).1 s.buf := by
  obtain ⟨buf, agg, donl⟩ := s
  simp only at hb
  match buf, hb with
  | [], _ => exact Emits.nil cfg
  | [n], hb =>
    have := emits_single cfg donl n (hb n (by simp)).1
    simp only [flush]
    split
    · rename_i hd; simpa [singlePkt, hd] using this
    · rename_i hd; simpa [singlePkt, hd] using this
  | n1 :: n2 :: ns, hb =>
    simp only [flush]
    have h2 : ∀ m ∈ n1 :: n2 :: ns, 2 ≤ m.length := fun m hm => by have := (hb m hm).1.1; omega
    have hl : ∀ m ∈ n1 :: n2 :: ns, m.length < 65536 := fun m hm => (hb m hm).2
    refine ⟨[aggDesc cfg donl n1 (n2 :: ns)], by simp [agg_encode cfg donl n1 (n2 :: ns) h2 hl], ?_,
      by simpa [aggDesc, stripDonl] using agg_depack cfg donl n1 (n2 :: ns)⟩
    intro p hp; simp at hp; subst hp
    exact agg_good cfg donl n1 (n2 :: ns) (by simp) h2 hl

theorem flush_donl_buf (cfg : Cfg) (s : St) : (flush cfg s).2.buf = [] ∨ (flush cfg s).2 = s :=
  .inl (flush_buf_nil cfg s)

theorem fuLoop_head_isFU (cfg : Cfg) (k : Nat) (b0 b1 : UInt8) (fuel : Nat) (first : Bool) (d : UInt16)
    (l : Bytes) (hl : l ≠ []) (hfuel : 1 ≤ fuel) :
    ∃ p ∈ (fuLoop cfg k b0 b1 fuel first d l).1, isFU p = true := by
  cases fuel with
  | zero => omega
  | succ fuel =>
    have hemp : l.isEmpty = false := List.isEmpty_eq_false_iff.mpr hl
    simp only [fuLoop, hemp, Bool.false_eq_true, if_false]
    refine ⟨_, List.mem_cons_self, ?_⟩
    obtain ⟨x, y, hb, _, _, e2⟩ := hdr_bytes (fuHdr b0 b1) (fuHdr_WF b0 b1)
    rw [fuHdr_bytes] at hb
    cases hb
    exact (congrArg (· == 49) e2 : _)

/-- one `step`: what it emits carries a prefix `e` of buffer ++ unit, the rest stays buffered -/
theorem step_rt (cfg : Cfg) (mtu : Nat) (s : St) (n : Bytes) (hb : BufOK s.buf)
    (hn : UnitOK n) (hmin : (if cfg.addDONL then 6 else 4) ≤ mtu) (hmax : mtu < 65536) :
    ∃ e, Emits cfg (step cfg mtu s n).1 e ∧ s.buf ++ [n] = e ++ (step cfg mtu s n).2.buf ∧
      BufOK (step cfg mtu s n).2.buf := by
  have hn3 := hn.1
  have hf1 := flush_rt cfg s hb
  have hfe := flush_buf_nil cfg s
  have hmin' : 4 + (if cfg.addDONL then 2 else 0) ≤ mtu := by revert hmin; cases cfg.addDONL <;> exact id
  -- a unit that fits a packet of its own joins the buffer, after a flush if it does not fit with what is there
  have hjoin : ∀ (o1 : List Bytes) (s1 : St) (m1 : Nat),
      n.length + 2 + (if cfg.addDONL then 2 else 0) ≤ mtu →
      (if s.agg + marginal cfg s.buf.length n.length > mtu then
        match flush cfg s with
        | (o, s') => (o, s', marginal cfg s'.buf.length n.length)
       else ([], s, marginal cfg s.buf.length n.length)) = (o1, s1, m1) →
      ∃ e, Emits cfg o1 e ∧ s.buf = e ++ s1.buf ∧ BufOK (s1.buf ++ [n]) := by
    intro o1 s1 m1 hfit hx
    have hlen : n.length < 65536 := by omega
    split at hx
    · have hx' : ((flush cfg s).1, (flush cfg s).2, marginal cfg (flush cfg s).2.buf.length n.length) =
          (o1, s1, m1) := hx
      cases hx'
      exact ⟨s.buf, hf1, by rw [hfe, List.append_nil], by rw [hfe]; exact BufOK.nil.push hn hlen⟩
    · cases hx
      exact ⟨[], Emits.nil cfg, rfl, hb.push hn hlen⟩
  fun_cases step cfg mtu s n
  case case1 => omega
  case case3 _ _ hfit _ o1 s1 m1 hx _ _ =>
    obtain ⟨e, he, hs, hb'⟩ := hjoin o1 s1 m1 hfit hx
    exact ⟨e, he, by rw [hs, List.append_assoc], hb'⟩
  case case2 _ _ hfit _ o1 s1 m1 hx s2 _ o s' hfl =>
    obtain ⟨e, he, hs, hb'⟩ := hjoin o1 s1 m1 hfit hx
    obtain ⟨rfl, rfl⟩ := Prod.ext_iff.mp hfl
    refine ⟨e ++ (s1.buf ++ [n]), he.append (flush_rt cfg s2 hb'), ?_, ?_⟩
    · rw [hs, List.append_assoc]; simp only [flush_buf_nil, List.append_nil]
    · simp only [flush_buf_nil]; exact BufOK.nil
  case case4 _ _ _ fuHdr hdrop =>
    -- the unit is not dropped: here the bounds 6 / 4 on the MTU (`rtWF`) are used
    simp only [Bool.or_eq_true, decide_eq_true_eq, beq_iff_eq, fuHdr] at hdrop
    omega
  case case5 _ _ _ _ _ _ o1 s1 hfl1 _ o s' hfl =>
    -- sent as a single NAL unit packet
    obtain ⟨rfl, rfl⟩ := Prod.ext_iff.mp hfl1
    rw [hfe, List.nil_append] at hfl
    obtain ⟨rfl, rfl⟩ := Prod.ext_iff.mp hfl
    refine ⟨s.buf ++ [n], ?_, ?_, ?_⟩
    · simp only [flush_one]; exact hf1.append (emits_single cfg _ n hn)
    · simp only [flush_buf_nil, List.append_nil]
    · simp only [flush_buf_nil]; exact BufOK.nil
  case case6 _ _ _ fuHdr _ k o1 s1 hfl1 hone fr d hfu =>
    -- a fragmentation unit train (with AddDONL: the train of the known finding `c14_donl_fu`, a DONL in every FU)
    obtain ⟨rfl, rfl⟩ := Prod.ext_iff.mp hfl1
    obtain ⟨rfl, rfl⟩ := Prod.ext_iff.mp hfu
    obtain ⟨a, b, c, r, rfl⟩ := unit_split n hn3
    have hk : 1 ≤ k := by simp only [k, fuHdr]; omega
    have hgt : (c :: r).length > k := by simp only [List.length_cons] at hone ⊢; omega
    simp only [List.getD_cons_zero, List.getD_cons_succ, List.drop_succ_cons, List.drop_zero]
    have e : (a :: b :: c :: r).length - 2 = (c :: r).length := by simp
    rw [e]
    refine ⟨s.buf ++ [a :: b :: c :: r], hf1.append ⟨fuDescs cfg.addDONL k a b (c :: r).length true _ (c :: r),
      fu_encode cfg _ a b _ true _ _, fu_good cfg.addDONL k hk a b hn.2.1 hn.2.2 _ true _ _, ?_⟩,
      by simp only [hfe, List.append_nil], by rw [hfe]; exact BufOK.nil⟩
    have := fu_depack cfg.addDONL k hk a b (c :: r).length (flush cfg s).2.donl (c :: r) hgt (Nat.le_refl _) []
    simpa [depack, nalOf, Hdr.ofNal_bytes] using this

theorem run_rt (cfg : Cfg) (mtu : Nat) (hmin : (if cfg.addDONL then 6 else 4) ≤ mtu) (hmax : mtu < 65536)
    (s : St) (ns : List Bytes) (hb : BufOK s.buf) (hns : ∀ n ∈ ns, UnitOK n) :
    Emits cfg (run cfg mtu s ns).1 (s.buf ++ ns) := by
  induction ns generalizing s with
  | nil => simpa [run] using flush_rt cfg s hb
  | cons n ns ih =>
    simp only [run]
    obtain ⟨e, he, hsplit, hb'⟩ := step_rt cfg mtu s n hb (hns n (by simp)) hmin hmax
    have h2 := ih (step cfg mtu s n).2 hb' (fun m hm => hns m (by simp [hm]))
    have := he.append h2
    have e2 : e ++ ((step cfg mtu s n).2.buf ++ ns) = s.buf ++ n :: ns := by
      rw [← List.append_assoc, ← hsplit]; simp
    rw [e2] at this
    exact this

theorem isFU_encode_fu (h : Hdr) (s e : Bool) (t : UInt8) (d : Option UInt16) (q : Bytes)
    (hw : h.WF = true) (h49 : h.type = 49) : isFU (encode (.fu h s e t d q)) = true := by
  obtain ⟨a, b, hb, _, _, e2⟩ := hdr_bytes h hw
  simp [encode, hb, isFU, hdrIsFU, e2, h49]

theorem stripDonl_of_not_fu (mode : Bool) (p : Packet) (hwf : p.WF mode = true)
    (hn : isFU (encode p) = false) : stripDonl mode p = p := by
  cases p with
  | fu h s e t d q =>
    simp only [Packet.WF, Bool.and_eq_true, Bool.not_eq_true', beq_iff_eq, decide_eq_true_eq] at hwf
    rw [isFU_encode_fu h s e t d q hwf.1.1.1.1.1 hwf.1.1.1.2] at hn
    simp at hn
  | _ => rfl

/-- from the description level to the predicate the harness evaluates; outside the region of the
    known finding `c14_donl_fu` (`hnofu`: no FU on a DONL stream) `stripDonl` changes nothing -/
theorem callOk_of_emits (cfg : Cfg) (mtu : UInt16) (pkts units : List Bytes)
    (he : Emits cfg pkts units) (hbd : Bounded mtu.toNat pkts)
    (hnofu : cfg.addDONL = true → ∀ p ∈ pkts, isFU p = false) :
    C14.callOk cfg mtu units (pkts.map (pktObs cfg.addDONL)) = true := by
  obtain ⟨descs, rfl, hgood, hdep⟩ := he
  have hid : descs.map (stripDonl cfg.addDONL) = descs := by
    conv => rhs; rw [← List.map_id descs]
    refine List.map_congr_left fun p hp => ?_
    cases hd : cfg.addDONL
    · exact stripDonl_false p
    · exact stripDonl_of_not_fu true p (hd ▸ (hgood p hp).1) (hnofu hd _ (List.mem_map_of_mem hp))
  rw [hid] at hdep
  have hmap : (List.map (pktObs cfg.addDONL) (descs.map encode)).mapM (fun p => p.res.toOption) =
      some (descs.map fun d => ({ pkt := d, tsci := d.tsci, sizesOk := true } : Parsed)) := by
    clear hdep hbd hnofu hid
    induction descs with
    | nil => rfl
    | cons d ds ih =>
      simp only [List.map_cons, List.mapM_cons, pktObs, decode_encode cfg.addDONL d (hgood d (by simp)).1,
        ih fun p hp => hgood p (by simp [hp])]
      rfl
  simp only [C14.callOk, hmap, Bool.and_eq_true, List.all_eq_true, decide_eq_true_eq, beq_iff_eq]
  refine ⟨?_, ⟨?_, ?_⟩, ?_⟩
  · intro p hp
    obtain ⟨q, hq, rfl⟩ := List.mem_map.mp hp
    exact (hbd q hq).1
  · intro v hv
    obtain ⟨d, _, rfl⟩ := List.mem_map.mp hv
    rfl
  · intro pv hpv
    rw [List.map_map, List.zip_map'] at hpv
    obtain ⟨d, hd, rfl⟩ := List.mem_map.mp hpv
    have hg := hgood d hd
    simp only [Function.comp, pktObs, head_encode cfg.addDONL d hg.1, hg.2]
    exact ⟨⟨trivial, trivial⟩, trivial⟩
  · simp only [List.map_map, Function.comp_def, List.map_id', hdep]

theorem frameBytes_ne_nil (f : List (Nat × Bytes)) (h : C14.frameWF f = true) : (C14.frameBytes f).isEmpty = false := by
  simp only [C14.frameWF, Bool.and_eq_true, Bool.not_eq_true', List.isEmpty_eq_false_iff,
    List.all_eq_true] at h
  obtain ⟨hne, hall⟩ := h
  match f, hne, hall with
  | (sc, u) :: rest, _, hall =>
    have hu := (hall (sc, u) (by simp))
    obtain ⟨h3, _⟩ := nalWF_parts u hu.1
    have : u ≠ [] := by intro h0; subst h0; simp at h3
    simp [C14.frameBytes, this]

/-- one `Payload` call on a well-formed frame: the fragments are the wire form of well-formed,
    RFC 7798-shaped packets that reassemble to the frame's units -/
theorem payload_emits (cfg : Cfg) (mtu d : UInt16) (f : List (Nat × Bytes)) (hf : C14.frameWF f = true)
    (hmin : (if cfg.addDONL then 6 else 4) ≤ mtu.toNat) :
    Emits cfg (payload cfg mtu d (some (C14.frameBytes f))).1 (f.map (·.2)) := by
  have hm0 : (mtu == 0) = false := by
    rw [beq_eq_false_iff_ne]; intro h0; subst h0
    cases hd : cfg.addDONL <;> simp [hd] at hmin
  have hpay : payload cfg mtu d (some (C14.frameBytes f)) =
      run cfg mtu.toNat { buf := [], agg := 0, donl := d } (f.map (·.2)) := by
    simp only [payload, Option.getD_some, frameBytes_ne_nil f hf, hm0, Bool.or_self, Bool.false_eq_true,
      if_false, emitNalus_frame f hf]
  rw [hpay]
  have hunits : ∀ n ∈ f.map (·.2), UnitOK n := by
    intro n hn
    simp only [List.mem_map] at hn
    obtain ⟨u, hu, rfl⟩ := hn
    simp only [C14.frameWF, Bool.and_eq_true, List.all_eq_true] at hf
    have := (hf.2 u hu).1
    obtain ⟨h3, h1, h2, _⟩ := nalWF_parts u.2 this
    exact ⟨h3, h1, h2⟩
  have he := run_rt cfg mtu.toNat hmin mtu.toNat_lt { buf := [], agg := 0, donl := d } (f.map (·.2))
    BufOK.nil hunits
  simpa using he

/-- `hnofu`: the call is outside the region of `c14_donl_fu` (on a DONL stream nothing is fragmented) -/
theorem payload_frame (cfg : Cfg) (mtu d : UInt16) (f : List (Nat × Bytes)) (hf : C14.frameWF f = true)
    (hmin : (if cfg.addDONL then 6 else 4) ≤ mtu.toNat)
    (hnofu : cfg.addDONL = true → ∀ p ∈ (payload cfg mtu d (some (C14.frameBytes f))).1, isFU p = false) :
    C14.callOk cfg mtu (f.map (·.2))
      ((payload cfg mtu d (some (C14.frameBytes f))).1.map (pktObs cfg.addDONL)) = true :=
  callOk_of_emits cfg mtu _ _ (payload_emits cfg mtu d f hf hmin)
    (payload_bounded cfg mtu d (some (C14.frameBytes f))) hnofu

/-- `C14.rtOkF` for any sequence of (options, frame) calls and any value of the DONL counter the payloader
    starts with, outside the region `rtKFF` of `c14_donl_fu` -/
theorem rt_calls (mtu : UInt16) (calls : List RtCall)
    (hwf : ∀ c ∈ calls, (if c.1.addDONL then 6 else 4) ≤ mtu.toNat ∧ C14.frameWF c.2 = true) (d : UInt16)
    (hreg : rtKFF mtu d calls = false) :
    C14.rtOkF mtu calls (rtObsF mtu d calls) = true := by
  induction calls generalizing d with
  | nil => rfl
  | cons c cs ih =>
    obtain ⟨cfg, f⟩ := c
    simp only [rtKFF, Bool.or_eq_false_iff, Bool.and_eq_false_iff] at hreg
    simp only [rtObsF, C14.rtOkF, Bool.and_eq_true]
    obtain ⟨h1, h2⟩ := hwf (cfg, f) (by simp)
    refine ⟨?_, ?_⟩
    · refine payload_frame cfg mtu d f h2 h1 (fun hd p hp => ?_)
      rcases hreg.1 with h | h
      · simp [hd] at h
      · cases hfu : isFU p with
        | false => rfl
        | true =>
          have : (payload cfg mtu d (some (C14.frameBytes f))).1.any isFU = true :=
            List.any_eq_true.mpr ⟨p, hp, hfu⟩
          rw [this] at h; simp at h
    · exact ih (fun c hc => hwf c (by simp [hc])) _ hreg.2

/- A history whose options never change: the per-call observation, region, predicate and hypotheses
   (`rtObsF`, `rtKFF`, `rtOkF`, `rtWFF`) are the per-history ones. -/
theorem rtObsF_const (cfg : Cfg) (mtu d : UInt16) (frames : List (List (Nat × Bytes))) :
    rtObsF mtu d (frames.map fun f => (cfg, f)) =
      (payloadHist cfg d (frames.map fun f => (mtu, some (C14.frameBytes f)))).map
        fun ps => some (ps.map (pktObs cfg.addDONL)) := by
  induction frames generalizing d with
  | nil => rfl
  | cons f fs ih => simp only [List.map_cons, rtObsF, payloadHist, ih]

theorem rtKFF_const (cfg : Cfg) (mtu d : UInt16) (frames : List (List (Nat × Bytes))) :
    rtKFF mtu d (frames.map fun f => (cfg, f)) =
      (cfg.addDONL && (payloadHist cfg d (frames.map fun f => (mtu, some (C14.frameBytes f)))).any (·.any isFU)) := by
  induction frames generalizing d with
  | nil => simp [rtKFF, payloadHist]
  | cons f fs ih =>
    simp only [List.map_cons, rtKFF, payloadHist, ih, List.any_cons]
    cases cfg.addDONL <;> simp

theorem rtOkF_const (cfg : Cfg) (mtu : UInt16) (frames : List (List (Nat × Bytes)))
    (os : List (Option (List C14.PktObs))) :
    C14.rtOkF mtu (frames.map fun f => (cfg, f)) os = C14.rtOk cfg mtu frames os := by
  induction frames generalizing os with
  | nil => cases os <;> rfl
  | cons f fs ih =>
    match os with
    | [] => rfl
    | none :: _ => rfl
    | some o :: os => simp only [List.map_cons, C14.rtOkF, C14.rtOk, ih]

/-- `frames ≠ []`: on the empty history `rtWF` still asks for the MTU bound, `rtWFF` for nothing -/
theorem rtWFF_const (cfg : Cfg) (mtu : UInt16) (frames : List (List (Nat × Bytes))) (hne : frames ≠ []) :
    rtWFF mtu (frames.map fun f => (cfg, f)) = rtWF cfg mtu frames := by
  simp only [rtWFF, rtWF, List.all_map, Function.comp_def]
  by_cases hm : (if cfg.addDONL then 6 else 4) ≤ mtu.toNat
  · simp only [hm, decide_true, Bool.true_and]
  · simp only [hm, decide_false, Bool.false_and, List.all_eq_false]
    match frames, hne with
    | f :: _, _ => exact ⟨f, by simp, by simp⟩

end Rtp.Model.H265
