/-
  Rtp/Proofs/VP9HeaderParse.lean — vp9.Header.Unmarshal (Model/VP9Header.lean) run on a buffer that
  begins with the bits written by the specification's bit writer (Spec/Vp9Bits.lean) returns exactly
  the coded fields (`header_parse`; Props/C12Header.lean puts it as `c12_header_parse`, `c12_header`).

  `At buf pos seg` = "the bit string `seg` sits at bit offset `pos` of `buf`".  One lemma per read
  (flag / n bits / hasSpace), one lemma per syntax element (profile, color_config(), frame_size(),
  the key-frame part, the three header shapes); the caller's trailing bytes never matter because
  every `hasSpace` the parser performs is covered by described bits.
-/
import Rtp.Proofs.VP9Bits
import Rtp.Proofs.VP9HeaderSafe
import Rtp.Pred.C12
import Rtp.Proofs.Lib.Bits
import Rtp.Proofs.Lib.UInt
namespace Rtp.Proofs.VP9Hdr
open Rtp Rtp.Model Rtp.Pred Rtp.Spec.Vp9Bits Rtp.Proofs.VP9Bits

def At (buf : Bytes) (pos : Nat) (seg : List Bool) : Prop :=
  pos + seg.length ≤ 8 * buf.length ∧ ((bitsOf buf).drop pos).take seg.length = seg

theorem At.left {buf : Bytes} {pos : Nat} {a b : List Bool} (h : At buf pos (a ++ b)) : At buf pos a := by
  obtain ⟨hl, he⟩ := h
  rw [List.length_append] at hl he
  refine ⟨by omega, ?_⟩
  have := congrArg (List.take a.length) he
  rw [List.take_take, List.take_left, Nat.min_eq_left (by omega)] at this
  exact this

theorem At.right {buf : Bytes} {pos : Nat} {a b : List Bool} (h : At buf pos (a ++ b)) :
    At buf (pos + a.length) b := by
  obtain ⟨hl, he⟩ := h
  rw [List.length_append] at hl he
  refine ⟨by omega, ?_⟩
  have := congrArg (List.drop a.length) he
  rw [List.drop_take, List.drop_left, List.drop_drop, Nat.add_sub_cancel_left] at this
  exact this

theorem At.cons {buf : Bytes} {pos : Nat} {x : Bool} {b : List Bool} (h : At buf pos (x :: b)) :
    At buf pos [x] ∧ At buf (pos + 1) b :=
  ⟨At.left (a := [x]) (b := b) h, At.right (a := [x]) (b := b) h⟩

theorem At.val {buf : Bytes} {pos : Nat} {seg : List Bool} (h : At buf pos seg) :
    bitsVal buf pos seg.length = natOfBits seg := by
  unfold bitsVal; rw [h.2]

theorem At.space {buf : Bytes} {pos : Nat} {seg : List Bool} (h : At buf pos seg) (n : Nat)
    (hn : n ≤ seg.length) : vp9HasSpace buf pos n = true := by
  rw [space_iff]; have := h.1; omega

theorem natOfBits_single (b : Bool) : (natOfBits [b] == 1) = b := by cases b <;> rfl

theorem At.flagU {buf : Bytes} {pos : Nat} {b : Bool} (h : At buf pos [b]) :
    vp9ReadFlagUnsafe buf pos = .ok (b, pos + 1) := by
  have hl := h.1
  simp only [List.length_cons, List.length_nil] at hl
  rw [readFlagUnsafe_eq buf pos (by omega)]
  have := h.val
  simp only [List.length_cons, List.length_nil, Nat.zero_add] at this
  rw [this, natOfBits_single]

theorem At.flag {buf : Bytes} {pos : Nat} {b : Bool} (h : At buf pos [b]) :
    vp9ReadFlag buf pos = .ok (b, pos + 1) := by
  unfold vp9ReadFlag
  rw [h.space 1 (by simp), if_pos rfl, h.flagU]

theorem At.bitsU {buf : Bytes} {pos : Nat} {seg : List Bool} (h : At buf pos seg) (n : Nat)
    (hn : seg.length = n) (h0 : 0 < n) (h64 : n ≤ 64) :
    vp9ReadBitsUnsafe buf pos n = .ok (natOfBits seg, pos + n) := by
  subst hn
  rw [readBitsUnsafe_eq buf pos _ h0 h64 h.1, h.val]

/-- reading an `f(n)` field written by the specification -/
theorem At.fieldU {buf : Bytes} {pos n v : Nat} (h : At buf pos (bitsOfNat n v)) (h0 : 0 < n)
    (h64 : n ≤ 64) : vp9ReadBitsUnsafe buf pos n = .ok (v % 2 ^ n, pos + n) := by
  rw [h.bitsU n (bitsOfNat_length n v) h0 h64, natOfBits_bitsOfNat]

theorem At.field {buf : Bytes} {pos n v : Nat} (h : At buf pos (bitsOfNat n v)) (h0 : 0 < n)
    (h64 : n ≤ 64) : vp9ReadBits buf pos n = .ok (v % 2 ^ n, pos + n) := by
  unfold vp9ReadBits
  rw [h.space n (Nat.le_of_eq (bitsOfNat_length n v).symm), if_pos rfl, h.fieldU h0 h64]

theorem bitsOf_append (a b : Bytes) : bitsOf (a ++ b) = bitsOf a ++ bitsOf b := by
  induction a with
  | nil => rfl
  | cons x a ih => simp only [List.cons_append, bitsOf, ih, List.append_assoc]

theorem at_of_startsWith (h : Hdr) (wire : Bytes) (hs : C12.startsWith h wire = true) :
    At wire 0 h.bits := by
  unfold C12.startsWith at hs
  have he : (bitsOf (wire.take ((h.bits.length + 7) / 8))).take h.bits.length = h.bits := by
    simpa using hs
  have hlen : h.bits.length ≤ 8 * (wire.take ((h.bits.length + 7) / 8)).length := by
    have := congrArg List.length he
    rw [List.length_take, bitsOf_length] at this
    omega
  have hw : wire = wire.take ((h.bits.length + 7) / 8) ++ wire.drop ((h.bits.length + 7) / 8) :=
    (List.take_append_drop _ _).symm
  have hle : (wire.take ((h.bits.length + 7) / 8)).length ≤ wire.length := by
    rw [List.length_take]; omega
  refine ⟨by omega, ?_⟩
  have hb : bitsOf wire = bitsOf (wire.take ((h.bits.length + 7) / 8)) ++
      bitsOf (wire.drop ((h.bits.length + 7) / 8)) := by rw [← bitsOf_append, ← hw]
  rw [List.drop_zero, hb, List.take_append_of_le_length (by rw [bitsOf_length]; exact hlen)]
  exact he

theorem profile_join (p : UInt8) (hp : p < 4) :
    ((natOfBits [p.toNat / 2 % 2 == 1]).toUInt8 <<< 1) + (natOfBits [p.toNat % 2 == 1]).toUInt8 = p :=
  Bits.forall_u8_lt 4
    (fun p => ((natOfBits [p.toNat / 2 % 2 == 1]).toUInt8 <<< 1) + (natOfBits [p.toNat % 2 == 1]).toUInt8 = p)
    (by decide) p (UInt8.lt_iff_toNat_lt.mp hp)

theorem field3 (x : UInt8) (hx : x < 8) : (x.toNat % 2 ^ 3).toUInt8 = x := by
  have h : x.toNat < 2 ^ 3 := UInt8.lt_iff_toNat_lt.mp hx
  rw [Nat.mod_eq_of_lt h, toUInt8_toNat]

theorem dim_succ (w : Nat) (h1 : 1 ≤ w) : (w - 1).toUInt16 + 1 = w.toUInt16 := by
  have := UInt16.ofNat_add (w - 1) 1
  rw [Nat.sub_add_cancel h1] at this
  exact this.symm

/-- the part of HeaderColorConfig.unmarshal after the bit depth: the text of `vp9ColorConfigUnmarshal`
    (Model/VP9Header.lean) from `readBits 3` on; `colorConfig_parse` ties the two by `rfl` -/
def ccRest (profile : UInt8) (c : Vp9ColorConfig) (buf : Bytes) (pos : Nat) : Res (Vp9ColorConfig × Nat) := do
  let (tmp, pos) ← vp9ReadBits buf pos 3
  let c : Vp9ColorConfig := { c with ColorSpace := tmp.toUInt8 }
  if c.ColorSpace != 7 then do
    let (cr, pos) ← vp9ReadFlag buf pos
    let c : Vp9ColorConfig := { c with ColorRange := cr }
    if profile == 1 || profile == 3 then
      if vp9HasSpace buf pos 3 then do
        let (sx, pos) ← vp9ReadFlagUnsafe buf pos
        let (sy, pos) ← vp9ReadFlagUnsafe buf pos
        pure ({ c with SubsamplingX := sx, SubsamplingY := sy }, pos + 1)
      else .err .other
    else pure ({ c with SubsamplingX := true, SubsamplingY := true }, pos)
  else
    let c : Vp9ColorConfig := { c with ColorRange := true }
    if profile == 1 || profile == 3 then
      if vp9HasSpace buf pos 1 then
        pure ({ c with SubsamplingX := false, SubsamplingY := false }, pos + 1)
      else .err .other
    else pure (c, pos)

/-- the coded part of color_config() after ten_or_twelve_bit -/
def colorTail (odd : Bool) (c : Color) : List Bool :=
  bitsOfNat 3 c.space.toNat ++
  (if c.space != 7 then c.range :: (if odd then [c.subX, c.subY, false] else [])
   else (if odd then [false] else []))

/-- what `ccRest` must return (`odd`: profile 1 or 3).  With colour space 7 and an even profile the
    subsampling fields pass through from `c0`: Go leaves them at their zero value there. -/
def colorTailExp (odd : Bool) (c0 : Vp9ColorConfig) (c : Color) : Vp9ColorConfig :=
  { c0 with
    ColorSpace := c.space,
    ColorRange := if c.space != 7 then c.range else true,
    SubsamplingX := if c.space != 7 then (if odd then c.subX else true) else (if odd then false else c0.SubsamplingX),
    SubsamplingY := if c.space != 7 then (if odd then c.subY else true) else (if odd then false else c0.SubsamplingY) }

theorem ccRest_parse (p : UInt8) (c0 : Vp9ColorConfig) (c : Color) (hc : c.space < 8) (buf : Bytes)
    (pos : Nat) (h : At buf pos (colorTail (p == 1 || p == 3) c)) :
    ccRest p c0 buf pos =
      .ok (colorTailExp (p == 1 || p == 3) c0 c, pos + (colorTail (p == 1 || p == 3) c).length) := by
  unfold colorTail at h ⊢
  have h3 := h.left.field (by decide) (by decide)
  have hr := h.right
  rw [bitsOfNat_length] at hr
  unfold ccRest
  simp only [h3, Res.bind_ok, field3 c.space hc, List.length_append, bitsOfNat_length]
  by_cases h7 : c.space = 7
  · simp only [h7, bne_self_eq_false, Bool.false_eq_true, if_false] at hr ⊢
    cases hodd : (p == 1 || p == 3)
    · simp [colorTailExp, h7]
    · simp only [hodd, if_true] at hr ⊢
      rw [hr.space 1 (by simp)]
      simp [colorTailExp, h7]
  · have h7' : (c.space != 7) = true := by simpa using h7
    simp only [h7', if_true] at hr ⊢
    obtain ⟨hcr, hr⟩ := hr.cons
    simp only [hcr.flag, Res.bind_ok]
    cases hodd : (p == 1 || p == 3)
    · simp [colorTailExp, h7']
    · simp only [hodd, if_true] at hr ⊢
      rw [hr.space 3 (by simp)]
      obtain ⟨hx, hr⟩ := hr.cons
      obtain ⟨hy, hr⟩ := hr.cons
      simp only [hx.flagU, hy.flagU, if_true, Res.bind_ok, Res.pure_eq]
      simp [colorTailExp, h7', Nat.add_assoc]

theorem colorConfig_parse (p : UInt8) (c : Color) (hc : c.space < 8) (buf : Bytes) (pos : Nat)
    (h : At buf pos (colorBits p c)) :
    vp9ColorConfigUnmarshal p buf pos = .ok (C12.expectedColor p c, pos + (colorBits p c).length) := by
  have hsplit : colorBits p c = (if 2 ≤ p then [c.bit12] else []) ++ colorTail (p == 1 || p == 3) c := by
    unfold colorBits colorTail; rw [List.append_assoc]
  have hfun : ∀ buf pos, vp9ColorConfigUnmarshal p buf pos =
      ((if 2 ≤ p then do
          let (f, pos) ← vp9ReadFlag buf pos
          pure (({ TenOrTwelveBit := f, BitDepth := if f then 12 else 10 } : Vp9ColorConfig), pos)
        else pure (({ BitDepth := 8 } : Vp9ColorConfig), pos) : Res (Vp9ColorConfig × Nat)) >>=
        fun x => ccRest p x.1 buf x.2) := fun _ _ => rfl
  rw [hfun, hsplit]
  rw [hsplit] at h
  by_cases h2 : 2 ≤ p
  · simp only [h2, if_true] at h ⊢
    have hr := h.right
    simp only [List.length_cons, List.length_nil, Nat.zero_add] at hr
    simp only [h.left.flag, Res.bind_ok, Res.pure_eq, ccRest_parse p _ c hc buf _ hr]
    simp [colorTailExp, C12.expectedColor, h2, Nat.add_assoc, Nat.add_comm]
  · simp only [h2, if_false] at h ⊢
    have hr := h.right
    simp only [List.length_nil, Nat.add_zero] at hr
    simp only [Res.bind_ok, Res.pure_eq, ccRest_parse p _ c hc buf _ hr]
    simp [colorTailExp, C12.expectedColor, h2]

theorem frameSize_parse (a b : Nat) (buf : Bytes) (pos : Nat)
    (h : At buf pos (bitsOfNat 16 a ++ bitsOfNat 16 b)) :
    vp9FrameSizeUnmarshal buf pos =
      .ok ({ FrameWidthMinus1 := a.toUInt16, FrameHeightMinus1 := b.toUInt16 }, pos + 16 + 16) := by
  unfold vp9FrameSizeUnmarshal
  have hr := h.right
  rw [bitsOfNat_length] at hr
  rw [h.space 32 (by simp [bitsOfNat_length]), if_pos rfl]
  simp only [h.left.fieldU (by decide) (by decide), hr.fieldU (by decide) (by decide), Res.bind_ok,
    Res.pure_eq, Nat.reducePow, toUInt16_mod]

/-- the key-frame part: frame_sync_code, color_config(), frame_size() (right-nested, as the `At` lemmas split it) -/
def keyBits (p : UInt8) (c : Color) (a b : Nat) : List Bool :=
  bitsOfNat 8 0x49 ++ (bitsOfNat 8 0x83 ++ (bitsOfNat 8 0x42 ++
    (colorBits p c ++ (bitsOfNat 16 a ++ bitsOfNat 16 b))))

theorem keyPart_parse (hd : Vp9Header) (c : Color) (hc : c.space < 8) (a b : Nat)
    (buf : Bytes) (pos : Nat) (h : At buf pos (keyBits hd.Profile c a b)) :
    vp9HeaderKeyPart hd buf pos =
      .ok { hd with ColorConfig := some (C12.expectedColor hd.Profile c),
                    FrameSize := some { FrameWidthMinus1 := a.toUInt16, FrameHeightMinus1 := b.toUInt16 } } := by
  unfold keyBits at h
  unfold vp9HeaderKeyPart
  rw [h.space 24 (by simp [bitsOfNat_length]; omega), if_pos rfl]
  have h1 := h.right
  have h2 := h1.right
  have h3 := h2.right
  simp only [bitsOfNat_length] at h1 h2 h3
  simp only [h.left.fieldU (by decide) (by decide), h1.left.fieldU (by decide) (by decide),
    h2.left.fieldU (by decide) (by decide), Res.bind_ok]
  have e1 : ((0x49 % 2 ^ 8 : Nat).toUInt8 != 0x49) = false := by decide
  have e2 : ((0x83 % 2 ^ 8 : Nat).toUInt8 != 0x83) = false := by decide
  have e3 : ((0x42 % 2 ^ 8 : Nat).toUInt8 != 0x42) = false := by decide
  simp only [e1, e2, e3, Bool.false_eq_true, if_false]
  simp only [colorConfig_parse hd.Profile c hc buf _ h3.left, Res.bind_ok,
    frameSize_parse a b buf _ h3.right, Res.pure_eq]

/-- Header.Unmarshal after the profile has been read: the text of `vp9HeaderUnmarshal` (Model/VP9Header.lean)
    from the `show_existing_frame` flag on; `profile_parse` ends in a `rfl` against it -/
def hdrRest (profile : UInt8) (buf : Bytes) (pos : Nat) : Res Vp9Header := do
  let (sef, pos) ← vp9ReadFlag buf pos
  if sef then do
    let (tmp, _) ← vp9ReadBits buf pos 3
    pure { Profile := profile, ShowExistingFrame := true, FrameToShowMapIdx := tmp.toUInt8 }
  else if vp9HasSpace buf pos 3 then do
    let (nk, pos) ← vp9ReadFlagUnsafe buf pos
    let (sf, pos) ← vp9ReadFlagUnsafe buf pos
    let (er, pos) ← vp9ReadFlagUnsafe buf pos
    let h : Vp9Header := { Profile := profile, NonKeyFrame := nk, ShowFrame := sf, ErrorResilientMode := er }
    if !nk then vp9HeaderKeyPart h buf pos else pure h
  else .err .other

theorem profile_parse (p : UInt8) (hp : p < 4) (rest : List Bool) (buf : Bytes)
    (h : At buf 0 (profileBits p ++ rest)) :
    vp9HeaderUnmarshal buf = hdrRest p buf (profileBits p).length := by
  unfold vp9HeaderUnmarshal
  unfold profileBits at h ⊢
  have hm : At buf 0 ([true, false] ++ ([p.toNat % 2 == 1] ++ ([p.toNat / 2 % 2 == 1] ++
      ((if p == 3 then [false] else []) ++ rest)))) := by
    simpa only [List.cons_append, List.nil_append, List.append_assoc] using h
  have h1 := hm.right
  have h2 := h1.right
  have h3 := h2.right.left
  simp only [List.length_cons, List.length_nil, Nat.zero_add, Nat.reduceAdd] at h1 h2 h3
  -- frame_marker = 2 passes the check `fm != 2`
  have e2 : (natOfBits [true, false] != 2) = false := by decide
  rw [hm.space 4 (by simp), if_pos rfl]
  simp only [hm.left.bitsU 2 rfl (by decide) (by decide), h1.left.bitsU 1 rfl (by decide) (by decide),
    h2.left.bitsU 1 rfl (by decide) (by decide), Res.bind_ok, Nat.zero_add, Nat.reduceAdd, e2,
    Bool.false_eq_true, if_false, profile_join p hp]
  -- the reserved bit of profile 3
  by_cases hp3 : (p == 3) = true
  · rw [if_pos hp3] at h3 ⊢
    rw [if_pos hp3, h3.space 1 (Nat.le_refl 1)]; rfl
  · rw [if_neg hp3, if_neg hp3]; rfl

theorem rest_showExisting (p idx : UInt8) (hi : idx < 8) (buf : Bytes) (pos : Nat)
    (h : At buf pos ([true] ++ bitsOfNat 3 idx.toNat)) :
    hdrRest p buf pos = .ok { Profile := p, ShowExistingFrame := true, FrameToShowMapIdx := idx } := by
  unfold hdrRest
  have hr := h.right
  simp only [List.length_cons, List.length_nil, Nat.zero_add] at hr
  simp only [h.left.flag, Res.bind_ok, if_true, hr.field (by decide) (by decide), Res.pure_eq, field3 idx hi]

theorem rest_nonKey (p : UInt8) (sf er : Bool) (buf : Bytes) (pos : Nat)
    (h : At buf pos [false, true, sf, er]) :
    hdrRest p buf pos = .ok { Profile := p, NonKeyFrame := true, ShowFrame := sf, ErrorResilientMode := er } := by
  unfold hdrRest
  obtain ⟨h0, h⟩ := h.cons
  have hs := h.space 3 (by simp)
  obtain ⟨h1, h⟩ := h.cons
  obtain ⟨h2, h⟩ := h.cons
  simp only [h0.flag, Res.bind_ok, Bool.false_eq_true, if_false, hs, if_true, h1.flagU, h2.flagU, h.flagU,
    Bool.not_true, Res.pure_eq]

theorem rest_key (p : UInt8) (sf er : Bool) (c : Color) (hc : c.space < 8) (a b : Nat)
    (buf : Bytes) (pos : Nat) (h : At buf pos ([false, false, sf, er] ++ keyBits p c a b)) :
    hdrRest p buf pos = .ok
      { Profile := p, ShowFrame := sf, ErrorResilientMode := er,
        ColorConfig := some (C12.expectedColor p c),
        FrameSize := some { FrameWidthMinus1 := a.toUInt16, FrameHeightMinus1 := b.toUInt16 } } := by
  unfold hdrRest
  have hk := h.right
  obtain ⟨h0, h⟩ := h.left.cons
  have hs := h.space 3 (by simp)
  obtain ⟨h1, h⟩ := h.cons
  obtain ⟨h2, h⟩ := h.cons
  simp only [List.length_cons, List.length_nil, Nat.zero_add] at hk
  simp only [h0.flag, Res.bind_ok, Bool.false_eq_true, if_false, hs, if_true, h1.flagU, h2.flagU, h.flagU,
    Bool.not_false]
  exact keyPart_parse { Profile := p, ShowFrame := sf, ErrorResilientMode := er } c hc a b buf _ hk

/-- vp9.Header.Unmarshal on a buffer that starts with the bits of a well-formed header description
    returns exactly the described header -/
theorem header_parse (h : Hdr) (wire : Bytes) (hwf : h.WF = true) (hs : C12.startsWith h wire = true) :
    vp9HeaderUnmarshal wire = .ok (C12.expectedHdr h) := by
  have hat := at_of_startsWith h wire hs
  cases h with
  | showExisting p idx =>
    simp only [Hdr.WF, Bool.and_eq_true, decide_eq_true_eq] at hwf
    have hat' : At wire 0 (profileBits p ++ ([true] ++ bitsOfNat 3 idx.toNat)) := by
      simpa only [Hdr.bits, List.append_assoc] using hat
    rw [profile_parse p hwf.1 _ wire hat']
    have := hat'.right
    rw [Nat.zero_add] at this
    exact rest_showExisting p idx hwf.2 wire _ this
  | nonKey p sf er =>
    simp only [Hdr.WF, decide_eq_true_eq] at hwf
    have hat' : At wire 0 (profileBits p ++ [false, true, sf, er]) := hat
    rw [profile_parse p hwf _ wire hat']
    have := hat'.right
    rw [Nat.zero_add] at this
    exact rest_nonKey p sf er wire _ this
  | key p sf er c w ht =>
    simp only [Hdr.WF, Bool.and_eq_true, decide_eq_true_eq] at hwf
    have hat' : At wire 0 (profileBits p ++ ([false, false, sf, er] ++ keyBits p c (w - 1) (ht - 1))) := by
      simpa only [Hdr.bits, keyBits, List.append_assoc] using hat
    rw [profile_parse p hwf.1.1.1.1.1 _ wire hat']
    have := hat'.right
    rw [Nat.zero_add] at this
    exact rest_key p sf er c hwf.1.1.1.1.2 (w - 1) (ht - 1) wire _ this

/-- Header.Width()/Height() of the parsed key-frame header are the coded sizes as `uint16` (65536 wraps to 0 on both sides) -/
theorem expected_dims (p : UInt8) (sf er : Bool) (c : Color) (w ht : Nat) (hw : 1 ≤ w) (hh : 1 ≤ ht) :
    (C12.expectedHdr (.key p sf er c w ht)).width = w.toUInt16 ∧
    (C12.expectedHdr (.key p sf er c w ht)).height = ht.toUInt16 := by
  simp only [C12.expectedHdr, Vp9Header.width, Vp9Header.height, dim_succ w hw, dim_succ ht hh, and_self]

end Rtp.Proofs.VP9Hdr
