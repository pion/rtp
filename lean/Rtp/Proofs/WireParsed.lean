/-
  Rtp/Proofs/WireParsed.lean — whatever `Unmarshal` returns (but for P = 1 with count 0) is `encodable`: parsed elements are
  representable by the encoder (id < 15 and 1–16 bytes, resp. ≤ 255 bytes), and the re-encoded
  block is not longer than the block it was read from (elements are confined to the block), so
  the 16-bit word count cannot overflow.
-/
import Rtp.Proofs.WireRemarshal
namespace Rtp.Proofs.Wire
open Rtp Rtp.Model Rtp.Spec.Wire
open Rtp.Proofs.PacketParse (fixedHdr)

/-- a byte that is neither the pad byte nor carries the reserved id is the header of an element the encoder
    can write: the nibbles are `b / 16` and `b % 16`, and both zero would make `b` the pad byte -/
theorem hdr1_parse_facts (b : UInt8) (hb : b ≠ 0) (h15 : (b >>> 4) ≠ 15) :
    (b >>> 4).toNat ≤ 14 ∧ 1 ≤ (b &&& 0x0F).toNat + 1 ∧ (b &&& 0x0F).toNat + 1 ≤ 16 ∧
    ¬ ((b >>> 4) = 0 ∧ (b &&& 0x0F).toNat + 1 = 1) := by
  have h4 := u8_shr4 b
  have hm := u8_and15 b
  have hlt := b.toNat_lt
  have hb' : b.toNat ≠ 0 := fun h => hb (UInt8.toNat_inj.mp h)
  have h15' : (b >>> 4).toNat ≠ 15 := fun h => h15 (UInt8.toNat_inj.mp h)
  refine ⟨by omega, by omega, by omega, fun ⟨h0, h1⟩ => ?_⟩
  have h0' : (b >>> 4).toNat = 0 := by rw [h0]; rfl
  omega

/-- what the one-byte walk returns is always re-encodable and fits in what was read (cases as in
    `PacketParse.parseOneByteL_spec`) -/
theorem parseOneByte_out (l : Bytes) : ∀ es left, parseOneByte l = .ok (es, left) →
    es.all extOk1 = true ∧ (es.map fun e => 1 + e.payload.length).sum + left ≤ l.length := by
  fun_induction parseOneByte l with
  | case1 => intro es left h; cases h; simp
  | case2 b rest hb ih =>
    intro es left h
    obtain ⟨a, c⟩ := ih es left h
    exact ⟨a, by simp only [List.length_cons]; omega⟩
  | case3 b rest hb id h15 =>
    intro es left h; cases h; simp
  | case4 b rest hb id len h15 hlen =>
    intro es left h; cases h
  | case5 b rest hb id len h15 hlen es' left' hrec ih =>
    intro es left h
    cases h
    obtain ⟨a, c⟩ := ih es' left' hrec
    have hb' : b ≠ 0 := by simpa using hb
    have h15' : (b >>> 4) ≠ 15 := by simpa [id] using h15
    obtain ⟨f1, f2, f3, f4⟩ := hdr1_parse_facts b hb' h15'
    have hl : (rest.take len).length = len := by
      rw [List.length_take]; omega
    refine ⟨?_, ?_⟩
    · simp only [List.all_cons, a, Bool.and_true, extOk1, hl, Bool.and_eq_true, decide_eq_true_eq,
        Bool.not_eq_true', id, len]
      refine ⟨⟨⟨f1, f2⟩, f3⟩, ?_⟩
      rw [Bool.eq_false_iff]; intro hc
      simp only [Bool.and_eq_true, beq_iff_eq] at hc
      exact f4 hc
    · simp only [List.map_cons, List.sum_cons, hl, List.length_cons]
      simp only [List.length_drop] at c
      omega
  | case6 b rest hb id len h15 hlen e hrec ih => intro es left h; cases h
  | case7 b rest hb id len h15 hlen hrec ih => intro es left h; cases h
theorem parseTwoByte_out (l : Bytes) : ∀ es, parseTwoByte l = .ok es →
    es.all extOk2 = true ∧ (es.map fun e => 2 + e.payload.length).sum ≤ l.length := by
  fun_induction parseTwoByte l with
  | case1 => intro es h; cases h; simp
  | case2 b rest hb ih =>
    intro es h
    obtain ⟨a, c⟩ := ih es h
    exact ⟨a, by simp only [List.length_cons]; omega⟩
  | case3 b hb => intro es h; cases h
  | case4 b hb lb rest2 len hlen => intro es h; cases h
  | case5 b hb lb rest2 len hlen es' hrec ih =>
    intro es h
    cases h
    obtain ⟨a, c⟩ := ih es' hrec
    have hl : (rest2.take len).length = len := by rw [List.length_take]; omega
    have hlt : len ≤ 255 := by have := lb.toNat_lt; simp only [len]; omega
    refine ⟨?_, ?_⟩
    · simp only [List.all_cons, a, Bool.and_true, extOk2, hl, Bool.and_eq_true, decide_eq_true_eq, bne_iff_ne, ne_eq]
      exact ⟨by simpa using hb, hlt⟩
    · simp only [List.map_cons, List.sum_cons, hl, List.length_cons]
      simp only [List.length_drop] at c
      omega
  | case6 b hb lb rest2 len hlen e hrec ih => intro es h; cases h
  | case7 b hb lb rest2 len hlen hrec ih => intro es h; cases h

/-- the element list of any parsed extension block is re-encodable and not longer than the block -/
theorem parseExtBlock_out (h : Header) (hx : h.extension = true) (l : Bytes) (used : Nat)
    (hp : parseExtBlock h.extProfile l = .ok (h.exts, used)) (hl : l.length ≤ maxBody) (h4 : l.length % 4 = 0) :
    extClause h = true := by
  unfold parseExtBlock at hp
  rw [extClause, if_pos hx]
  by_cases h1 : h.extProfile == profileOneByte
  · rw [if_pos h1] at hp ⊢
    cases hq : parseOneByte l with
    | ok v =>
      obtain ⟨es', left⟩ := v
      simp only [hq] at hp
      cases hp
      obtain ⟨a, c⟩ := parseOneByte_out l _ left hq
      simp only [a, Bool.true_and, decide_eq_true_eq, extBodySize, h1, ↓reduceIte]
      omega
    | err e => simp [hq] at hp
    | panic => simp [hq] at hp
  · rw [if_neg h1] at hp ⊢
    by_cases h2 : h.extProfile == profileTwoByte
    · rw [if_pos h2] at hp ⊢
      cases hq : parseTwoByte l with
      | ok es' =>
        simp only [hq] at hp
        cases hp
        obtain ⟨a, c⟩ := parseTwoByte_out l _ hq
        simp only [a, Bool.true_and, decide_eq_true_eq, extBodySize, h1, h2, ↓reduceIte, Bool.false_eq_true]
        omega
      | err e => simp [hq] at hp
      | panic => simp [hq] at hp
    · rw [if_neg h2] at hp ⊢
      rw [← (Prod.mk.inj (Res.ok.inj hp)).1]
      simp [h4, hl]

theorem hdrUnmarshal_out (r : Header) (buf : Bytes) (h : Header) (n : Nat)
    (hu : hdrUnmarshal r buf = .ok (h, n)) :
    h.version.toNat < 4 ∧ h.payloadType.toNat < 128 ∧ h.csrc.length ≤ 15 ∧ extClause h = true := by
  rw [PacketParse.hdrUnmarshal_eq] at hu
  obtain ⟨m1, m2, m3⟩ := PacketParse.fixedHdr_fixed r.extProfile buf
  split at hu
  · cases hu
  · by_cases hx : (fixedHdr r.extProfile buf).extension = true
    · rw [if_pos hx] at hu
      obtain ⟨p0, p1, l0, l1, after, es, used, _, hl, hpe, rfl, rfl⟩ := PacketParse.readExt_ok hu
      -- the block is as long as the 16-bit word count says: whole words, at most 65535 of them
      have hl16 := (rd16 l0 l1).toNat_lt
      have hlt : (after.take ((rd16 l0 l1).toNat * 4)).length = (rd16 l0 l1).toNat * 4 :=
        List.length_take_of_le hl
      exact ⟨m1, m2, m3, parseExtBlock_out _ hx _ used hpe (by rw [hlt]; simp only [maxBody]; omega) (by rw [hlt]; omega)⟩
    · rw [if_neg hx] at hu
      cases hu
      refine ⟨m1, m2, m3, ?_⟩
      rw [extClause, if_neg hx, PacketParse.fixedHdr_exts]; rfl

/-- every packet `Unmarshal` returns — except P = 1 with count 0, which pion accepts and Marshal refuses — is encodable -/
theorem pktUnmarshal_out (r : Packet) (buf : Bytes) (p : Packet) (hu : pktUnmarshal r buf = .ok p)
    (hp : (p.header.padding && p.paddingSize == 0) = false) : encodable p = true := by
  unfold pktUnmarshal at hu
  split at hu
  · cases hu
  · cases hu
  · rename_i h n hh
    obtain ⟨a, b, c, d⟩ := hdrUnmarshal_out _ _ _ _ hh
    split at hu
    · rename_i hpad
      split at hu
      · cases hu
      · simp only at hu
        split at hu
        · cases hu
        · cases hu
          simp only [hpad, Bool.true_and, beq_eq_false_iff_ne, ne_eq] at hp
          have : 1 ≤ (buf.getLastD 0).toNat := by
            rcases Nat.eq_zero_or_pos (buf.getLastD 0).toNat with h0 | h0
            · exact absurd (UInt8.toNat_inj.mp (by simpa using h0)) hp
            · exact h0
          simp only [encodable_iff, a, b, c, d, hpad, this, decide_true, Bool.and_self, ↓reduceIte]
    · rename_i hpad
      cases hu
      simp only [Bool.not_eq_true] at hpad
      simp [encodable_iff, a, b, c, d, hpad]

end Rtp.Proofs.Wire
