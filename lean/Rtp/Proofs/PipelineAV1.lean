/-
  Rtp/Proofs/PipelineAV1.lean — AV1 in the end-to-end composition: C08 (fragments ≤ MTU),
  C13 (`c13_roundtrip_spec_closed`: a fresh AV1Depacketizer returns the OBUs with size fields) and
  C15 (`c15_av1`: a receiver in ANY state behaves like a fresh one on a frame whose first packet has
  Z = 0) — the latter is what lets one depacketizer serve a whole history.
-/
import Rtp.Proofs.PipelineCodecs
import Rtp.Props.C13Closed
import Rtp.Props.C15_AV1
import Rtp.Props.C08_AV1
import Rtp.Proofs.Lib.UInt
namespace Rtp.Proofs.Pipeline
open Rtp Rtp.Model Rtp.Model.Pipeline Rtp.Pred.Pipeline Rtp.Model.AV1 Rtp.Spec.Av1Rtp

/-- the depacketizer run of the generic pipeline is C13's `depFeed` -/
theorem av1_depackAll : ∀ (ps : List Bytes) (d : DSt), depackAll av1Depack d ps = depFeed d ps := by
  intro ps
  induction ps with
  | nil => intro d; rfl
  | cons p ps ih => intro d; simp only [depackAll, depFeed, av1Depack, ih]

theorem frameStarts_encode (pks : List Pk) (hgood : ∀ p ∈ pks, PkGood p)
    (hchain : zyChain false (pks.map Pk.toPacket) = true) :
    Rtp.Pred.C15Av1.frameStarts (pks.map Pk.encode) = true := by
  cases pks with
  | nil => rfl
  | cons p ps =>
    have hg := hgood p (by simp)
    simp only [List.map_cons, zyChain, Pk.toPacket, Bool.and_eq_true, beq_iff_eq] at hchain
    -- Z as the specification reads it off the header byte
    have hz := congrArg AggHdr.z (aggHeader_bits p.z p.y p.n p.w hg.shape.w_le).1
    rw [show p.z = false from hchain.1] at hz
    have := Nat.mod_lt ((aggHeader false p.y p.w p.n).toNat / 128) (show 0 < 2 by decide)
    obtain ⟨b1, rest, hbody⟩ := List.exists_cons_of_ne_nil (Pk.body_ne_nil hg)
    simp only [aggOf, beq_eq_false_iff_ne, ne_eq] at hz
    simp only [List.map_cons, Pk.encode, hbody, Rtp.Pred.C15Av1.frameStarts, hchain.1, beq_iff_eq]
    omega

theorem serialise_ne (obus : List Obu) (h : obus ≠ []) : serialise obus ≠ [] := by
  cases obus with
  | nil => exact absurd rfl h
  | cons o os =>
    simp only [serialise, List.map_cons, List.flatten_cons]
    exact List.append_ne_nil_of_left_ne_nil (List.length_pos_iff.mp (wire_length_pos o)) _

def av1Inv : Unit → Bytes → Prop := fun _ frame =>
  ∃ obus : List Obu, obus ≠ [] ∧ obusWF obus = true ∧ frame = serialise obus

theorem av1_fits (B : UInt16) : PayFits av1Pay B av1Inv := by
  intro st frame h
  obtain ⟨obus, hne, _, rfl⟩ := h
  refine ⟨List.isEmpty_eq_false_iff.mpr (serialise_ne obus hne), ?_⟩
  intro x hx
  exact (Rtp.Props.C08.AV1.c08_av1_bound B _ x hx).1

/-- the frame in AV1's normal form, as a function of the frame bytes: what the payloads denote
    (RTP elements joined across Y → Z), every OBU with its size field put back -/
def av1Exp (B : UInt16) (frame : Bytes) : Bytes :=
  (((denote (AV1.payload B frame)).getD []).map sizedOf).flatten

theorem av1Exp_serialise (B : UInt16) (hB : 2 ≤ B.toNat) (obus : List Obu) (hwf : obusWF obus = true) :
    av1Exp B (serialise obus) = (normaliseSized obus).flatten := by
  simp only [av1Exp, Rtp.Props.C13.c13_denotes_closed B hB obus hwf, Option.getD_some,
    normaliseSized_eq obus hwf]

theorem av1_dep (B : UInt16) (hB : 2 ≤ B.toNat) : DepOkE av1Pay av1Depack B av1Inv (av1Exp B) := by
  intro st frame d h
  obtain ⟨obus, hne, hwf, rfl⟩ := h
  have hs := u16_toNat_le B
  obtain ⟨hgood, hchain, _, _, _⟩ := payload_facts B.toNat hB hs obus hwf
  have hstart : Rtp.Pred.C15Av1.frameStarts (AV1.payload B (serialise obus)) = true := by
    rw [payload_eq B _ hB]; exact frameStarts_encode _ hgood hchain
  obtain ⟨⟨outs, ho1, ho2⟩, _⟩ := Rtp.Props.C13.c13_roundtrip_spec_closed B hB obus hwf
  show (depackAll av1Depack d (AV1.payload B (serialise obus))).1.all Res.isOk = true ∧
    (depackAll av1Depack d (AV1.payload B (serialise obus))).1.flatMap resBytes = _
  rw [av1_depackAll, (Rtp.Props.C15.AV1.c15_av1 d _ hstart).1, ho1, av1Exp_serialise B hB obus hwf]
  exact ⟨Res.all_isOk_map_ok _, by rw [flatMap_resBytes_ok]; exact ho2⟩

theorem av1_payOk (B : UInt16) (frames : List AV1Frame) (hw : ∀ fr ∈ frames, fr.wf = true) :
    PayOk av1Pay B av1Inv () (frames.map AV1Frame.frameIn) := by
  refine payOk_of av1Pay B av1Inv (fun _ => True) (fun fr => av1Inv () fr) (fun _ _ _ h => h)
    (fun _ _ _ _ => trivial) _ () trivial ?_
  intro f hf
  obtain ⟨fr, hfr, rfl⟩ := List.mem_map.mp hf
  have := hw fr hfr
  simp only [AV1Frame.wf, Bool.and_eq_true, Bool.not_eq_true', List.isEmpty_eq_false_iff] at this
  exact ⟨fr.obus, this.1, this.2, rfl⟩

theorem av1_expected (B : UInt16) (hB : 2 ≤ B.toNat) (frames : List AV1Frame) (hw : ∀ fr ∈ frames, fr.wf = true) :
    (frames.map AV1Frame.frameIn).map (fun f => av1Exp B f.frame) = frames.map AV1Frame.expected := by
  rw [List.map_map]
  apply List.map_congr_left
  intro fr hfr
  have := hw fr hfr
  simp only [AV1Frame.wf, Bool.and_eq_true] at this
  exact av1Exp_serialise B hB fr.obus this.2

end Rtp.Proofs.Pipeline
