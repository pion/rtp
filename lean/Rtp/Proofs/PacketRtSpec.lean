/-
  Rtp/Proofs/PacketRtSpec.lean — the bytes Marshal writes are the arithmetic wire image of
  Rtp/Spec/CoreaWire.lean (bit packing and byte order restated with *, +, /, %).
-/
import Rtp.Proofs.PacketRtHeader
import Rtp.Spec.CoreaWire
namespace Rtp.Proofs.PacketRt
open Rtp Rtp.Model
open Rtp.Spec.CoreaWire (octets net16 net32 pad4 elem1 elem2)

theorem b2n_eq (b : Bool) : Spec.CoreaWire.b2n b = b.toNat := by cases b <;> rfl

theorem byte0_arith (v : UInt8) (cc : Nat) (p x : Bool) (hv : v.toNat < 4) (hc : cc ≤ 15) :
    (byte0 v cc p x).toNat = v.toNat * 64 + Spec.CoreaWire.b2n p * 32 + Spec.CoreaWire.b2n x * 16 + cc := by
  rw [byte0_eq v cc p x hv hc, b2n_eq, b2n_eq, toNat_toUInt8_of_lt (packed_2_2_16_lt hv
    (Nat.lt_succ_of_le p.toNat_le) (Nat.lt_succ_of_le x.toNat_le) (Nat.lt_succ_of_le hc))]

theorem byte1_arith (pt : UInt8) (m : Bool) (hpt : pt.toNat < 128) :
    (byte1 pt m).toNat = Spec.CoreaWire.b2n m * 128 + pt.toNat := by
  rw [byte1_eq pt m hpt, b2n_eq, toNat_toUInt8_of_lt (packed_128_lt (Nat.lt_succ_of_le m.toNat_le) hpt)]

theorem be16_arith (x : UInt16) : (be16 x).map (·.toNat) = [x.toNat / 256, x.toNat % 256] := by
  have := x.toNat_lt
  rw [be16_eq, List.map_cons, List.map_cons, List.map_nil, toNat_toUInt8, toNat_toUInt8,
    Nat.mod_eq_of_lt (a := x.toNat / 2 ^ 8) (Nat.div_lt_of_lt_mul this)]

theorem be32_arith (x : UInt32) : (be32 x).map (·.toNat) =
    [x.toNat / 2 ^ 24, x.toNat / 2 ^ 16 % 256, x.toNat / 2 ^ 8 % 256, x.toNat % 256] := by
  have := x.toNat_lt
  rw [be32_eq]
  simp only [List.map_cons, List.map_nil, toNat_toUInt8]
  rw [Nat.mod_eq_of_lt (a := x.toNat / 2 ^ 24) (Nat.div_lt_of_lt_mul this)]

theorem oneByteHdr_arith (id : UInt8) (len : Nat) (h2 : id.toNat ≤ 14) (h3 : 1 ≤ len) (h4 : len ≤ 16) :
    (oneByteHdr id len).toNat = id.toNat * 16 + (len - 1) := by
  rw [oneByteHdr_eq id len (by omega) h3 h4, toNat_toUInt8_of_lt (by omega)]

theorem octets_append (a b : Bytes) : octets (a ++ b) = octets a ++ octets b := by simp [octets]

theorem octets_rep (k : Nat) : octets (rep k 0) = List.replicate k 0 := by
  simp [octets, rep]

theorem round4_eq_pad4 (n : Nat) : round4 n = n + pad4 n := by unfold round4 pad4; omega

theorem csrc_octets (cs : List UInt32) :
    octets (cs.map be32).flatten = cs.flatMap (fun c => net32 c.toNat) := by
  induction cs with
  | nil => rfl
  | cons c cs ih =>
    simp only [List.map_cons, List.flatten_cons, octets_append, ih, List.flatMap_cons]
    congr 1
    exact be32_arith c

theorem fixed_octets (h : Header) (hv : h.version.toNat < 4) (hpt : h.payloadType.toNat < 128)
    (hc : h.csrc.length ≤ 15) :
    octets (fixedBytes h) =
      [h.version.toNat * 64 + Spec.CoreaWire.b2n h.padding * 32 + Spec.CoreaWire.b2n h.extension * 16 + h.csrc.length,
       Spec.CoreaWire.b2n h.marker * 128 + h.payloadType.toNat] ++
      net16 h.seq.toNat ++ net32 h.ts.toNat ++ net32 h.ssrc.toNat ++ h.csrc.flatMap (fun c => net32 c.toNat) := by
  rw [fixedBytes_eq]
  have e16 := be16_arith h.seq
  have e1 := be32_arith h.ts
  have e2 := be32_arith h.ssrc
  simp only [octets] at *
  simp only [List.map_cons, List.map_append, byte0_arith _ _ _ _ hv hc, byte1_arith _ _ hpt, e16, e1, e2,
    net16, net32]
  have := csrc_octets h.csrc
  simp only [octets] at this
  rw [this]
  simp [net32]

theorem oneByteBody_octets (es : List Ext) (hes : ∀ e ∈ es, e.id.toNat ≤ 14 ∧ 1 ≤ e.payload.length ∧ e.payload.length ≤ 16) :
    octets (es.map fun e => (oneByteHdr e.id e.payload.length :: e.payload)).flatten = es.flatMap elem1 := by
  induction es with
  | nil => rfl
  | cons e es ih =>
    obtain ⟨h2, h3, h4⟩ := hes e (by simp)
    simp only [List.map_cons, List.flatten_cons, octets_append, List.flatMap_cons,
      ih (fun e' h' => hes e' (by simp [h']))]
    congr 1
    simp only [octets, List.map_cons, elem1, oneByteHdr_arith e.id _ h2 h3 h4]

theorem twoByteBody_octets (es : List Ext) (hes : ∀ e ∈ es, e.payload.length ≤ 255) :
    octets (es.map fun e => (e.id :: e.payload.length.toUInt8 :: e.payload)).flatten = es.flatMap elem2 := by
  induction es with
  | nil => rfl
  | cons e es ih =>
    have h2 := hes e (by simp)
    simp only [List.map_cons, List.flatten_cons, octets_append, List.flatMap_cons,
      ih (fun e' h' => hes e' (by simp [h']))]
    congr 1
    simp only [octets, List.map_cons, elem2, toNat_toUInt8_of_lt (Nat.lt_succ_of_le h2)]

theorem profile_eq_iff (x c : UInt16) : ((x == c) = true) ↔ x.toNat = c.toNat := by
  rw [beq_iff_eq]; exact UInt16.toNat_inj.symm

theorem profileOne_iff (x : UInt16) : ((x == profileOneByte) = true) ↔ x.toNat = 0xBEDE :=
  profile_eq_iff x profileOneByte
theorem profileTwo_iff (x : UInt16) : ((x == profileTwoByte) = true) ↔ x.toNat = 0x1000 :=
  profile_eq_iff x profileTwoByte

open Rtp.Pred.C01 in
/-- profile by profile (`extsLegal_cases`): the bytes `Marshal` writes for the elements are the spec's element
    images, which test the profile as a number -/
theorem body_octets (h : Header) (hwf : wfH h = true) (hx : h.extension = true) :
    octets (wireBody h) = Spec.CoreaWire.extData h := by
  simp only [wfH, Bool.and_eq_true] at hwf
  unfold Spec.CoreaWire.extData wireBody extBodyBytes
  rcases extsLegal_cases hx hwf.1.2 with ⟨h1, hes⟩ | ⟨h1, h2, hes⟩ | ⟨h1, h2, e, he, _, h4⟩
  · rw [if_pos h1, if_pos ((profileOne_iff _).mp h1)]
    exact oneByteBody_octets _ (fun e he => (hes e he).2)
  · rw [if_neg (by rw [h1]; decide), if_pos h2, if_pos ((profileTwo_iff _).mp h2),
      if_neg (fun hh => Bool.false_ne_true (h1.symm.trans ((profileOne_iff _).mpr hh)))]
    exact twoByteBody_octets _ (fun e he => (hes e he).2)
  · rw [if_neg (by rw [h1]; decide), if_neg (by rw [h2]; decide), he,
      if_neg (fun hh => Bool.false_ne_true (h1.symm.trans ((profileOne_iff _).mpr hh))),
      if_neg (fun hh => Bool.false_ne_true (h2.symm.trans ((profileTwo_iff _).mpr hh)))]
    simp [h4]

theorem octets_length (b : Bytes) : (octets b).length = b.length := by simp [octets]

theorem header_octets (h : Header) (hwf : Pred.C01.wfH h = true) :
    octets (hdrWire h) = Spec.CoreaWire.header h := by
  have hwf' := hwf
  simp only [Pred.C01.wfH, Bool.and_eq_true, decide_eq_true_eq] at hwf'
  obtain ⟨⟨⟨⟨hv, hpt⟩, hc⟩, _⟩, hsz⟩ := hwf'
  unfold hdrWire hdrBytes Spec.CoreaWire.header
  rw [octets_append, fixed_octets h hv hpt hc]
  congr 1
  cases hx : h.extension
  · simp [octets]
  · simp only [if_true]
    have hbo := body_octets h hwf hx
    have hbl := extBody_length h _ (extBodyBytes_wire h hwf hx)
    have hdl : (Spec.CoreaWire.extData h).length = (wireBody h).length := by rw [← hbo, octets_length]
    have hr := round4_eq_pad4 (wireBody h).length
    -- the word count fits 16 bits by the last clause of `wfH`
    have hw : (round4 (wireBody h).length / 4).toUInt16.toNat = round4 (wireBody h).length / 4 :=
      toNat_toUInt16_of_lt (by have := round4_lt (wireBody h).length; omega)
    have e16p := be16_arith h.extProfile
    have e16w := be16_arith (round4 (wireBody h).length / 4).toUInt16
    simp only [octets] at e16p e16w hbo
    simp only [extPart, octets, List.map_append, e16p, e16w, hw, hbo, Spec.CoreaWire.extBlock, hdl, net16]
    have hz : List.map (fun x : UInt8 => x.toNat) (rep (round4 (wireBody h).length - (wireBody h).length) 0)
        = List.replicate (pad4 (wireBody h).length) 0 := by
      simp only [rep, List.map_replicate]
      congr 1
      omega
    rw [hz, hr]
    simp

theorem packet_octets (p : Packet) (hwf : Pred.C01.wfP p = true) :
    octets (pktWire p) = Spec.CoreaWire.packet p := by
  obtain ⟨hh, hp⟩ := (wfP_iff p).1 hwf
  unfold pktWire Spec.CoreaWire.packet
  rw [octets_append, octets_append, header_octets _ hh, List.append_assoc]
  congr 2
  unfold padBytes
  cases hpad : p.header.padding
  · simp [octets]
  · simp [octets, rep]

end Rtp.Proofs.PacketRt
