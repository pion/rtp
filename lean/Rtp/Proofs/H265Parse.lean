/-
  Rtp/Proofs/H265Parse.lean — the parsers of codecs/h265_packet.go on the wire grammar of
  Rtp/Spec/Rfc7798.lean: what each parser accepts (`SingleOf`, `FuOf`, `PaciOf`, `AggOf`; everything else is an
  error, never a panic, and `TSCI()` does not panic on what was accepted), that IsPartitionHead agrees with
  the parser, what each parser does on header + DONL + payload and on input that is too short, and from
  these: decoding what `encode` writes.
-/
import Rtp.Proofs.H265Fields
import Rtp.Proofs.Lib.Res
namespace Rtp.Model.H265
open Rtp Rtp.Bits Rtp.Spec.Rfc7798 Rtp.Pred

/-- `k` is the single NAL unit packet read from `p`: a DONL iff the receiver expects one -/
def SingleOf (donl : Bool) (p : Option Bytes) (k : Pkt) : Prop :=
  ∃ a b d q, p = some (a :: b :: (donlBytes d ++ q)) ∧ q ≠ [] ∧ d.isSome = donl ∧ hdrF (rd16 a b) = false ∧
    (hdrIsFU (rd16 a b) || hdrIsPACI (rd16 a b) || hdrIsAgg (rd16 a b)) = false ∧ k = .single (rd16 a b) d q

/-- `k` is the fragmentation unit read from `p`: a DONL only after a header with S set -/
def FuOf (donl : Bool) (p : Option Bytes) (k : Pkt) : Prop :=
  ∃ a b c d q, p = some (a :: b :: c :: (donlBytes d ++ q)) ∧ q ≠ [] ∧ d.isSome = (fuS c && donl) ∧
    hdrF (rd16 a b) = false ∧ hdrIsFU (rd16 a b) = true ∧ k = .fu (rd16 a b) c d q

/-- `k` is the PACI packet read from `p`: PHSsize octets of PHES, then at least one of payload -/
def PaciOf (p : Option Bytes) (k : Pkt) : Prop :=
  ∃ a b c d r, p = some (a :: b :: c :: d :: r) ∧ (paciPHS (rd16 c d)).toNat < r.length ∧
    hdrF (rd16 a b) = false ∧ hdrIsPACI (rd16 a b) = true ∧
    k = .paci (rd16 a b) (rd16 c d) (r.take (paciPHS (rd16 c d)).toNat) (r.drop (paciPHS (rd16 c d)).toNat)

/-- `k` is the aggregation packet read from `p`: a complete first unit and whatever complete units
    the loop finds after it, at least one -/
def AggOf (donl : Bool) (p : Option Bytes) (k : Pkt) : Prop :=
  ∃ a b d s0 s1 r, p = some (a :: b :: (donlBytes d ++ s0 :: s1 :: r)) ∧ d.isSome = donl ∧
    (rd16 s0 s1).toNat ≤ r.length ∧ hdrF (rd16 a b) = false ∧ hdrIsAgg (rd16 a b) = true ∧
    parseAggRest donl r.length (r.drop (rd16 s0 s1).toNat) ≠ [] ∧
    k = .agg (rd16 a b) d (rd16 s0 s1) (r.take (rd16 s0 s1).toNat)
          (parseAggRest donl r.length (r.drop (rd16 s0 s1).toNat))

theorem donlBytes_rd16 (d0 d1 : UInt8) : donlBytes (some (rd16 d0 d1)) = [d0, d1] := u16be_rd16 d0 d1

theorem parseSingle_cases (donl : Bool) (p : Option Bytes) : (parseSingle donl p).ErrOr (SingleOf donl p) := by
  match p with
  | none | some [] | some [_] | some [_, _] => exact .err _
  | some (a :: b :: x :: xs) =>
    simp only [parseSingle]
    refine .ite_err _ fun hF => .ite_err _ fun hT => ?_
    rw [Bool.not_eq_true] at hF hT
    cases donl with
    | false => exact .ok ⟨a, b, none, x :: xs, rfl, List.cons_ne_nil _ _, rfl, hF, hT, rfl⟩
    | true =>
      match xs with
      | [] | [_] => exact .err _
      | d1 :: y :: ys =>
        exact .ok ⟨a, b, some (rd16 x d1), y :: ys, by rw [donlBytes_rd16]; rfl, List.cons_ne_nil _ _, rfl, hF, hT, rfl⟩

theorem parseFU_cases (donl : Bool) (p : Option Bytes) : (parseFU donl p).ErrOr (FuOf donl p) := by
  match p with
  | none | some [] | some [_] | some [_, _] | some [_, _, _] => exact .err _
  | some (a :: b :: c :: x :: xs) =>
    simp only [parseFU]
    refine .ite_err _ fun hF => .ite_err _ fun hT => ?_
    rw [Bool.not_eq_true] at hF
    rw [Bool.not_eq_true, Bool.not_eq_false'] at hT
    by_cases hS : (fuS c && donl) = true
    · rw [if_pos hS]
      match xs with
      | [] | [_] => exact .err _
      | d1 :: y :: ys =>
        exact .ok ⟨a, b, c, some (rd16 x d1), y :: ys, by rw [donlBytes_rd16]; rfl, List.cons_ne_nil _ _, hS.symm, hF,
          hT, rfl⟩
    · rw [if_neg hS]
      rw [Bool.not_eq_true] at hS
      exact .ok ⟨a, b, c, none, x :: xs, rfl, List.cons_ne_nil _ _, hS.symm, hF, hT, rfl⟩

theorem parsePACI_cases (p : Option Bytes) : (parsePACI p).ErrOr (PaciOf p) := by
  match p with
  | none | some [] | some [_] | some [_, _] | some [_, _, _] | some [_, _, _, _] => exact .err _
  | some (a :: b :: c :: d :: x :: xs) =>
    simp only [parsePACI]
    refine .ite_err _ fun hF => .ite_err _ fun hT => .ite_err _ fun hL => ?_
    rw [Bool.not_eq_true] at hF
    rw [Bool.not_eq_true, Bool.not_eq_false'] at hT
    exact .ok ⟨a, b, c, d, x :: xs, rfl, by simp only [List.length_cons] at hL ⊢; omega, hF, hT, rfl⟩

/-- after a successful `Unmarshal` the PHES has PHSsize octets, which is all `TSCI()` indexes -/
theorem paciTSCI_ne_panic (w : UInt16) (phes : Bytes) (h : (paciPHS w).toNat ≤ phes.length) :
    paciTSCI w phes ≠ .panic := by
  unfold paciTSCI
  split
  · nofun
  · rename_i hc
    have h3 : 3 ≤ phes.length := by
      simp only [Bool.or_eq_true, Bool.not_eq_true', decide_eq_true_eq, not_or, Nat.not_lt] at hc
      omega
    match phes, h3 with
    | _ :: _ :: _ :: _, _ => nofun

theorem parseAgg_cases (donl : Bool) (p : Option Bytes) : (parseAgg donl p).ErrOr (AggOf donl p) := by
  match p with
  | none | some [] | some [_] | some [_, _] => exact .err _
  | some (a :: b :: x :: xs) =>
    -- the part after the optional DONL: the body of the local `go` of `parseAgg` (Model/H265.lean), spelled out
    have go : ∀ (d : Option UInt16) (l : Bytes), d.isSome = donl → hdrF (rd16 a b) = false →
        hdrIsAgg (rd16 a b) = true →
        (match l with
          | s0 :: s1 :: r =>
            if r.length < (rd16 s0 s1).toNat then (.err .short : Res Pkt)
            else if (parseAggRest donl r.length (r.drop (rd16 s0 s1).toNat)).isEmpty then .err .short
            else .ok (.agg (rd16 a b) d (rd16 s0 s1) (r.take (rd16 s0 s1).toNat)
              (parseAggRest donl r.length (r.drop (rd16 s0 s1).toNat)))
          | _ => .err .short).ErrOr (AggOf donl (some (a :: b :: (donlBytes d ++ l)))) := by
      intro d l hd hF hT
      match l with
      | [] | [_] => exact .err _
      | s0 :: s1 :: r =>
        refine .ite_err _ fun hL => .ite_err _ fun hE => ?_
        exact .ok ⟨a, b, d, s0, s1, r, rfl, hd, by omega, hF, hT, fun h0 => hE (by rw [h0]; rfl), rfl⟩
    simp only [parseAgg]
    refine .ite_err _ fun hF => .ite_err _ fun hT => ?_
    rw [Bool.not_eq_true] at hF
    rw [Bool.not_eq_true, Bool.not_eq_false'] at hT
    cases donl with
    | false => exact go none (x :: xs) rfl hF hT
    | true =>
      match xs with
      | [] => exact .err _
      | d1 :: r =>
        have := go (some (rd16 x d1)) r rfl hF hT
        rw [donlBytes_rd16] at this
        exact this

theorem unmarshal_cases (donl : Bool) (p : Option Bytes) :
    (unmarshal donl p).ErrOr fun k => PaciOf p k ∨ FuOf donl p k ∨ AggOf donl p k ∨ SingleOf donl p k := by
  match p with
  | none | some [] | some [_] | some [_, _] => exact .err _
  | some (a :: b :: x :: xs) =>
    simp only [unmarshal]
    split
    · exact .err _
    split
    · exact (parsePACI_cases _).mono fun _ h => .inl h
    split
    · exact (parseFU_cases _ _).mono fun _ h => .inr (.inl h)
    split
    · exact (parseAgg_cases _ _).mono fun _ h => .inr (.inr (.inl h))
    · exact (parseSingle_cases _ _).mono fun _ h => .inr (.inr (.inr h))

theorem decode_eq_ok {donl : Bool} {p : Option Bytes} {v : Parsed} :
    decode donl p = .ok v ↔ ∃ k, unmarshal donl p = .ok k ∧ k.view = v := by
  rw [decode, Res.coarse_eq_ok]
  cases unmarshal donl p <;> simp

theorem isPartitionHead_not_fu (a b : UInt8) (r : Bytes) (hr : r ≠ []) (h : hdrIsFU (rd16 a b) = false) :
    isPartitionHead (a :: b :: r) = true := by
  match r, hr with
  | c :: _, _ =>
    show (if hdrIsFU (rd16 a b) = true then fuS c else true) = true
    rw [h]; rfl

/-- on every payload `Unmarshal` accepts, IsPartitionHead says "first packet of a unit" exactly
    when the decoded packet is not a non-first FU -/
theorem head_consistent (donl : Bool) (p : Bytes) (k : Pkt) (h : unmarshal donl (some p) = .ok k) :
    isPartitionHead p = C14.headSpec k.view.pkt := by
  rcases (unmarshal_cases donl (some p)).of_ok h with hk | hk | hk | hk
  · obtain ⟨a, b, c, d, r, hp, _, _, hT, rfl⟩ := hk
    cases hp
    refine isPartitionHead_not_fu a b _ (List.cons_ne_nil _ _) ?_
    rw [hdrIsPACI, beq_iff_eq] at hT
    rw [hdrIsFU, hT]; rfl
  · obtain ⟨a, b, c, d, q, hp, _, _, _, hT, rfl⟩ := hk
    cases hp
    show (if hdrIsFU (rd16 a b) = true then fuS c else true) = fuS c
    rw [hT]; rfl
  · obtain ⟨a, b, d, s0, s1, r, hp, _, _, _, hT, _, rfl⟩ := hk
    cases hp
    refine isPartitionHead_not_fu a b _ (by simp) ?_
    rw [hdrIsAgg, beq_iff_eq] at hT
    rw [hdrIsFU, hT]; rfl
  · obtain ⟨a, b, d, q, hp, hq, _, _, hT, rfl⟩ := hk
    cases hp
    refine isPartitionHead_not_fu a b _ (by simp [hq]) ?_
    simp only [Bool.or_eq_false_iff] at hT
    exact hT.1.1

theorem donlBytes_length {d : Option UInt16} {mode : Bool} (hd : d.isSome = mode) :
    (donlBytes d).length = if mode then 2 else 0 := by
  cases d <;> cases hd <;> rfl

theorem unmarshal_cons (donl : Bool) (a b : UInt8) (r : Bytes) (hr : r ≠ []) :
    unmarshal donl (some (a :: b :: r)) =
      if hdrF (rd16 a b) then .err .other
      else if hdrIsPACI (rd16 a b) then parsePACI (some (a :: b :: r))
      else if hdrIsFU (rd16 a b) then parseFU donl (some (a :: b :: r))
      else if hdrIsAgg (rd16 a b) then parseAgg donl (some (a :: b :: r))
      else parseSingle donl (some (a :: b :: r)) := by
  cases r with
  | nil => exact absurd rfl hr
  | cons _ _ => rfl

theorem parseSingle_of (donl : Bool) (a b : UInt8) (d : Option UInt16) (q : Bytes) (hd : d.isSome = donl)
    (hq : q ≠ []) :
    parseSingle donl (some (a :: b :: (donlBytes d ++ q))) =
      if hdrF (rd16 a b) then .err .other
      else if hdrIsFU (rd16 a b) || hdrIsPACI (rd16 a b) || hdrIsAgg (rd16 a b) then .err .other
      else .ok (.single (rd16 a b) d q) := by
  obtain ⟨q0, qs, rfl⟩ := List.exists_cons_of_ne_nil hq
  cases d with
  | none => cases hd; rfl
  | some dv =>
    cases hd
    obtain ⟨x, y, hx, rfl⟩ := u16be_bytes_u16 dv
    simp only [donlBytes, hx]; rfl

theorem parseFU_of (donl : Bool) (a b c : UInt8) (d : Option UInt16) (q : Bytes)
    (hd : d.isSome = (fuS c && donl)) (hq : q ≠ []) :
    parseFU donl (some (a :: b :: c :: (donlBytes d ++ q))) =
      if hdrF (rd16 a b) then .err .other else if !hdrIsFU (rd16 a b) then .err .other
      else .ok (.fu (rd16 a b) c d q) := by
  obtain ⟨q0, qs, rfl⟩ := List.exists_cons_of_ne_nil hq
  cases d with
  | none =>
    have hS : (fuS c && donl) = false := hd.symm
    simp only [donlBytes, List.nil_append, parseFU, hS]; rfl
  | some dv =>
    have hS : (fuS c && donl) = true := hd.symm
    obtain ⟨x, y, hx, rfl⟩ := u16be_bytes_u16 dv
    simp only [donlBytes, hx, List.cons_append, List.nil_append, parseFU, hS, if_true]

theorem parsePACI_of (a b c d : UInt8) (r : Bytes) (hr : r ≠ []) :
    parsePACI (some (a :: b :: c :: d :: r)) =
      if hdrF (rd16 a b) then .err .other else if !hdrIsPACI (rd16 a b) then .err .other
      else if r.length < (paciPHS (rd16 c d)).toNat + 1 then .err .short
      else .ok (.paci (rd16 a b) (rd16 c d) (r.take (paciPHS (rd16 c d)).toNat)
        (r.drop (paciPHS (rd16 c d)).toNat)) := by
  cases r with
  | nil => exact absurd rfl hr
  | cons _ _ => rfl

/- Input cut too short for the sub-parser that the payload header names is rejected. -/
theorem parseSingle_short (donl : Bool) (l : Bytes) (h : l.length ≤ 2 + (if donl then 2 else 0)) :
    (parseSingle donl (some l)).isErr = true :=
  (parseSingle_cases donl (some l)).isErr fun k ⟨a, b, d, q, hp, hq, hd, _⟩ => by
    cases hp
    simp only [List.length_cons, List.length_append, donlBytes_length hd] at h
    have := List.length_pos_iff.mpr hq
    omega

theorem parseFU_short (donl : Bool) (a b c : UInt8) (r : Bytes) (h : r.length ≤ if fuS c && donl then 2 else 0) :
    (parseFU donl (some (a :: b :: c :: r))).isErr = true :=
  (parseFU_cases donl _).isErr fun k ⟨a', b', c', d, q, hp, hq, hd, _⟩ => by
    simp only [Option.some.injEq, List.cons.injEq] at hp
    obtain ⟨rfl, rfl, rfl, rfl⟩ := hp
    simp only [List.length_append, donlBytes_length hd] at h
    have := List.length_pos_iff.mpr hq
    omega

theorem parseAgg_of (donl : Bool) (a b : UInt8) (d : Option UInt16) (s0 s1 : UInt8) (r : Bytes)
    (hd : d.isSome = donl) :
    parseAgg donl (some (a :: b :: (donlBytes d ++ s0 :: s1 :: r))) =
      if hdrF (rd16 a b) then .err .other else if !hdrIsAgg (rd16 a b) then .err .other
      else if r.length < (rd16 s0 s1).toNat then .err .short
      else if (parseAggRest donl r.length (r.drop (rd16 s0 s1).toNat)).isEmpty then .err .short
      else .ok (.agg (rd16 a b) d (rd16 s0 s1) (r.take (rd16 s0 s1).toNat)
        (parseAggRest donl r.length (r.drop (rd16 s0 s1).toNat))) := by
  cases d with
  | none => cases hd; rfl
  | some dv =>
    cases hd
    obtain ⟨x, y, hx, rfl⟩ := u16be_bytes_u16 dv
    simp only [donlBytes, hx]; rfl

/-- an aggregation packet needs the size field of its first unit and something after it -/
theorem parseAgg_short (donl : Bool) (l : Bytes) (h : l.length ≤ 2 + (if donl then 2 else 0) + 2) :
    (parseAgg donl (some l)).isErr = true :=
  (parseAgg_cases donl (some l)).isErr fun k ⟨a, b, d, s0, s1, r, hp, hd, _, _, _, hne, _⟩ => by
    cases hp
    simp only [List.length_cons, List.length_append, donlBytes_length hd] at h
    have hr : r.length = 0 := by omega
    rw [hr] at hne
    exact hne rfl

theorem parsePACI_short (l : Bytes)
    (h : l.length ≤ 4 + (paciPHS (rd16 (l.getD 2 0) (l.getD 3 0))).toNat) : (parsePACI (some l)).isErr = true :=
  (parsePACI_cases (some l)).isErr fun k ⟨a, b, c, d, r, hp, hl, _⟩ => by
    cases hp
    simp only [List.length_cons, List.getD_cons_succ, List.getD_cons_zero] at h
    omega

theorem decode_single (mode : Bool) (h : Hdr) (d : Option UInt16) (q : Bytes)
    (hw : h.WF = true) (hf : h.f = false) (h48 : h.type ≠ 48) (h49 : h.type ≠ 49) (h50 : h.type ≠ 50)
    (hd : d.isSome = mode) (hq : q ≠ []) :
    decode mode (some (h.bytes ++ donlBytes d ++ q)) =
      .ok { pkt := .single h d q, tsci := none, sizesOk := true } := by
  obtain ⟨a, b, hb, hv, e1, e2⟩ := hdr_bytes h hw
  have hne : donlBytes d ++ q ≠ [] := List.append_ne_nil_of_right_ne_nil _ hq
  simp [decode, hb, unmarshal_cons mode a b _ hne, parseSingle_of mode a b d q hd hq, hdrIsPACI, hdrIsFU,
    hdrIsAgg, e1, e2, hf, h48, h49, h50, Pkt.view, hv]

theorem decode_fu (mode : Bool) (h : Hdr) (s e : Bool) (t : UInt8) (d : Option UInt16) (q : Bytes)
    (hw : h.WF = true) (hf : h.f = false) (h49 : h.type = 49) (ht : t.toNat < 64)
    (hd : d.isSome = (mode && s)) (hq : q ≠ []) :
    decode mode (some (h.bytes ++ [fuByte s e t] ++ donlBytes d ++ q)) =
      .ok { pkt := .fu h s e t d q, tsci := none, sizesOk := true } := by
  obtain ⟨a, b, hb, hv, e1, e2⟩ := hdr_bytes h hw
  obtain ⟨f1, f2, f3⟩ := fuByte_fields s e t ht
  have hd' : d.isSome = (fuS (fuByte s e t) && mode) := by rw [f1, Bool.and_comm]; exact hd
  simp [decode, hb, unmarshal_cons mode a b _ (List.cons_ne_nil _ _), parseFU_of mode a b _ d q hd' hq,
    hdrIsPACI, hdrIsFU, e1, e2, hf, h49, Pkt.view, hv, f1, f2, f3]

/-- the TSCI that `H265PACIPacket.TSCI()` reports is the TSCI extension of the decoded description -/
theorem view_paci_tsci (h w : UInt16) (phes q : Bytes) (hl : phes.length = (paciPHS w).toNat) :
    (Pkt.paci h w phes q).view.tsci = (Pkt.paci h w phes q).view.pkt.tsci := by
  simp only [Pkt.view, paciTSCI, Packet.tsci]
  cases paciF0 w with
  | false => simp
  | true =>
    by_cases h3 : (paciPHS w).toNat < 3
    · have h3' : ¬ (3 ≤ (paciPHS w).toNat) := by omega
      simp [h3, h3']
    · have h3' : 3 ≤ (paciPHS w).toNat := by omega
      simp only [Bool.not_true, Bool.false_or, decide_eq_true_eq, h3, if_false, Bool.true_and, h3', if_true]
      match phes, hl with
      | a1 :: a2 :: a3 :: _, _ => simp [tsciView_word]
      | [], hl | [_], hl | [_, _], hl => simp at hl; omega

theorem decode_paci (mode : Bool) (h : Hdr) (a : Bool) (c phs : UInt8) (f0 f1 f2 y : Bool) (phes q : Bytes)
    (hw : h.WF = true) (hf : h.f = false) (h50 : h.type = 50) (hc : c.toNat < 64) (hp : phs.toNat < 32)
    (hl : phes.length = phs.toNat) (hq : q ≠ []) :
    decode mode (some (h.bytes ++ u16be (paciWord a c phs f0 f1 f2 y) ++ phes ++ q)) =
      .ok { pkt := .paci h a c phs f0 f1 f2 y phes q,
            tsci := (Packet.paci h a c phs f0 f1 f2 y phes q).tsci, sizesOk := true } := by
  obtain ⟨a0, b0, hb, hv, e1, e2⟩ := hdr_bytes h hw
  obtain ⟨x, y', hx, _, hy⟩ := u16be_bytes_lt _ (paciWord_lt a c phs f0 f1 f2 y hc hp)
  obtain ⟨p1, p2, p3, p4, p5, p6, p7⟩ := paci_fields a c phs f0 f1 f2 y hc hp _ hy
  have hu : unmarshal mode (some (a0 :: b0 :: x :: y' :: (phes ++ q))) =
      .ok (.paci (rd16 a0 b0) (rd16 x y') phes q) := by
    rw [unmarshal_cons mode a0 b0 _ (List.cons_ne_nil _ _),
      parsePACI_of a0 b0 x y' _ (List.append_ne_nil_of_right_ne_nil _ hq)]
    simp [hdrIsPACI, e1, e2, hf, h50, p3, hq, ← hl]
  have hpkt : (Pkt.paci (rd16 a0 b0) (rd16 x y') phes q).view.pkt = .paci h a c phs f0 f1 f2 y phes q := by
    simp only [Pkt.view, hv, p1, p2, p3, p4, p5, p6, p7]
  have ht := view_paci_tsci (rd16 a0 b0) (rd16 x y') phes q (by rw [p3]; exact hl)
  rw [hb, hx, decode, show [a0, b0] ++ [x, y'] ++ phes ++ q = a0 :: b0 :: x :: y' :: (phes ++ q) by simp, hu,
    ← hpkt, ← ht]
  rfl

theorem parseAggRest_nil (mode : Bool) (k : Nat) : parseAggRest mode k [] = [] := by
  cases k <;> cases mode <;> simp [parseAggRest]

theorem parseAggRest_unit (mode : Bool) (u : Option UInt8 × Bytes) (hu1 : u.1.isSome = mode)
    (hu2 : u.2.length < 65536) (fuel : Nat) (l : Bytes) :
    parseAggRest mode (fuel + 1) (unitBytes u ++ l) =
      (u.1, u.2.length.toUInt16, u.2) :: parseAggRest mode fuel l := by
  obtain ⟨dd, nal⟩ := u
  obtain ⟨x, y, hx, hsz, hy⟩ := u16be_bytes_lt nal.length hu2
  simp only at hu1 hu2
  cases dd with
  | none =>
    simp at hu1; subst hu1
    simp [unitBytes, dondBytes, hx, parseAggRest, hsz, Nat.mod_eq_of_lt hu2]
  | some d =>
    simp at hu1; subst hu1
    simp [unitBytes, dondBytes, hx, parseAggRest, hsz, Nat.mod_eq_of_lt hu2]

theorem parseAggRest_units (mode : Bool) (us : List (Option UInt8 × Bytes))
    (hus : ∀ u ∈ us, u.1.isSome = mode ∧ u.2.length < 65536) (k : Nat) (t : Bytes) :
    parseAggRest mode (us.length + k) ((us.map unitBytes).flatten ++ t) =
      us.map (fun u => (u.1, u.2.length.toUInt16, u.2)) ++ parseAggRest mode k t := by
  induction us with
  | nil => simp
  | cons u us ih =>
    have hu := hus u (by simp)
    have e : (u :: us).length + k = (us.length + k) + 1 := by simp; omega
    rw [e]
    simp only [List.map_cons, List.flatten_cons, List.append_assoc]
    rw [parseAggRest_unit mode u hu.1 hu.2, ih (fun v hv => hus v (by simp [hv]))]
    simp

/-- every unit takes at least its two size octets, so `length` rounds of fuel cover the unit loop -/
theorem units_length_le (us : List (Option UInt8 × Bytes)) : us.length ≤ (us.map unitBytes).flatten.length := by
  induction us with
  | nil => simp
  | cons u us ih =>
    simp only [List.map_cons, List.flatten_cons, List.length_append, List.length_cons, unitBytes, u16be]
    omega

/-- octets `t` after a complete aggregation packet are ignored when the unit loop, whatever fuel `k` it
    has left, finds no further unit in them -/
theorem decode_ap_trailing (mode : Bool) (h : Hdr) (d : Option UInt16) (first : Bytes)
    (rest : List (Option UInt8 × Bytes)) (t : Bytes)
    (hw : h.WF = true) (hf : h.f = false) (h48 : h.type = 48) (hd : d.isSome = mode)
    (hfl : first.length < 65536) (hne : rest ≠ [])
    (hrest : ∀ u ∈ rest, u.1.isSome = mode ∧ u.2.length < 65536)
    (ht : ∀ k, parseAggRest mode k t = []) :
    decode mode (some (encode (.ap h d first rest) ++ t)) =
      .ok { pkt := .ap h d first rest, tsci := none, sizesOk := true } := by
  obtain ⟨a, b, hb, hv, e1, e2⟩ := hdr_bytes h hw
  obtain ⟨x, y, hx, hsz, hy⟩ := u16be_bytes_lt first.length hfl
  have hloop : parseAggRest mode (first.length + ((rest.map unitBytes).flatten ++ t).length)
      ((rest.map unitBytes).flatten ++ t) = rest.map (fun u => (u.1, u.2.length.toUInt16, u.2)) := by
    have hle := units_length_le rest
    have e : first.length + ((rest.map unitBytes).flatten ++ t).length =
        rest.length + (first.length + ((rest.map unitBytes).flatten ++ t).length - rest.length) := by
      simp only [List.length_append]; omega
    rw [e, parseAggRest_units mode rest hrest, ht]; simp
  have hmap : (rest.map (fun u => (u.1, u.2.length.toUInt16, u.2))).map (fun u => (u.1, u.2.2)) = rest := by
    simp [List.map_map, Function.comp_def]
  have hall : (rest.map (fun u => (u.1, u.2.length.toUInt16, u.2))).all
      (fun u => u.2.1.toNat == u.2.2.length) = true := by
    simp only [List.all_map, List.all_eq_true, Function.comp_def, beq_iff_eq]
    intro u hu; exact toNat_toUInt16_of_lt (hrest u hu).2
  have hemp : (rest.map (fun u => (u.1, u.2.length.toUInt16, u.2))).isEmpty = false := by
    cases rest with
    | nil => exact absurd rfl hne
    | cons _ _ => rfl
  have hin : encode (.ap h d first rest) ++ t =
      a :: b :: (donlBytes d ++ x :: y :: (first ++ ((rest.map unitBytes).flatten ++ t))) := by
    simp [encode, hb, hx]
  rw [hin]
  generalize (rest.map unitBytes).flatten ++ t = R at hloop ⊢
  have hnlt : ¬ (first.length + R.length < first.length) := by omega
  -- `n.toUInt16` is `UInt16.ofNat n`, the form in which `simp` leaves the goal below
  simp only [Nat.toUInt16] at hmap hall hemp hloop hsz
  have hu : unmarshal mode (some (a :: b :: (donlBytes d ++ x :: y :: (first ++ R)))) =
      .ok (.agg (rd16 a b) d (rd16 x y) first
        (rest.map fun u => (u.1, UInt16.ofNat u.2.length, u.2))) := by
    rw [unmarshal_cons mode a b _ (by simp), parseAgg_of mode a b d x y _ hd]
    simp [hdrIsPACI, hdrIsFU, hdrIsAgg, e1, e2, hf, h48, hy, hnlt, hloop, hemp]
  rw [decode, hu]
  simp [Pkt.view, hv, hmap, hall, hy]

theorem decode_encode (mode : Bool) (desc : Packet) (hwf : desc.WF mode = true) :
    decode mode (some (encode desc)) = .ok { pkt := desc, tsci := desc.tsci, sizesOk := true } := by
  cases desc with
  | single h d p =>
    simp only [Packet.WF, Bool.and_eq_true, Bool.not_eq_true', bne_iff_ne, ne_eq, beq_iff_eq,
      List.isEmpty_eq_false_iff] at hwf
    obtain ⟨⟨⟨⟨⟨⟨hw, hf⟩, h48⟩, h49⟩, h50⟩, hd⟩, hp⟩ := hwf
    exact decode_single mode h d p hw hf h48 h49 h50 hd hp
  | ap h d first rest =>
    simp only [Packet.WF, Bool.and_eq_true, Bool.not_eq_true', beq_iff_eq, decide_eq_true_eq,
      List.isEmpty_eq_false_iff, List.all_eq_true] at hwf
    obtain ⟨⟨⟨⟨⟨⟨hw, hf⟩, h48⟩, hd⟩, hfl⟩, hne⟩, hr⟩ := hwf
    have := decode_ap_trailing mode h d first rest [] hw hf h48 hd hfl hne hr (parseAggRest_nil mode)
    simpa [Packet.tsci] using this
  | fu h s e t d p =>
    simp only [Packet.WF, Bool.and_eq_true, Bool.not_eq_true', beq_iff_eq, decide_eq_true_eq,
      List.isEmpty_eq_false_iff] at hwf
    obtain ⟨⟨⟨⟨⟨hw, hf⟩, h49⟩, ht⟩, hd⟩, hp⟩ := hwf
    exact decode_fu mode h s e t d p hw hf h49 ht hd hp
  | paci h a c phs f0 f1 f2 y phes p =>
    simp only [Packet.WF, Bool.and_eq_true, Bool.not_eq_true', beq_iff_eq, decide_eq_true_eq,
      List.isEmpty_eq_false_iff] at hwf
    obtain ⟨⟨⟨⟨⟨⟨hw, hf⟩, h50⟩, hc⟩, hp⟩, hl⟩, hq⟩ := hwf
    exact decode_paci mode h a c phs f0 f1 f2 y phes p hw hf h50 hc hp hl hq

/-- IsPartitionHead on an encoded packet: every packet but a non-first FU starts a unit -/
theorem head_encode (mode : Bool) (desc : Packet) (hwf : desc.WF mode = true) :
    isPartitionHead (encode desc) = C14.headSpec desc := by
  obtain ⟨k, hk, hv⟩ := decode_eq_ok.mp (decode_encode mode desc hwf)
  rw [head_consistent mode _ k hk, hv]

end Rtp.Model.H265
