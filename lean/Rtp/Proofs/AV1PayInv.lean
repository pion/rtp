/-
  Rtp/Proofs/AV1PayInv.lean — the invariant of the packet list AV1Payloader builds, and what one call
  of appendOBUPayload adds to the elements it denotes.
-/
import Rtp.Proofs.AV1Pay
namespace Rtp.Model.AV1
open Rtp Rtp.Model Rtp.Spec.Av1Rtp

/-- elements of an oldest-first packet list, packets numbered from `k` -/
def elemsFwd : Nat → List Pk → List Elem
  | _, [] => []
  | k, p :: ps => flagElems p.z p.y k p.elems ++ elemsFwd (k + 1) ps

/-- elements of a NEWEST-first packet list (as the payloader keeps it), oldest packet first -/
def elemsRev : List Pk → List Elem
  | [] => []
  | q :: t => elemsRev t ++ flagElems q.z q.y t.length q.elems

theorem elemsFwd_eq (k : Nat) (ps : List Pk) : elemsFwd k ps = allElems k (ps.map Pk.toPacket) := by
  induction ps generalizing k with
  | nil => rfl
  | cons p ps ih => simp [elemsFwd, allElems, ih, Pk.toPacket]

theorem elemsRev_append_rev (F base : List Pk) :
    elemsRev (F.reverse ++ base) = elemsRev base ++ elemsFwd base.length F := by
  induction F generalizing base with
  | nil => simp [elemsFwd]
  | cons f F ih =>
    simp only [List.reverse_cons, List.append_assoc, List.singleton_append]
    rw [ih (f :: base)]
    simp [elemsRev, elemsFwd]

theorem elemsRev_eq (ps : List Pk) : elemsRev ps = allElems 0 (ps.reverse.map Pk.toPacket) := by
  have := elemsRev_append_rev ps.reverse []
  simp only [List.reverse_reverse, List.append_nil, elemsRev, List.nil_append, List.length_nil] at this
  rw [this, elemsFwd_eq]

/-- a chain of fragments of one OBU: the first continues the previous packet iff `z`, every later
    one does, every one but the last is continued -/
def chainFrom (z : Bool) (k : Nat) : List Bytes → List Elem
  | [] => []
  | [e] => [⟨e, z, false, k⟩]
  | e :: e' :: es => ⟨e, z, true, k⟩ :: chainFrom true (k + 1) (e' :: es)

theorem chainFrom_cons (z : Bool) (k : Nat) (e : Bytes) (es : List Bytes) :
    chainFrom z k (e :: es) = ⟨e, z, !es.isEmpty, k⟩ :: chainFrom true (k + 1) es := by
  cases es <;> simp [chainFrom]

theorem flagElems_snoc (z y : Bool) (k : Nat) (es : List Bytes) (e : Bytes) (hne : es ≠ []) :
    flagElems z y k (es ++ [e]) = flagElems z false k es ++ [⟨e, false, y, k⟩] := by
  induction es generalizing z with
  | nil => exact absurd rfl hne
  | cons a as ih =>
    cases as with
    | nil => simp [flagElems]
    | cons b bs =>
      have := ih false (by simp)
      simp only [List.cons_append] at this ⊢
      simp only [flagElems, this]
      simp

/-- joining a chain that continues the open unit `u`: one OBU, `u`'s bytes and all pieces
    concatenated, nothing left open -/
theorem joinPkt_chain_some (u : OUnit) (k : Nat) (es : List Bytes) (hne : es ≠ []) :
    joinPkt (some u) (chainFrom true k es) =
      ([⟨u.bytes ++ es.flatten, u.first, k + es.length - 1⟩], none) := by
  induction es generalizing u k with
  | nil => exact absurd rfl hne
  | cons e es ih =>
    cases es with
    | nil => simp [chainFrom, joinPkt, extend]
    | cons e' es' =>
      have := ih ⟨u.bytes ++ e, u.first, k⟩ (k + 1) (by simp)
      simp only [chainFrom, joinPkt, extend, if_true, this]
      simp only [List.length_cons, List.flatten_cons, List.append_assoc, Prod.mk.injEq, and_true,
        List.cons.injEq, OUnit.mk.injEq, true_and]
      omega

theorem joinPkt_chain_none (k : Nat) (es : List Bytes) (hne : es ≠ []) :
    joinPkt none (chainFrom false k es) = ([⟨es.flatten, k, k + es.length - 1⟩], none) := by
  cases es with
  | nil => exact absurd rfl hne
  | cons e es =>
    cases es with
    | nil => simp [chainFrom, joinPkt, extend]
    | cons e' es' =>
      have := joinPkt_chain_some ⟨e, k, k⟩ (k + 1) (e' :: es') (by simp)
      simp only [chainFrom, joinPkt, extend, if_true, Bool.false_eq_true, if_false]
      rw [this]
      simp only [List.length_cons, List.flatten_cons, Prod.mk.injEq, and_true, List.cons.injEq,
        OUnit.mk.injEq, true_and]
      omega

def headY : List Pk → Bool
  | [] => false
  | q :: _ => q.y

/-- every packet's Z equals the Y of the packet before it (false before the first) -/
def zyRev : List Pk → Bool
  | [] => true
  | q :: t => (q.z == headY t) && zyRev t

theorem zyChain_of_zyRev (ps : List Pk) (l : List Pk) :
    zyChain false ((ps.reverse ++ l).map Pk.toPacket) =
      (zyRev ps && zyChain (headY ps) (l.map Pk.toPacket)) := by
  induction ps generalizing l with
  | nil => simp [zyRev, headY]
  | cons q t ih =>
    simp only [List.reverse_cons, List.append_assoc, List.singleton_append]
    rw [ih (q :: l)]
    simp only [List.map_cons, zyChain, zyRev, headY, Pk.toPacket]
    cases (q.z == headY t) <;> cases zyRev t <;> simp

/-- the pieces the fragment loop cuts `rem` into -/
def fragPieces (mtu : Nat) (isLast : Bool) : Nat → Bytes → List Bytes
  | 0, _ => []
  | fuel + 1, rem =>
    if rem.isEmpty then []
    else rem.take (pieceLen mtu isLast rem) :: fragPieces mtu isLast fuel (rem.drop (pieceLen mtu isLast rem))

/-- the state of the newest packet as the next call of appendOBUPayload needs it: still open with
    `count` length-prefixed elements, or full, or closed by a call with isLast (`promise`) -/
def headStatus (mtu : Nat) (q : Pk) (count : Nat) (promise : Bool) : Prop :=
  (q.last = none ∧ q.w = 0 ∧ q.pre.length = count) ∨ mtu ≤ q.size ∨ promise = true

/-- `headStatus` of the newest packet, if there is one -/
def HeadSt (mtu : Nat) (out : List Pk) (count : Nat) (promise : Bool) : Prop :=
  ∀ q t, out = q :: t → headStatus mtu q count promise

theorem fragPk_facts (mtu : Nat) (isLast : Bool) (rem : Bytes) (z y : Bool) (hm : 2 ≤ mtu)
    (hs : mtu ≤ 65535) (hr : rem ≠ []) :
    let q := fragPk mtu isLast rem z y
    q.shapeOK ∧ q.elems = [rem.take (pieceLen mtu isLast rem)] ∧ q.n = false ∧ q.z = z ∧ q.y = y ∧
    headStatus mtu q 1 isLast ∧ q.size ≤ mtu := by
  obtain ⟨h1, h2, h3, h4⟩ := pieceLen_pos mtu isLast rem hm hs hr
  dsimp only
  unfold fragPk
  split
  · rename_i hc
    have hsz : Pk.size { z := z, y := y, w := 1, last := some (rem.take (pieceLen mtu isLast rem)) } =
        1 + pieceLen mtu isLast rem := by
      simp [size_eq, Nat.min_eq_left h2]
    refine ⟨Or.inr ⟨rfl, rfl, by simp⟩, rfl, rfl, rfl, rfl, ?_, by omega⟩
    simp only [Bool.or_eq_true, decide_eq_true_eq] at hc
    rcases hc with hc | hc
    · exact Or.inr (Or.inr hc)
    · have hk : pieceLen mtu isLast rem = mtu - 1 := by
        unfold pieceLen; simp [hc]
      exact Or.inr (Or.inl (by omega))
  · rename_i hc
    have hsz : Pk.size { z := z, y := y, pre := [rem.take (pieceLen mtu isLast rem)] } =
        1 + ((writeLeb (pieceLen mtu isLast rem)).length + pieceLen mtu isLast rem) := by
      simp [size_eq, lenPrefixed, Nat.min_eq_left h2]
    have := h4 (by simpa using hc)
    exact ⟨Or.inl ⟨rfl, rfl⟩, rfl, rfl, rfl, rfl, Or.inl ⟨rfl, rfl, rfl⟩, by omega⟩

theorem fragPieces_nil_iff (mtu : Nat) (isLast : Bool) (fuel : Nat) (rem : Bytes) (hf : rem.length ≤ fuel) :
    (fragPieces mtu isLast fuel rem = []) ↔ rem = [] := by
  cases fuel with
  | zero =>
    have : rem = [] := List.eq_nil_of_length_eq_zero (Nat.le_zero.mp hf)
    simp [fragPieces, this]
  | succ f =>
    cases rem with
    | nil => simp [fragPieces]
    | cons a b => simp [fragPieces]

theorem fragPieces_flatten (mtu : Nat) (isLast : Bool) (hm : 2 ≤ mtu) (hs : mtu ≤ 65535) (fuel : Nat)
    (rem : Bytes) (hf : rem.length ≤ fuel) : (fragPieces mtu isLast fuel rem).flatten = rem := by
  induction fuel generalizing rem with
  | zero =>
    have : rem = [] := List.eq_nil_of_length_eq_zero (Nat.le_zero.mp hf)
    simp [fragPieces, this]
  | succ f ih =>
    by_cases hr : rem = []
    · subst hr; simp [fragPieces]
    · have hne : rem.isEmpty = false := List.isEmpty_eq_false_iff.mpr hr
      obtain ⟨hp1, hp2, _, _⟩ := pieceLen_pos mtu isLast rem hm hs hr
      have hfl : (rem.drop (pieceLen mtu isLast rem)).length ≤ f := by
        simp only [List.length_drop]; omega
      simp only [fragPieces, hne, Bool.false_eq_true, if_false, List.flatten_cons, ih _ hfl,
        List.take_append_drop]

def PkOK (q : Pk) : Prop :=
  q.shapeOK ∧ q.elems ≠ [] ∧ (∀ e ∈ q.elems, e ≠ []) ∧ ¬ (q.n = true ∧ q.z = true)

/-- the packet list between two calls of appendOBUPayload (newest first): `hy` says the newest
    packet is never left continued, which is the part of `zyChain` that `zyRev` lacks -/
structure OutInv (out : List Pk) : Prop where
  pk : ∀ q ∈ out, PkOK q
  zy : zyRev out = true
  hy : headY out = false

/-- fragment packets put on top of a list with head `H`, the first of them continuing `H` iff `z`.
    By induction along the fragment loop, the packet just made being the head for the rest. -/
theorem outInv_frags (mtu : Nat) (isLast : Bool) (hm : 2 ≤ mtu) (hs : mtu ≤ 65535) (fuel : Nat)
    (rem : Bytes) (z : Bool) (H : Pk) (T : List Pk) (hf : rem.length ≤ fuel) (hrem : rem ≠ [])
    (hH : PkOK H) (hT : ∀ q ∈ T, PkOK q) (hzy : zyRev (H :: T) = true) (hy : H.y = z)
    (hsz : ∀ q ∈ H :: T, q.size ≤ mtu) :
    let out := (fragPks mtu isLast fuel rem z).reverse ++ H :: T
    OutInv out ∧ (∀ q ∈ out, q.size ≤ mtu) ∧ HeadSt mtu out 1 isLast ∧
    elemsRev out = elemsRev (H :: T) ++ chainFrom z (T.length + 1) (fragPieces mtu isLast fuel rem) ∧
    out.length = T.length + 1 + (fragPieces mtu isLast fuel rem).length := by
  induction fuel generalizing rem z H T with
  | zero => exact absurd (List.eq_nil_of_length_eq_zero (Nat.le_zero.mp hf)) hrem
  | succ f ih =>
    have hne : rem.isEmpty = false := List.isEmpty_eq_false_iff.mpr hrem
    obtain ⟨hp1, hp2, _, _⟩ := pieceLen_pos mtu isLast rem hm hs hrem
    have hfl : (rem.drop (pieceLen mtu isLast rem)).length ≤ f := by
      simp only [List.length_drop]; omega
    have hpiece : rem.take (pieceLen mtu isLast rem) ≠ [] := by
      rw [← List.length_pos_iff, List.length_take]; omega
    obtain ⟨q1, q2, q3, q4, q5, q6, q7⟩ := fragPk_facts mtu isLast rem z
      (!(rem.drop (pieceLen mtu isLast rem)).isEmpty) hm hs hrem
    have hnil := fragPieces_nil_iff mtu isLast f (rem.drop (pieceLen mtu isLast rem)) hfl
    simp only [fragPks, fragPieces, hne, Bool.false_eq_true, if_false, List.reverse_cons,
      List.append_assoc, List.singleton_append]
    generalize rem.drop (pieceLen mtu isLast rem) = r at *
    generalize rem.take (pieceLen mtu isLast rem) = piece at *
    generalize fragPk mtu isLast rem z (!r.isEmpty) = q at *
    have hq : PkOK q := ⟨q1, by rw [q2]; simp, by rw [q2]; simpa using hpiece, by simp [q3]⟩
    have hzy' : zyRev (q :: H :: T) = true := by
      rw [zyRev, hzy, q4, Bool.and_true]
      exact beq_iff_eq.mpr hy.symm
    have hsz' : ∀ x ∈ q :: H :: T, x.size ≤ mtu := fun x hx => by
      rcases List.mem_cons.mp hx with rfl | hx
      · exact q7
      · exact hsz x hx
    have hel : elemsRev (q :: H :: T) =
        elemsRev (H :: T) ++ [⟨piece, z, !r.isEmpty, T.length + 1⟩] := by
      simp [elemsRev, q2, q4, q5, flagElems]
    by_cases hr : r = []
    · -- the last piece: no further packet
      have hF : fragPks mtu isLast f r true = [] := by cases f <;> simp [fragPks, hr]
      rw [hF, hnil.mpr hr, List.reverse_nil, List.nil_append]
      refine ⟨⟨fun x hx => ?_, hzy', by simp [headY, q5, hr]⟩, hsz', ?_, ?_, rfl⟩
      · rcases List.mem_cons.mp hx with rfl | hx
        · exact hq
        · rcases List.mem_cons.mp hx with rfl | hx
          · exact hH
          · exact hT x hx
      · intro x t hxt
        rw [(List.cons.inj hxt).1.symm]
        exact q6
      · rw [hel]; simp [chainFrom, hr]
    · obtain ⟨o1, o2, o3, o4, o5⟩ := ih r true q (H :: T) hfl hr hq
        (fun x hx => by
          rcases List.mem_cons.mp hx with rfl | hx
          · exact hH
          · exact hT x hx)
        hzy' (by simp [q5, hr]) hsz'
      refine ⟨o1, o2, o3, ?_, ?_⟩
      · rw [o4, hel, List.append_assoc, chainFrom_cons]
        simp [List.isEmpty_eq_false_iff.mpr hr, List.isEmpty_eq_false_iff.mpr (mt hnil.mp hr)]
      · rw [o5]; simp only [List.length_cons]; omega

/-- appendOBUPayload starts a new packet, or goes on with the newest one if that has room and no
    break was asked for -/
theorem basePk_cases (ps : List Pk) (newSeq startNew : Bool) (mtu count : Nat) :
    basePk ps newSeq startNew mtu count = ({ n := newSeq }, ps, 0) ∨
    ∃ q qs, ps = q :: qs ∧ q.size < mtu ∧ startNew = false ∧
      basePk ps newSeq startNew mtu count = (q, qs, count) := by
  unfold basePk
  cases ps with
  | nil => exact Or.inl rfl
  | cons q qs =>
    dsimp only
    split
    · exact Or.inl rfl
    · rename_i hc
      simp only [Bool.or_eq_true, decide_eq_true_eq, not_or, Nat.not_le, Bool.not_eq_true] at hc
      exact Or.inr ⟨q, qs, rfl, hc.1, hc.2, rfl⟩

theorem basePk_tail_mem {ps : List Pk} {newSeq startNew : Bool} {mtu count : Nat} {q : Pk}
    (h : q ∈ (basePk ps newSeq startNew mtu count).2.1) : q ∈ ps := by
  rcases basePk_cases ps newSeq startNew mtu count with hb | ⟨a, as, rfl, _, _, hb⟩ <;> rw [hb] at h
  · exact h
  · exact List.mem_cons_of_mem _ h

/-- the packet the first write goes to (`b.1`) is open and has room; its flags; the older packets
    and the elements of the list are as before; the list grew by one exactly when the packet is a
    new one.  `hprom`: a promised break is kept, so a packet closed by `isLast` is not reopened. -/
theorem basePk_facts (out : List Pk) (newSeq startNew : Bool) (mtu count : Nat) (promise : Bool)
    (hm : 2 ≤ mtu) (hinv : OutInv out) (hhead : HeadSt mtu out count promise)
    (hprom : promise = true → startNew = true) :
    let b := basePk out newSeq startNew mtu count
    (b.1.last = none ∧ b.1.w = 0 ∧ b.1.pre.length = b.2.2 ∧ b.1.size < mtu) ∧
    b.1.y = false ∧ (b.1.pre = [] → b.1.z = false) ∧ ¬ (b.1.n = true ∧ b.1.z = true) ∧
    (∀ e ∈ b.1.pre, e ≠ []) ∧ (∀ q ∈ b.2.1, PkOK q) ∧ zyRev (b.1 :: b.2.1) = true ∧
    elemsRev (b.1 :: b.2.1) = elemsRev out ∧
    (out.length ≤ (b.1 :: b.2.1).length) ∧ ((b.1 :: b.2.1).length ≤ out.length + 1) ∧
    (startNew = true → (b.1 :: b.2.1).length = out.length + 1) ∧
    ((b.1 :: b.2.1).length = out.length + 1 → b.1.pre = []) := by
  rcases basePk_cases out newSeq startNew mtu count with hb | ⟨q, t, rfl, hq, hsn, hb⟩ <;> rw [hb] <;>
    dsimp only
  · exact ⟨⟨rfl, rfl, rfl, by simp [size_eq]; omega⟩, rfl, fun _ => rfl, by simp, by simp, hinv.pk,
      by simp [zyRev, hinv.zy, hinv.hy], by simp [elemsRev, Pk.elems, flagElems], by simp, by simp,
      fun _ => by simp, fun _ => rfl⟩
  · have hopen : q.last = none ∧ q.w = 0 ∧ q.pre.length = count := by
      rcases hhead q t rfl with h | h | h
      · exact h
      · omega
      · rw [hprom h] at hsn; cases hsn
    obtain ⟨hshape, hne, hnonempty, hnz⟩ := hinv.pk q (by simp)
    have hpre : q.pre ≠ [] := by
      intro h; apply hne; simp [Pk.elems, h, hopen.1]
    refine ⟨⟨hopen.1, hopen.2.1, hopen.2.2, hq⟩, hinv.hy, fun h => absurd h hpre, hnz, ?_,
      fun x hx => hinv.pk x (by simp [hx]), hinv.zy, rfl, by simp, by simp, ?_, ?_⟩
    · intro e he; exact hnonempty e (by simp [Pk.elems, he])
    · intro h; rw [h] at hsn; cases hsn
    · intro h; simp at h

/-- the first write leaves the packet as it is and writes nothing (one free byte, W used up), or
    writes at least one byte as a further element -/
theorem firstWrite_facts (p : Pk) (obu : Bytes) (isLast : Bool) (mtu c : Nat) (hs : mtu ≤ 65535)
    (hp : p.last = none ∧ p.w = 0 ∧ p.pre.length = c ∧ p.size < mtu) (ho : obu ≠ []) :
    let f := firstWrite p obu isLast mtu c
    f.2.1 ≤ obu.length ∧ f.1.z = p.z ∧ f.1.y = p.y ∧ f.1.n = p.n ∧ f.1.size ≤ mtu ∧
    ((f.2.1 = 0 ∧ f.1 = p ∧ 3 ≤ c) ∨
     (1 ≤ f.2.1 ∧ f.1.elems = p.pre ++ [obu.take f.2.1] ∧ f.1.shapeOK ∧
      (obu.drop f.2.1 = [] → headStatus mtu f.1 f.2.2 isLast))) := by
  obtain ⟨hl, hw, hc, hsz⟩ := hp
  have hol : 1 ≤ obu.length := List.length_pos_iff.mpr ho
  unfold firstWrite
  dsimp only
  split
  · rename_i hcond
    simp only [Bool.and_eq_true, Bool.or_eq_true, decide_eq_true_eq] at hcond
    have hsz' := size_setLast p (c + 1) (obu.take (min obu.length (mtu - p.size))) hl
    rw [List.length_take] at hsz'
    dsimp only
    refine ⟨by omega, rfl, rfl, rfl, by omega, Or.inr ⟨by omega, by simp [Pk.elems],
      Or.inr ⟨rfl, by show c + 1 = p.pre.length + 1; omega, by show c + 1 ≤ 3; omega⟩, ?_⟩⟩
    intro hrem
    rcases hcond.1 with h | h
    · exact Or.inr (Or.inr h)
    · refine Or.inr (Or.inl ?_)
      have := congrArg List.length hrem
      simp only [List.length_drop, List.length_nil] at this
      omega
  · rename_i hcond
    split
    · rename_i hfree
      have hw1 : 1 ≤ min obu.length (mtu - p.size) := by omega
      obtain ⟨h1, h2⟩ := computeWriteSize_fits (min obu.length (mtu - p.size)) (mtu - p.size) hw1 hfree
        (by omega) (by omega)
      have h3 := computeWriteSize_le (min obu.length (mtu - p.size)) (mtu - p.size)
      generalize computeWriteSize (min obu.length (mtu - p.size)) (mtu - p.size) = k at h1 h2 h3 ⊢
      have hsz' := size_snoc p (obu.take k)
      rw [List.length_take, Nat.min_eq_left (show k ≤ obu.length by omega)] at hsz'
      dsimp only
      refine ⟨by omega, rfl, rfl, rfl, by omega, Or.inr ⟨h1, by simp [Pk.elems, hl], Or.inl ⟨hl, hw⟩, ?_⟩⟩
      intro _
      exact Or.inl ⟨hl, hw, by simp [hc]⟩
    · rename_i hfree
      dsimp only
      refine ⟨by omega, rfl, rfl, rfl, by omega, Or.inl ⟨rfl, rfl, ?_⟩⟩
      simp only [Bool.and_eq_true, Bool.or_eq_true, decide_eq_true_eq, not_and, Nat.not_lt] at hcond
      exact hcond (Or.inr (by omega))

/-- the newest packet `p` gains the element `e` and Y := `y`: one more element at the end of the list.
    It is not flagged as a continuation, since a packet with Z has an element already (`hpz`). -/
theorem elemsRev_head_snoc (p H : Pk) (T : List Pk) (e : Bytes) (y : Bool)
    (hz : H.z = p.z) (hy : H.y = y) (hpy : p.y = false) (hpl : p.last = none)
    (helems : H.elems = p.pre ++ [e]) (hpz : p.pre = [] → p.z = false) :
    elemsRev (H :: T) = elemsRev (p :: T) ++ [⟨e, false, y, T.length⟩] := by
  have hpe : p.elems = p.pre := by simp [Pk.elems, hpl]
  simp only [elemsRev, helems, hz, hy, hpy, hpe, List.append_assoc]
  congr 1
  by_cases h : p.pre = []
  · simp [h, flagElems, hpz h]
  · exact flagElems_snoc p.z y T.length p.pre e h

theorem pkOK_setY (q : Pk) (h : PkOK q) : PkOK { q with y := true } := h

/-- what one call of appendOBUPayload does to the packet list: the invariant is kept, the status of
    the newest packet is as the next call needs it, and the elements gain exactly one chain of
    fragments of the OBU written.  `k0` is the index of the packet the OBU starts in: the newest one
    of `out`, or a new one. -/
theorem appendObu_spec (out : List Pk) (obu : Bytes) (newSeq isLast startNew : Bool) (mtu count : Nat)
    (promise : Bool) (hm : 2 ≤ mtu) (hs : mtu ≤ 65535) (ho : obu ≠ [])
    (hinv : OutInv out) (hsz : ∀ q ∈ out, q.size ≤ mtu) (hhead : HeadSt mtu out count promise)
    (hprom : promise = true → startNew = true) :
    let r := appendObu out obu newSeq isLast startNew mtu count
    OutInv r.1 ∧ (∀ q ∈ r.1, q.size ≤ mtu) ∧ HeadSt mtu r.1 r.2 isLast ∧
    ∃ k0 pieces, pieces ≠ [] ∧ pieces.flatten = obu ∧
      elemsRev r.1 = elemsRev out ++ chainFrom false k0 pieces ∧
      k0 + pieces.length = r.1.length ∧ out.length ≤ k0 + 1 ∧ k0 ≤ out.length ∧
      (startNew = true → k0 = out.length) := by
  have hol : 1 ≤ obu.length := List.length_pos_iff.mpr ho
  rw [appendObu_eq]
  dsimp only
  obtain ⟨hb1, hby, hbz, hbnz, hbpre, hbT, hbzy, hbel, hblen1, hblen2, hbsn, hbfresh⟩ :=
    basePk_facts out newSeq startNew mtu count promise hm hinv hhead hprom
  have hTs : ∀ q ∈ (basePk out newSeq startNew mtu count).2.1, q.size ≤ mtu := fun q hq =>
    hsz q (basePk_tail_mem hq)
  generalize basePk out newSeq startNew mtu count = b at *
  obtain ⟨p, T, c⟩ := b
  dsimp only at *
  obtain ⟨hk, hHz, hHy, hHn, hHs, hcase⟩ := firstWrite_facts p obu isLast mtu c hs hb1 ho
  generalize firstWrite p obu isLast mtu c = f at *
  obtain ⟨H, k, c'⟩ := f
  dsimp only at *
  rw [fragLoop_eq mtu isLast hm hs _ _ _ _ _ (by simp only [List.length_drop]; omega)]
  have hHT : ∀ H' : Pk, H'.size = H.size → ∀ q ∈ H' :: T, q.size ≤ mtu := fun H' hH' q hq => by
    rcases List.mem_cons.mp hq with rfl | hq
    · rw [hH']; exact hHs
    · exact hTs q hq
  have hzyH : ∀ H' : Pk, H'.z = p.z → zyRev (H' :: T) = true := by
    intro H' hz'
    simp only [zyRev, hz'] at hbzy ⊢
    exact hbzy
  have hfuel : (obu.drop k).length ≤ obu.length + 1 := by simp only [List.length_drop]; omega
  have hpf := fragPieces_flatten mtu isLast hm hs (obu.length + 1) (obu.drop k) hfuel
  have hpne : obu.drop k ≠ [] → fragPieces mtu isLast (obu.length + 1) (obu.drop k) ≠ [] := fun hr h =>
    hr ((fragPieces_nil_iff mtu isLast (obu.length + 1) (obu.drop k) hfuel).mp h)
  rcases hcase with ⟨h0, hHp, hc3⟩ | ⟨hk1, helems, hshape, hstat⟩
  · -- nothing could be written to the packet at hand (one byte free, W not available)
    subst h0 hHp
    have hremne : obu.drop 0 ≠ [] := ho
    have hppre : H.pre ≠ [] := by
      intro h; have := hb1.2.2.1; rw [h] at this; simp at this; omega
    have hnotfresh : (H :: T).length = out.length := by
      rcases Nat.lt_or_ge out.length (H :: T).length with h | h
      · exact absurd (hbfresh (by omega)) hppre
      · omega
    have hpk : PkOK H := by
      refine ⟨Or.inl ⟨hb1.1, hb1.2.1⟩, by simp [Pk.elems, hppre], ?_, hbnz⟩
      intro e he
      simp only [Pk.elems, hb1.1, Option.toList_none, List.append_nil] at he
      exact hbpre e he
    simp only [List.isEmpty_eq_false_iff.mpr hremne, bne_self_eq_false, Bool.false_eq_true, if_false]
    obtain ⟨o1, os, o2, o3, o4⟩ := outInv_frags mtu isLast hm hs (obu.length + 1) (obu.drop 0) false H T
      hfuel hremne hpk hbT (hzyH H rfl) hby (hHT H rfl)
    refine ⟨o1, os, o2, T.length + 1, fragPieces mtu isLast (obu.length + 1) (obu.drop 0), hpne hremne,
      by rw [hpf]; simp, by rw [o3, hbel], o4.symm, by simp at hnotfresh; omega,
      by simp at hnotfresh; omega, ?_⟩
    intro h; have := hbsn h; omega
  · have hpk : PkOK H := by
      refine ⟨hshape, by rw [helems]; simp, ?_, by rw [hHn, hHz]; exact hbnz⟩
      intro e he
      rw [helems] at he
      rcases List.mem_append.mp he with he | he
      · exact hbpre e he
      · rw [List.mem_singleton.mp he, ← List.length_pos_iff, List.length_take]
        omega
    by_cases hrem : (obu.drop k).isEmpty = true
    · -- everything fitted into the packet written first
      simp only [hrem, if_true]
      have hdrop : obu.drop k = [] := List.isEmpty_iff.mp hrem
      have htake : obu.take k = obu := by
        have := List.take_append_drop k obu
        rwa [hdrop, List.append_nil] at this
      refine ⟨⟨?_, hzyH H hHz, by simp [headY, hHy, hby]⟩, hHT H rfl, ?_, T.length, [obu.take k], by simp,
        by simp [htake], ?_, by simp, by simpa using hblen1, by simp at hblen2; omega, ?_⟩
      · intro q hq
        rcases List.mem_cons.mp hq with rfl | hq
        · exact hpk
        · exact hbT q hq
      · intro q t hqt
        simp only [List.cons.injEq] at hqt
        rw [← hqt.1]
        exact hstat hdrop
      · rw [elemsRev_head_snoc p H T (obu.take k) false hHz (by rw [hHy, hby]) hby hb1.1 helems hbz, hbel]
        simp [chainFrom]
      · intro h; have := hbsn h; simp at this; omega
    · -- the rest continues in new packets: the packet at hand gets Y, the next one Z
      have hremne : obu.drop k ≠ [] := fun h => hrem (List.isEmpty_iff.mpr h)
      have hkne : (k != 0) = true := by simp; omega
      simp only [hrem, Bool.false_eq_true, if_false, hkne, if_true, setY_cons]
      obtain ⟨o1, os, o2, o3, o4⟩ := outInv_frags mtu isLast hm hs (obu.length + 1) (obu.drop k) true
        { H with y := true } T hfuel hremne (pkOK_setY H hpk) hbT (hzyH { H with y := true } hHz) rfl
        (hHT _ rfl)
      refine ⟨o1, os, o2, T.length,
        obu.take k :: fragPieces mtu isLast (obu.length + 1) (obu.drop k), by simp,
        by simp [hpf], ?_, by rw [o4, List.length_cons]; omega, by simpa using hblen1,
        by simp at hblen2; omega, ?_⟩
      · rw [o3, elemsRev_head_snoc p { H with y := true } T (obu.take k) true hHz rfl hby hb1.1 helems hbz,
          hbel, chainFrom_cons]
        simp [List.isEmpty_eq_false_iff.mpr (hpne hremne)]
      · intro h; have := hbsn h; simp at this; omega

end Rtp.Model.AV1
