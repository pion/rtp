/-
  Rtp/Proofs/Linearize.lean — the greedy linearizability check of Rtp/Pred/C07.lean is sound and
  complete for `Linearizable s H` (`linearizable_sound`, `linearizable_complete`; the equivalence is
  Rtp/Props/C07.lean's `c07_linearizable_iff`).
-/
import Rtp.Pred.C07
import Rtp.Proofs.SequencerConc
namespace Rtp.Proofs.Linearize
open Rtp Rtp.Model Rtp.Model.SeqConc Rtp.Spec.Counter Rtp.Pred.C07 Rtp.Proofs.SequencerConc

/-! ### `isLinearization` as a proposition, one call at a time -/

def Lin (s : SeqState) : List Call → Prop
  | [] => True
  | c :: L => c.before < c.after ∧ c.res = (s.step c.op).1 ∧ (∀ y ∈ L, c.before < y.after) ∧
              Lin (s.step c.op).2 L

theorem lin_iff_parts (s : SeqState) (L : List Call) :
    Lin s L ↔ (∀ c ∈ L, c.before < c.after) ∧ replayOk s L = true ∧
      L.Pairwise (fun a b => a.before < b.after) := by
  induction L generalizing s with
  | nil => simp [Lin, replayOk]
  | cons c L ih =>
    simp only [Lin, ih, List.mem_cons, forall_eq_or_imp, replayOk, Bool.and_eq_true, beq_iff_eq,
      List.pairwise_cons]
    constructor
    · rintro ⟨h1, h2, h3, h4, h5, h6⟩; exact ⟨⟨h1, h4⟩, ⟨h2, h5⟩, h3, h6⟩
    · rintro ⟨⟨h1, h4⟩, ⟨h2, h5⟩, h3, h6⟩; exact ⟨h1, h2, h3, h4, h5, h6⟩

theorem isLin_iff (s : SeqState) (L : List Call) : isLinearization s L = true ↔ Lin s L := by
  rw [lin_iff_parts]
  simp only [isLinearization, Bool.and_eq_true, List.all_eq_true, decide_eq_true_eq, rtOk_iff]
  constructor
  · rintro ⟨⟨h1, h2⟩, _, h4⟩; exact ⟨h1, h2, h4⟩
  · rintro ⟨h1, h2, h4⟩; exact ⟨⟨h1, h2⟩, fun c hc => by have := h1 c hc; omega, h4⟩

theorem lin_wf {s : SeqState} {L : List Call} (h : Lin s L) : ∀ c ∈ L, c.before < c.after :=
  ((lin_iff_parts s L).mp h).1

/-- state after replaying the calls of `A` -/
def after (s : SeqState) (A : List Call) : SeqState := s.exec (A.map (·.op))

theorem lin_append (s : SeqState) (A B : List Call) :
    Lin s (A ++ B) ↔ Lin s A ∧ Lin (after s A) B ∧ ∀ a ∈ A, ∀ b ∈ B, a.before < b.after := by
  induction A generalizing s with
  | nil => simp [Lin, after, SeqState.exec]
  | cons c A ih =>
    simp only [List.cons_append, Lin, ih, after, List.map_cons, SeqState.exec, List.mem_append,
      List.mem_cons, forall_eq_or_imp]
    constructor
    · rintro ⟨h1, h2, h3, h4, h5, h6⟩
      exact ⟨⟨h1, h2, fun y hy => h3 y (Or.inl hy), h4⟩, h5, fun b hb => h3 b (Or.inr hb), h6⟩
    · rintro ⟨⟨h1, h2, h3, h4⟩, h5, h6, h7⟩
      exact ⟨h1, h2, fun y hy => hy.elim (h3 y) (h6 y), h4, h5, h7⟩

/-- a `RollOverCount` read can be dropped from a linearization -/
theorem lin_erase_roc {s : SeqState} {A B : List Call} {c : Call} (hc : c.op = .roc)
    (h : Lin s (A ++ c :: B)) : Lin s (A ++ B) := by
  rw [lin_append] at h ⊢
  obtain ⟨h1, h2, h3⟩ := h
  refine ⟨h1, ?_, fun a ha b hb => h3 a ha b (List.mem_cons_of_mem _ hb)⟩
  simp only [Lin, hc] at h2
  exact h2.2.2.2

/-- a call can be replaced by one with the same operation and result that returns no earlier and
    was invoked before everything that follows returned -/
theorem lin_replace {s : SeqState} {A B : List Call} {c x : Call} (hop : x.op = c.op) (hres : x.res = c.res)
    (hwf : x.before < x.after) (hafter : c.after ≤ x.after) (hB : ∀ z ∈ B, x.before < z.after)
    (h : Lin s (A ++ c :: B)) : Lin s (A ++ x :: B) := by
  rw [lin_append] at h ⊢
  obtain ⟨h1, h2, h3⟩ := h
  refine ⟨h1, ?_, ?_⟩
  · simp only [Lin] at h2 ⊢
    rw [hop, hres]
    exact ⟨hwf, h2.2.1, hB, h2.2.2.2⟩
  · intro a ha b hb
    rcases List.mem_cons.mp hb with rfl | hb
    · have := h3 a ha c (List.mem_cons_self); omega
    · exact h3 a ha b (List.mem_cons_of_mem _ hb)

/-- by `before` ticket, as `findLin` sorts the history -/
def Sorted (R : List Call) : Prop := R.Pairwise (fun a b => a.before ≤ b.before)

theorem windowAux_lt (m : Nat) (cs : List Call) : ∀ c ∈ windowAux m cs, c.before < m := by
  induction cs generalizing m with
  | nil => simp [windowAux]
  | cons e cs ih =>
    intro c hc
    simp only [windowAux] at hc
    split at hc
    · rcases List.mem_cons.mp hc with rfl | hc
      · assumption
      · have := ih _ c hc; omega
    · cases hc

theorem windowAux_mem (m : Nat) (cs : List Call) : ∀ c ∈ windowAux m cs, c ∈ cs := by
  induction cs generalizing m with
  | nil => simp [windowAux]
  | cons e cs ih =>
    intro c hc
    simp only [windowAux] at hc
    split at hc
    · rcases List.mem_cons.mp hc with rfl | hc
      · exact List.mem_cons_self
      · exact List.mem_cons_of_mem _ (ih _ c hc)
    · cases hc

theorem window_mem (R : List Call) : ∀ c ∈ window R, c ∈ R := by
  cases R with
  | nil => simp [window]
  | cons c0 cs =>
    intro c hc
    simp only [window] at hc
    rcases List.mem_cons.mp hc with rfl | hc
    · exact List.mem_cons_self
    · exact List.mem_cons_of_mem _ (windowAux_mem _ _ c hc)

/-- everything in the window was invoked before anything remaining returned -/
theorem windowAux_placeable (m : Nat) (cs : List Call) (hs : Sorted cs) (hwf : ∀ c ∈ cs, c.before < c.after) :
    ∀ c ∈ windowAux m cs, ∀ d ∈ cs, c.before < d.after := by
  induction cs generalizing m with
  | nil => simp [windowAux]
  | cons e cs ih =>
    intro c hc d hd
    simp only [Sorted, List.pairwise_cons] at hs
    simp only [windowAux] at hc
    split at hc
    · rcases List.mem_cons.mp hc with rfl | hc
      · rcases List.mem_cons.mp hd with rfl | hd
        · exact hwf _ List.mem_cons_self
        · have := hs.1 d hd; have := hwf d (List.mem_cons_of_mem _ hd); omega
      · rcases List.mem_cons.mp hd with rfl | hd
        · have := windowAux_lt _ _ c hc; omega
        · exact ih _ hs.2 (fun c hc => hwf c (List.mem_cons_of_mem _ hc)) c hc d hd
    · cases hc

theorem window_placeable (R : List Call) (hs : Sorted R) (hwf : ∀ c ∈ R, c.before < c.after) :
    ∀ c ∈ window R, ∀ d ∈ R, c.before < d.after := by
  cases R with
  | nil => simp [window]
  | cons c0 cs =>
    intro c hc d hd
    simp only [Sorted, List.pairwise_cons] at hs
    simp only [window] at hc
    rcases List.mem_cons.mp hc with rfl | hc
    · rcases List.mem_cons.mp hd with rfl | hd
      · exact hwf _ List.mem_cons_self
      · have := hs.1 d hd; have := hwf d (List.mem_cons_of_mem _ hd); omega
    · rcases List.mem_cons.mp hd with rfl | hd
      · exact windowAux_lt _ _ c hc
      · exact windowAux_placeable _ cs hs.2 (fun c hc => hwf c (List.mem_cons_of_mem _ hc)) c hc d hd

/-- every placeable call is in the window -/
theorem windowAux_complete (m : Nat) (cs : List Call) (hs : Sorted cs) (x : Call) (hx : x ∈ cs)
    (hm : x.before < m) (hp : ∀ d ∈ cs, x.before < d.after) : x ∈ windowAux m cs := by
  induction cs generalizing m with
  | nil => cases hx
  | cons e cs ih =>
    simp only [Sorted, List.pairwise_cons] at hs
    simp only [windowAux]
    rcases List.mem_cons.mp hx with rfl | hx
    · simp [hm]
    · have h1 := hs.1 x hx
      have h2 : e.before < m := by omega
      simp only [h2, if_true]
      refine List.mem_cons_of_mem _ (ih _ hs.2 hx ?_ (fun d hd => hp d (List.mem_cons_of_mem _ hd)))
      have := hp e List.mem_cons_self
      omega

theorem window_complete (R : List Call) (hs : Sorted R) (x : Call) (hx : x ∈ R)
    (hp : ∀ d ∈ R, x.before < d.after) : x ∈ window R := by
  cases R with
  | nil => cases hx
  | cons c0 cs =>
    simp only [Sorted, List.pairwise_cons] at hs
    simp only [window]
    rcases List.mem_cons.mp hx with rfl | hx
    · exact List.mem_cons_self
    · exact List.mem_cons_of_mem _
        (windowAux_complete _ cs hs.2 x hx (hp c0 List.mem_cons_self) (fun d hd => hp d (List.mem_cons_of_mem _ hd)))

theorem pickMinAfter_none (l : List Call) (h : pickMinAfter l = none) : l = [] := by
  cases l with
  | nil => rfl
  | cons a l =>
    simp only [pickMinAfter] at h
    split at h
    · cases h
    · split at h <;> cases h

theorem pickMinAfter_some (l : List Call) (c : Call) (h : pickMinAfter l = some c) :
    c ∈ l ∧ ∀ d ∈ l, c.after ≤ d.after := by
  induction l generalizing c with
  | nil => cases h
  | cons e l ih =>
    simp only [pickMinAfter] at h
    split at h
    · rename_i hn
      cases h
      have := pickMinAfter_none l hn
      subst this
      simp
    · rename_i d hd
      obtain ⟨h1, h2⟩ := ih d hd
      split at h
      · cases h
        refine ⟨List.mem_cons_self, ?_⟩
        intro z hz
        rcases List.mem_cons.mp hz with rfl | hz
        · omega
        · have := h2 z hz; omega
      · cases h
        refine ⟨List.mem_cons_of_mem _ h1, ?_⟩
        intro z hz
        rcases List.mem_cons.mp hz with rfl | hz
        · omega
        · exact h2 z hz

/-- whatever the search returns is a permutation of what it was given -/
theorem greedy_perm (fuel : Nat) (s : SeqState) (R L : List Call) (h : greedy fuel s R = some L) :
    L.Perm R := by
  induction fuel generalizing s R L with
  | zero =>
    cases R with
    | nil => simp only [greedy, Option.some.injEq] at h; subst h; exact List.Perm.refl _
    | cons c0 R0 => simp [greedy] at h
  | succ fuel ih =>
    cases R with
    | nil => simp only [greedy, Option.some.injEq] at h; subst h; exact List.Perm.refl _
    | cons c0 R0 =>
      simp only [greedy] at h
      split at h
      · rename_i c hc
        have hmem : c ∈ c0 :: R0 := window_mem _ c (List.mem_of_find?_eq_some hc)
        simp only [Option.map_eq_some_iff] at h
        obtain ⟨L', hL', rfl⟩ := h
        exact ((ih _ _ _ hL').cons c).trans (List.perm_cons_erase hmem).symm
      · split at h
        · rename_i c hc
          have hmem : c ∈ c0 :: R0 :=
            window_mem _ c (List.mem_filter.mp (pickMinAfter_some _ _ hc).1).1
          simp only [Option.map_eq_some_iff] at h
          obtain ⟨L', hL', rfl⟩ := h
          exact ((ih _ _ _ hL').cons c).trans (List.perm_cons_erase hmem).symm
        · cases h

theorem sorted_erase {R : List Call} (h : Sorted R) (c : Call) : Sorted (R.erase c) :=
  List.Pairwise.sublist List.erase_sublist h

/-- **completeness**: if the remaining calls have a linearization from `s`, the search finds one.
    Exchange argument on a linearization `x :: T`: its first call `x` is in the window.  A
    `RollOverCount` read in the window that matches `s` can be moved to the front (it changes no state).
    Otherwise `x` is a matching `NextSequenceNumber` call, and the matching call with the least `after`
    ticket that the search picks can take `x`'s place, since `x` returns no earlier. -/
theorem greedy_complete (fuel : Nat) (s : SeqState) (R : List Call) (hfuel : R.length ≤ fuel)
    (hs : Sorted R) (hex : ∃ L, L.Perm R ∧ Lin s L) :
    ∃ L', greedy fuel s R = some L' ∧ Lin s L' := by
  induction fuel generalizing s R with
  | zero =>
    cases R with
    | nil => exact ⟨[], rfl, trivial⟩
    | cons c0 R0 => simp at hfuel
  | succ fuel ih =>
    cases R with
    | nil => exact ⟨[], rfl, trivial⟩
    | cons c0 R0 =>
      obtain ⟨L, hperm, hlin⟩ := hex
      have hwfR : ∀ c ∈ c0 :: R0, c.before < c.after := fun c hc => lin_wf hlin c (hperm.mem_iff.mpr hc)
      -- the linearization's first call is in the window and matches the state
      cases L with
      | nil => exact absurd hperm.length_eq (by simp)
      | cons x T =>
      have hxR : x ∈ c0 :: R0 := hperm.mem_iff.mp List.mem_cons_self
      have hxplace : ∀ d ∈ c0 :: R0, x.before < d.after := by
        intro d hd
        rcases List.mem_cons.mp (hperm.mem_iff.mpr hd) with rfl | hd
        · exact hlin.1
        · exact hlin.2.2.1 d hd
      have hxW : x ∈ window (c0 :: R0) := window_complete _ hs x hxR hxplace
      have hlen : ∀ c, c ∈ c0 :: R0 → ((c0 :: R0).erase c).length ≤ fuel := by
        intro c hc; rw [List.length_erase_of_mem hc]; simp at hfuel ⊢; omega
      simp only [greedy]
      split
      · -- a matching RollOverCount read in the window goes first
        rename_i c hc
        have hcW := List.mem_of_find?_eq_some hc
        have hcm := List.find?_some hc
        simp only [rocMatch, Bool.and_eq_true, beq_iff_eq] at hcm
        have hcR := window_mem _ c hcW
        have hcL : c ∈ x :: T := hperm.mem_iff.mpr hcR
        obtain ⟨A, B, _, hAB, herase⟩ := List.exists_erase_eq hcL
        have hlin' : Lin s (A ++ B) := lin_erase_roc hcm.1 (hAB ▸ hlin)
        obtain ⟨L'', hg, hl⟩ := ih s _ (hlen c hcR) (sorted_erase hs c)
          ⟨A ++ B, herase ▸ hperm.erase c, hlin'⟩
        refine ⟨c :: L'', by rw [hg]; rfl, ?_⟩
        refine ⟨hwfR c hcR, ?_, ?_, ?_⟩
        · rw [hcm.1]; exact hcm.2
        · intro y hy
          exact window_placeable _ hs hwfR c hcW y
            (List.mem_of_mem_erase ((greedy_perm _ _ _ _ hg).mem_iff.mp hy))
        · rw [hcm.1]; exact hl
      · -- no such read: the linearization starts with a NextSequenceNumber call
        rename_i hnone
        have hxnext : x.op = .next := by
          cases hop : x.op with
          | next => rfl
          | roc =>
            have := (List.find?_eq_none.mp hnone) x hxW
            have hres := hlin.2.1
            simp [rocMatch, hop, hres, SeqState.step, SeqState.rollOverCount] at this
        have hxm : nextMatch s x = true := by
          have hres := hlin.2.1
          simp only [hxnext, SeqState.step] at hres
          simp [nextMatch, hxnext, hres]
        have hxF : x ∈ (window (c0 :: R0)).filter (nextMatch s) := List.mem_filter.mpr ⟨hxW, hxm⟩
        split
        · rename_i c hc
          obtain ⟨hcF, hcmin⟩ := pickMinAfter_some _ _ hc
          have hcW := (List.mem_filter.mp hcF).1
          have hcm := (List.mem_filter.mp hcF).2
          simp only [nextMatch, Bool.and_eq_true, beq_iff_eq] at hcm hxm
          have hcR := window_mem _ c hcW
          have hcL : c ∈ x :: T := hperm.mem_iff.mpr hcR
          have hT : Lin s.next.2 T := by
            have := hlin.2.2.2; simp only [hxnext, SeqState.step] at this; exact this
          -- a linearization of the rest, from the state after one NextSequenceNumber
          have hex' : ∃ L3, L3.Perm ((c0 :: R0).erase c) ∧ Lin s.next.2 L3 := by
            by_cases hcx : c = x
            · subst hcx
              refine ⟨T, ?_, hT⟩
              have := hperm.erase c
              simpa using this
            · have hcT : c ∈ T := by
                rcases List.mem_cons.mp hcL with h | h
                · exact absurd h hcx
                · exact h
              obtain ⟨A, B, _, hAB, herase⟩ := List.exists_erase_eq hcT
              refine ⟨A ++ x :: B, ?_, ?_⟩
              · have h1 := hperm.erase c
                have h2 : (x :: T).erase c = x :: (A ++ B) := by
                  rw [List.erase_cons_tail (by simpa using fun h => hcx h.symm), herase]
                rw [h2] at h1
                exact List.perm_middle.trans h1
              · refine lin_replace (by rw [hxnext, hcm.1]) (by rw [hxm.2, hcm.2]) hlin.1 (hcmin x hxF) ?_ (hAB ▸ hT)
                intro z hz
                exact hlin.2.2.1 z (hAB ▸ List.mem_append_right _ (List.mem_cons_of_mem _ hz))
          obtain ⟨L'', hg, hl⟩ := ih s.next.2 _ (hlen c hcR) (sorted_erase hs c) hex'
          refine ⟨c :: L'', by rw [hg]; rfl, ?_⟩
          refine ⟨hwfR c hcR, ?_, ?_, ?_⟩
          · rw [hcm.1]; simp only [SeqState.step]; exact hcm.2
          · intro y hy
            exact window_placeable _ hs hwfR c hcW y
              (List.mem_of_mem_erase ((greedy_perm _ _ _ _ hg).mem_iff.mp hy))
          · rw [hcm.1]; simp only [SeqState.step]; exact hl
        · rename_i hn
          have := pickMinAfter_none _ hn
          rw [this] at hxF; cases hxF

theorem byBefore_sorted (H : List Call) : Sorted (H.mergeSort byBefore) := by
  have := List.pairwise_mergeSort (le := byBefore)
    (by intro a b c h1 h2; simp only [byBefore, decide_eq_true_eq] at *; omega)
    (by intro a b; simp only [byBefore, Bool.or_eq_true, decide_eq_true_eq]; omega) H
  exact this.imp (by intro a b h; simpa [byBefore] using h)

theorem findLin_eq (s : SeqState) (H : List Call) :
    findLin s H = greedy H.length s (H.mergeSort byBefore) := by
  simp [findLin, greedyTR_eq]

/-- immediate: `linearizable` re-checks `isLinearization` on what the search returns -/
theorem linearizable_sound (s : SeqState) (H : List Call) (h : linearizable s H = true) : Linearizable s H := by
  simp only [linearizable] at h
  split at h
  · rename_i L hL
    rw [findLin_eq] at hL
    exact ⟨L, (greedy_perm _ _ _ _ hL).trans (List.mergeSort_perm _ _), h⟩
  · cases h

theorem linearizable_complete (s : SeqState) (H : List Call) (h : Linearizable s H) : linearizable s H = true := by
  obtain ⟨L, hperm, hlin⟩ := h
  have hperm' : L.Perm (H.mergeSort byBefore) := hperm.trans (List.mergeSort_perm _ _).symm
  obtain ⟨L', hg, hl⟩ := greedy_complete H.length s (H.mergeSort byBefore)
    (by rw [(List.mergeSort_perm H byBefore).length_eq]; exact Nat.le_refl _)
    (byBefore_sorted H) ⟨L, hperm', (isLin_iff s L).mp hlin⟩
  simp only [linearizable, findLin_eq, hg]
  exact (isLin_iff s L').mpr hl

end Rtp.Proofs.Linearize
