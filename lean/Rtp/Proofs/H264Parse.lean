/-
  Rtp/Proofs/H264Parse.lean — the RFC 6184 parser of Spec/Rfc6184.lean inverts the encoder.
-/
import Rtp.Proofs.H264Decoder
namespace Rtp.Proofs.H264
open Rtp Rtp.Spec.Rfc6184

theorem parseStap_enc (ns : List Bytes) (h : ∀ n ∈ ns, n.length < 65536) :
    parseStap (encStapBody ns) = some ns := by
  induction ns with
  | nil => simp [encStapBody, parseStap]
  | cons n ns ih =>
    have hn := h n (by simp)
    have ih' := ih (fun m hm => h m (by simp [hm]))
    simp only [encStapBody, size16, List.cons_append, List.nil_append]
    rw [parseStap]
    simp only [size16_val n.length hn, List.length_append, List.drop_left, List.take_left]
    rw [if_neg (by omega), ih']

/-- the parser's state `some (ind, typ, acc)` is the FU-A unit being collected: its FU indicator,
    its type, the chunks so far; the unit's header is the indicator's F and NRI with that type -/
theorem parse_cont (ind : UInt8) (typ : Nat) (ht : typ < 32) (cs : List Bytes) (hc : cs ≠ [])
    (acc : List Bytes) (ps : List Bytes) :
    parseAux (some (ind, typ, acc)) (encFu ind typ false cs ++ ps) =
      (parseAux none ps).map (Item.fuA (mkHdr (hF ind) (hNri ind) typ) (acc ++ cs) :: ·) := by
  induction cs generalizing acc with
  | nil => exact absurd rfl hc
  | cons c cs ih =>
    cases cs with
    | nil =>
      simp [encFu, parseAux, hType_fuHdr _ _ _ ht, fuS_fuHdr _ _ _ ht, fuE_fuHdr _ _ _ ht,
        rbit_fuHdr _ _ _ ht]
    | cons c2 cs2 =>
      have := ih (by simp) (acc ++ [c])
      simp only [encFu, List.cons_append, parseAux, hType_fuHdr _ _ _ ht, fuS_fuHdr _ _ _ ht,
        fuE_fuHdr _ _ _ ht, rbit_fuHdr _ _ _ ht]
      simpa using this

theorem parse_item (it : Item) (hw : it.wf = true) (ps : List Bytes) :
    parseAux none (it.encode ++ ps) = (parseAux none ps).map (it :: ·) := by
  rcases item_wf_cases it hw with ⟨h, body, rfl, ht⟩ | ⟨sh, n, ns, rfl, ht, hl⟩ | ⟨h, c, c2, cs2, rfl, _⟩
  · simp [Item.encode, parseAux, ht]
  · simp [Item.encode, parseAux, ht, parseStap_enc _ hl]
  · have hi : hType (mkHdr (hF h) (hNri h) 28) = 28 := hType_mkHdr _ _ 28 (by decide)
    have ht := hType_lt h
    have hc := parse_cont (mkHdr (hF h) (hNri h) 28) (hType h) ht (c2 :: cs2) (by simp) [c] ps
    rw [mkHdr_retype h 28 (hType h) (by decide), mkHdr_eta] at hc
    simp only [Item.encode, encFu, List.cons_append, parseAux, hi, hType_fuHdr _ _ _ ht,
      fuS_fuHdr _ _ _ ht, fuE_fuHdr _ _ _ ht, rbit_fuHdr _ _ _ ht]
    simpa using hc

theorem parse_encode (plan : List Item) (hw : plan.all Item.wf = true) :
    parse (encode plan) = some plan := by
  have : ∀ ps, parseAux none (encode plan ++ ps) = (parseAux none ps).map (plan ++ ·) := by
    induction plan with
    | nil => intro ps; simp [encode]
    | cons it plan ih =>
      intro ps
      simp only [List.all_cons, Bool.and_eq_true] at hw
      simp only [encode, List.flatMap_cons, List.append_assoc]
      rw [parse_item it hw.1]
      have := ih hw.2 ps
      simp only [encode] at this
      rw [this]
      cases parseAux none ps <;> simp
  have h := this []
  simpa [parse, parseAux] using h

end Rtp.Proofs.H264
