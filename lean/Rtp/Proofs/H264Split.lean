/-
  Rtp/Proofs/H264Split.lean — the Annex-B splitter (`emitNalus`, Rtp/Model/AnnexB.lean) in the terms
  of Spec/Rfc6184.lean: it returns exactly the NAL units of a well-formed Annex-B stream, for 3- and
  4-byte start codes (c10_split); on ANY buffer no emitted unit contains a start code, so
  re-splitting an emitted unit returns it whole — what `Payload` relies on when the STAP-A does not
  fit the MTU and it hands the pending SPS/PPS to a nested `Payload` (DESIGN §7
  `c10_stapa_too_big_dropped`).
-/
import Rtp.Proofs.AnnexB
import Rtp.Model.H264
import Rtp.Spec.Rfc6184
namespace Rtp.Proofs.H264
open Rtp Rtp.Model Rtp.Model.H264 Rtp.Spec.Rfc6184

theorem hasSC_eq (l : Bytes) : hasSC l = (indexSC l).isSome := by
  fun_induction hasSC l with
  | case1 r => rw [indexSC_sc]; rfl
  | case2 a t hp ih => rw [indexSC_cons_of_not a t (fun r e => by cases e; exact hp r rfl rfl), Option.isSome_map, ih]
  | case3 => rfl

theorem indexSC_none_of_hasSC (l : Bytes) (h : hasSC l = false) : indexSC l = none := by
  rwa [hasSC_eq, Option.isSome_eq_false_iff, Option.isNone_iff_eq_none] at h

theorem hasSC_of_indexSC_none (l : Bytes) (h : indexSC l = none) : hasSC l = false := by
  rw [hasSC_eq, h]; rfl

/-- what the splitter needs of `nalWF`: non-empty, no start code inside, no trailing zero (header type
    and length play no part) -/
def nalOk (n : Bytes) : Prop := n ≠ [] ∧ hasSC n = false ∧ n.getLast? ≠ some 0

theorem nalOk_of_wf (n : Bytes) (h : nalWF n = true) : nalOk n := by
  cases n with
  | nil => simp [nalWF] at h
  | cons a t =>
    simp only [nalWF, Bool.and_eq_true, Bool.not_eq_true', bne_iff_ne, ne_eq] at h
    exact ⟨by simp, h.1.2, h.2⟩

theorem splitRest_units (n : Bytes) (hn : nalOk n) (r : List (Bool × Bytes))
    (hr : ∀ u ∈ r, nalOk u.2) :
    splitRest (n ++ annexB r) = n :: r.map (·.2) := by
  have hi := indexSC_none_of_hasSC n hn.2.1
  induction r generalizing n with
  | nil => rw [annexB, List.append_nil]; exact splitRest_none n hi
  | cons u r ih =>
    obtain ⟨four, n'⟩ := u
    have hn' : nalOk n' := hr (four, n') (List.mem_cons_self ..)
    have ih' := ih n' hn' (fun u hu => hr u (List.mem_cons_of_mem _ hu)) (indexSC_none_of_hasSC n' hn'.2.1)
    cases four with
    | false =>
      show splitRest (n ++ 0 :: 0 :: 1 :: (n' ++ annexB r)) = _
      rw [splitRest_unit3 n _ hi hn.2.2, ih']; rfl
    | true =>
      show splitRest (n ++ 0 :: 0 :: 0 :: 1 :: (n' ++ annexB r)) = _
      rw [splitRest_unit4 n _ hi hn.2.2, ih']; rfl

theorem emitNalus_annexB (units : List (Bool × Bytes)) (hne : units ≠ [])
    (h : ∀ u ∈ units, nalOk u.2) : emitNalus (annexB units) = units.map (·.2) := by
  match units, hne with
  | (four, n) :: r, _ =>
    have hs := splitRest_units n (h _ (List.mem_cons_self ..)) r (fun u hu => h u (List.mem_cons_of_mem _ hu))
    cases four with
    | false =>
      show emitNalus (0 :: 0 :: 1 :: (n ++ annexB r)) = _
      rw [emitNalus_sc3, hs]; rfl
    | true =>
      show emitNalus (0 :: 0 :: 0 :: 1 :: (n ++ annexB r)) = _
      rw [emitNalus_sc4, hs]; rfl

theorem emitNalus_bare (n : Bytes) (hn : nalOk n) : emitNalus n = [n] :=
  emitNalus_none n (indexSC_none_of_hasSC n hn.2.1)

theorem splitRest_noSC (rest : Bytes) : ∀ u ∈ splitRest rest, hasSC u = false := by
  induction rest using splitRest.induct with
  | case1 x h =>
    intro u hu
    rw [splitRest_none x h, List.mem_singleton] at hu
    rw [hu]; exact hasSC_of_indexSC_none x h
  | case2 x e h ih =>
    intro u hu
    rw [splitRest_some x e h] at hu
    rcases List.mem_cons.mp hu with rfl | hu
    · apply hasSC_of_indexSC_none
      split
      · exact indexSC_take x e _ h (Nat.sub_le e 1)
      · exact indexSC_take x e _ h (Nat.le_refl e)
    · exact ih u hu

theorem emitNalus_noSC (buf : Bytes) : ∀ u ∈ emitNalus buf, hasSC u = false := by
  unfold emitNalus
  cases h : indexSC buf with
  | none =>
    intro u hu
    rw [List.mem_singleton] at hu
    rw [hu]; exact hasSC_of_indexSC_none buf h
  | some s => exact splitRest_noSC _

/-- so handing an emitted unit to the nested `Payload` treats it as that one unit -/
theorem payloadNoStap_of_noSC (mtu : Nat) (s : Bytes) (h : hasSC s = false) :
    payloadNoStap mtu s = stepNoStap mtu s := by
  unfold payloadNoStap
  cases s with
  | nil => rfl
  | cons a t => simp [emitNalus_none _ (indexSC_none_of_hasSC _ h)]

end Rtp.Proofs.H264
