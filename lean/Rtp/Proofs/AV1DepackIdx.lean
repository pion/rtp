/-
  Rtp/Proofs/AV1DepackIdx.lean — the offset-based, slice-checked model of AV1Depacketizer.Unmarshal
  never fails a slice check and computes what the list-consuming model computes.
-/
import Rtp.Model.AV1DepackIdx
import Rtp.Proofs.Obu
import Rtp.Proofs.Leb128Go
import Rtp.Proofs.AV1Depack
import Rtp.Proofs.Lib.Lists
import Rtp.Proofs.Lib.Arith
namespace Rtp.Model.AV1
open Rtp Rtp.Model
open Rtp.Model.ObuLemmas

theorem sliceC_ok (l : Bytes) (a n : Nat) (h : a + n ≤ l.length) :
    sliceC l a (a + n) = some ((l.drop a).take n) := by
  unfold sliceC
  have : a ≤ a + n ∧ a + n ≤ l.length := ⟨by omega, h⟩
  simp only [this, and_self, if_true, Nat.add_sub_cancel_left]

theorem sliceC_rest (l : Bytes) (a : Nat) (h : a ≤ l.length) :
    sliceC l a (a + (l.length - a)) = some (l.drop a) := by
  rw [sliceC_ok l a _ (by omega), List.take_of_length_le (by simp)]

theorem fromC_ok (l : Bytes) (k : Nat) (h : k ≤ l.length) : fromC l k = some (l.drop k) := by
  simp [fromC, h]

/-- the slice `obuBuffer[obuHeader.Size():]` is always in range -/
theorem emitObuC_eq (obuBuf : Bytes) (len : Nat) : emitObuC obuBuf len = some (emitObu obuBuf len) := by
  unfold emitObuC emitObu
  cases hp : parseObuHeader obuBuf with
  | ok h =>
    simp only [fromC_ok obuBuf h.size (parse_size_le obuBuf h hp)]
    by_cases ht : (h.type == obuTemporalDelimiter || h.type == obuTileList) = true
    · simp only [ht, if_true]
    · simp only [ht, Bool.false_eq_true, if_false]
      by_cases hs : h.hasSize = true
      · simp only [hs, if_true]
        cases readLebGo (obuBuf.drop h.size) with
        | none => rfl
        | some vk =>
          obtain ⟨sz, k⟩ := vk
          dsimp only
          split <;> rfl
      · simp only [hs, Bool.false_eq_true, if_false]
  | err e => rfl
  | panic => rfl

/-! One iteration of the checked loop in the same two halves as `elemLoop` (AV1Depack.lean); the
    definitions repeat the text of `elemLoopC` in Rtp/Model/AV1DepackIdx.lean. -/

/-- the length-field part: `none` = a slice check failed, `some none` = error return -/
def lenOffC (payload : Bytes) (w idx offset : Nat) : Option (Option (Nat × Nat × Bool)) :=
  if w == 0 || !(w != 0 && idx + 1 == w) then
    match fromC payload offset with
    | none => none
    | some tail =>
      match readLebGo tail with
      | none => some none
      | some (v, k) =>
        some (some (v.toNat, offset + k,
          (w != 0 && idx + 1 == w) || (w == 0 && offset + k + v.toNat == payload.length)))
  else some (some (payload.length - offset, offset, w != 0 && idx + 1 == w))

def afterLenC (payload : Bytes) (w : Nat) (z y : Bool) (fuel idx : Nat) (buf acc : Bytes)
    (zeff : Bool) (len offset : Nat) (isLast : Bool) : Option (LoopEnd × Bytes) :=
  if offset + len > payload.length then some (.fail, buf) else
  if zeff && buf.isEmpty then
    if isLast then some (.done acc idx, buf)
    else elemLoopC payload w z y fuel (offset + len) (idx + 1) buf acc
  else
    match sliceC payload offset (offset + len) with
    | none => none
    | some elem =>
      if isLast && y then some (.done acc idx, if zeff then buf ++ elem else elem)
      else if (if zeff then buf ++ elem else elem).isEmpty then
        elemLoopC payload w z y fuel (offset + len) (idx + 1) (if zeff then [] else buf) acc
      else
        match emitObuC (if zeff then buf ++ elem else elem) len with
        | none => none
        | some none => some (.fail, if zeff then [] else buf)
        | some (some none) =>
          elemLoopC payload w z y fuel (offset + len) (idx + 1) (if zeff then [] else buf) acc
        | some (some (some bs)) =>
          if isLast then some (.done (acc ++ bs) idx, if zeff then [] else buf)
          else elemLoopC payload w z y fuel (offset + len) (idx + 1) (if zeff then [] else buf)
            (acc ++ bs)

theorem elemLoopC_succ (payload : Bytes) (w : Nat) (z y : Bool) (fuel offset idx : Nat)
    (buf acc : Bytes) (hlt : offset < payload.length) :
    elemLoopC payload w z y (fuel + 1) offset idx buf acc =
      match lenOffC payload w idx offset with
      | none => none
      | some none => some (.fail, buf)
      | some (some (len, off, isLast)) =>
        afterLenC payload w z y fuel idx buf acc (idx == 0 && z) len off isLast := by
  rw [elemLoopC]
  simp only [hlt, not_true_eq_false, if_false]
  rfl

theorem afterLenC_eq (payload : Bytes) (w : Nat) (z y : Bool) (f idx : Nat) (buf acc : Bytes)
    (zeff : Bool) (len off : Nat) (isLast : Bool)
    (ih : ∀ offset idx buf acc, offset ≤ payload.length →
      elemLoopC payload w z y f offset idx buf acc =
        some (elemLoop w z y f (payload.drop offset) idx buf acc))
    (hoff : off ≤ payload.length) :
    afterLenC payload w z y f idx buf acc zeff len off isLast =
      some (afterLen w z y f idx buf acc zeff len (payload.drop off) isLast) := by
  have hl : (payload.drop off).length = payload.length - off := List.length_drop
  unfold afterLenC afterLen
  by_cases hgt : off + len > payload.length
  · have : len > (payload.drop off).length := by omega
    simp only [hgt, if_true, this]
  · have hle : off + len ≤ payload.length := by omega
    have hng : ¬ len > (payload.drop off).length := by omega
    simp only [hgt, if_false, hng, List.drop_drop, sliceC_ok payload off len hle, emitObuC_eq,
      ih _ _ _ _ hle]
    simp only [apply_ite some]
    generalize emitObu (if zeff = true then buf ++ (payload.drop off).take len
      else (payload.drop off).take len) len = eo
    rcases eo with _ | _ | bs <;> simp only [apply_ite some]

theorem elemLoopC_eq (payload : Bytes) (w : Nat) (z y : Bool) (fuel offset idx : Nat) (buf acc : Bytes)
    (ho : offset ≤ payload.length) :
    elemLoopC payload w z y fuel offset idx buf acc =
      some (elemLoop w z y fuel (payload.drop offset) idx buf acc) := by
  induction fuel generalizing offset idx buf acc with
  | zero => simp [elemLoopC, elemLoop]
  | succ f ih =>
    by_cases hlt : offset < payload.length
    · rw [elemLoopC_succ _ _ _ _ _ _ _ _ _ hlt,
        elemLoop_succ _ _ _ _ _ _ _ _ (isEmpty_drop_of_lt payload offset hlt)]
      unfold lenOffC lenRestOf
      by_cases hw : (w == 0 || !(w != 0 && idx + 1 == w)) = true
      · simp only [hw, if_true, fromC_ok payload offset ho]
        cases hr : readLebGo (payload.drop offset) with
        | none => rfl
        | some vk =>
          obtain ⟨v, k⟩ := vk
          obtain ⟨_, hk⟩ := readLebGo_le_length _ v k hr
          rw [List.length_drop] at hk
          have hok : offset + k ≤ payload.length := by omega
          simp only [List.drop_drop, List.length_drop, beq_add_eq_beq_sub v.toNat hok]
          exact afterLenC_eq payload w z y f idx buf acc _ _ _ _ ih hok
      · simp only [hw, Bool.false_eq_true, if_false, List.length_drop]
        exact afterLenC_eq payload w z y f idx buf acc _ _ _ _ ih ho
    · have hoff : offset = payload.length := by omega
      subst hoff
      simp [elemLoopC, elemLoop]

theorem depUnmarshalC_eq (d : DSt) (payload : Bytes) :
    depUnmarshalC d payload = some (depUnmarshal d payload) := by
  unfold depUnmarshalC depUnmarshal
  match payload with
  | [] => simp
  | [b] => simp
  | b0 :: b1 :: rest =>
    have hlen : ¬ (b0 :: b1 :: rest).length ≤ 1 := by simp
    simp only [hlen, if_false]
    rw [elemLoopC_eq _ _ _ _ _ _ _ _ _ (Nat.le_add_left 1 (rest.length + 1))]
    simp only [List.drop_succ_cons, List.drop_zero, List.length_cons]
    generalize elemLoop ((b0 &&& 0x30) >>> 4).toNat (b0 &&& 0x80 != 0) (b0 &&& 0x40 != 0)
      (rest.length + 1 + 1) (b1 :: rest) 0 _ [] = r
    obtain ⟨e, b⟩ := r
    cases e with
    | fail => rfl
    | done out idx =>
      dsimp only
      split <;> rfl

/-- the checked model is the list-consuming model: no slice expression of Unmarshal can panic -/
theorem depUnmarshalX_eq (d : DSt) (payload : Bytes) : depUnmarshalX d payload = depUnmarshal d payload := by
  simp [depUnmarshalX, depUnmarshalC_eq]

end Rtp.Model.AV1
