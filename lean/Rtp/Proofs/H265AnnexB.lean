/-
  Rtp/Proofs/H265AnnexB.lean — `emitNalus` (codecs/h264_packet.go, modelled in Rtp/Model/AnnexB.lean)
  on the Annex-B framing the C14 generators and theorems use: units without an inner start code
  and without a trailing zero octet, each preceded by 00 00 01 or 00 00 00 01 (or a single raw unit).
-/
import Rtp.Proofs.AnnexB
import Rtp.Pred.C14
namespace Rtp.Model.H265
open Rtp Rtp.Model Rtp.Pred

/-! ### Annex-B: `emitNalus` recovers the units of a well-formed frame -/

theorem hasSC_eq (l : Bytes) : C14.hasSC l = (indexSC l).isSome := by
  fun_induction C14.hasSC l with
  | case1 r => rw [indexSC_sc]; rfl
  | case2 a t hp ih =>
    rw [indexSC_cons_of_not a t (fun r e => by cases e; exact hp r rfl rfl), Option.isSome_map, ih]
  | case3 => rfl

theorem indexSC_none (u : Bytes) (h : C14.hasSC u = false) : indexSC u = none := by
  rwa [hasSC_eq, Option.isSome_eq_false_iff, Option.isNone_iff_eq_none] at h

/-- units that Annex-B framing can carry, each preceded by a 3- or 4-byte start code -/
def scOK (r : List (Nat × Bytes)) : Prop :=
  ∀ u ∈ r, (u.1 = 3 ∨ u.1 = 4) ∧ C14.hasSC u.2 = false ∧ u.2.getLast? ≠ some 0

theorem splitRest_frame (u : Bytes) (hs : C14.hasSC u = false) (hl : u.getLast? ≠ some 0)
    (r : List (Nat × Bytes)) (hr : scOK r) :
    splitRest (u ++ C14.frameBytes r) = u :: r.map (·.2) := by
  have hi := indexSC_none u hs
  induction r generalizing u with
  | nil => rw [C14.frameBytes, List.map_nil, List.flatten_nil, List.append_nil]; exact splitRest_none u hi
  | cons p r ih =>
    obtain ⟨sc, u2⟩ := p
    obtain ⟨hsc, hs2, hl2⟩ := hr (sc, u2) (List.mem_cons_self ..)
    have ih2 := ih u2 hs2 hl2 (fun v hv => hr v (List.mem_cons_of_mem _ hv)) (indexSC_none u2 hs2)
    rcases hsc with rfl | rfl
    · show splitRest (u ++ 0 :: 0 :: 1 :: (u2 ++ C14.frameBytes r)) = _
      rw [splitRest_unit3 u _ hi hl, ih2]; rfl
    · show splitRest (u ++ 0 :: 0 :: 0 :: 1 :: (u2 ++ C14.frameBytes r)) = _
      rw [splitRest_unit4 u _ hi hl, ih2]; rfl

theorem nalWF_parts (u : Bytes) (h : C14.nalWF u = true) :
    3 ≤ u.length ∧ (Spec.Rfc7798.Hdr.ofNal u).f = false ∧ (Spec.Rfc7798.Hdr.ofNal u).type.toNat < 48 ∧
    C14.hasSC u = false ∧ u.getLast? ≠ some 0 := by
  simp only [C14.nalWF, Bool.and_eq_true, decide_eq_true_eq, Bool.not_eq_true', bne_iff_ne, ne_eq] at h
  obtain ⟨⟨⟨⟨h1, h2⟩, h3⟩, h4⟩, h5⟩ := h
  exact ⟨h1, h2, h3, h4, h5⟩

/-- `emitNalus` on the Annex-B framing of well-formed units returns exactly those units -/
theorem emitNalus_frame (frame : List (Nat × Bytes)) (h : C14.frameWF frame = true) :
    emitNalus (C14.frameBytes frame) = frame.map (·.2) := by
  simp only [C14.frameWF, Bool.and_eq_true, Bool.not_eq_true', List.isEmpty_eq_false_iff,
    List.all_eq_true, Bool.or_eq_true, beq_iff_eq] at h
  obtain ⟨hne, hall⟩ := h
  match frame, hne, hall with
  | (sc, u) :: rest, _, hall =>
    obtain ⟨hu, hsc⟩ := hall (sc, u) (by simp)
    obtain ⟨h3, _, _, hs, hl⟩ := nalWF_parts u hu
    have hrest : scOK rest := by
      intro v hv
      obtain ⟨hv1, hv2⟩ := hall v (by simp [hv])
      obtain ⟨w3, _, _, ws, wl⟩ := nalWF_parts v.2 hv1
      refine ⟨?_, ws, wl⟩
      rcases hv2 with (hv2 | hv2) | hv2
      · exact Or.inl hv2
      · exact Or.inr hv2
      · have : rest = [] := by
          have := hv2.2; simp only [List.length_cons] at this
          cases rest with
          | nil => rfl
          | cons _ _ => simp at this
        subst this; simp at hv
    have hsr := splitRest_frame u hs hl rest hrest
    rcases hsc with (rfl | rfl) | ⟨rfl, hlen1⟩
    · show emitNalus (0 :: 0 :: 1 :: (u ++ C14.frameBytes rest)) = _
      rw [emitNalus_sc3, hsr]; rfl
    · show emitNalus (0 :: 0 :: 0 :: 1 :: (u ++ C14.frameBytes rest)) = _
      rw [emitNalus_sc4, hsr]; rfl
    · match rest, hlen1 with
      | [], _ =>
        show emitNalus (u ++ []) = _
        rw [List.append_nil, emitNalus_none u (indexSC_none u hs)]; rfl

end Rtp.Model.H265
