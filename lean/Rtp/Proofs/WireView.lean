/-
  Rtp/Proofs/WireView.lean — the walks of the standalone block views of header_extension.go
  (Model/HeaderExt: oneByteIDs/oneByteGet/twoByteIDs/twoByteGet) on an encoded item list `body1/body2 items`
  under `Item.ok1/ok2`, pads anywhere, followed by a tail.
-/
import Rtp.Proofs.WireParse
import Rtp.Model.HeaderExt
namespace Rtp.Proofs.Wire
open Rtp Rtp.Model Rtp.Spec.Wire

theorem oneByteIDs_pads (k : Nat) : oneByteIDs (rep k 0) = [] := by
  induction k with
  | zero => simp [rep, oneByteIDs]
  | succ k ih =>
    simp only [rep, List.replicate_succ]
    rw [oneByteIDs]
    simpa [rep] using ih

theorem oneByteGet_pads (k : Nat) (q : UInt8) : oneByteGet (rep k 0) q = .ok none := by
  induction k with
  | zero => simp [rep, oneByteGet]
  | succ k ih =>
    simp only [rep, List.replicate_succ]
    rw [oneByteGet]
    simpa [rep] using ih

theorem oneByteIDs_stop (n : UInt8) (rest : Bytes) (k : Nat) (hn : n.toNat < 16) :
    oneByteIDs (stopBytes (some (n, rest)) ++ rep k 0) = [] := by
  obtain ⟨a, b⟩ := stop_facts n.toNat hn
  simp only [stopBytes, List.cons_append]
  rw [oneByteIDs]
  simp only [a, b, Bool.false_eq_true, ↓reduceIte, beq_self_eq_true]

/-- `GetIDs` of the one-byte view: the ids of the items, up to a tail in which the walk lists
    nothing (alignment pads, or a reserved id and what follows it) -/
theorem oneByteIDs_body (items : List Item) (tail : Bytes) (h : items.all Item.ok1 = true)
    (ht : oneByteIDs tail = []) :
    oneByteIDs (body1 items ++ tail) = (elems items).map (·.id) := by
  induction items with
  | nil => simpa [elems] using ht
  | cons it r ih =>
    simp only [List.all_cons, Bool.and_eq_true] at h
    obtain ⟨hit, hr⟩ := h
    cases it with
    | pad =>
      simp only [body1_pad, List.cons_append, elems]
      rw [oneByteIDs]
      simpa using ih hr
    | elem id d =>
      obtain ⟨fz, fa, h15, fb⟩ := ok1_hdr hit
      simp only [body1_elem, List.cons_append, List.append_assoc, elems]
      rw [oneByteIDs]
      simp only [fz, fa, fb, h15, Bool.false_eq_true, ↓reduceIte, List.drop_left, List.map_cons, ih hr]

/-- `Get` of the one-byte view: the first item with that id; when there is none the walk goes on
    into the tail (it does not stop at id 15) -/
theorem oneByteGet_body (items : List Item) (tail : Bytes) (q : UInt8) (h : items.all Item.ok1 = true) :
    oneByteGet (body1 items ++ tail) q =
      match (elems items).find? (·.id == q) with
      | some e => .ok (some e.payload)
      | none => oneByteGet tail q := by
  induction items with
  | nil => simp [elems]
  | cons it r ih =>
    simp only [List.all_cons, Bool.and_eq_true] at h
    obtain ⟨hit, hr⟩ := h
    cases it with
    | pad =>
      simp only [body1_pad, List.cons_append, elems]
      rw [oneByteGet]
      simpa using ih hr
    | elem id d =>
      obtain ⟨fz, fa, _, fb⟩ := ok1_hdr hit
      simp only [body1_elem, List.cons_append, List.append_assoc, elems]
      rw [oneByteGet]
      simp only [fz, fa, fb, Bool.false_eq_true, ↓reduceIte]
      by_cases hq : id == q
      · simp [hq]
      · simp only [hq, Bool.false_eq_true, ↓reduceIte, List.drop_left, ih hr, List.find?_cons]

theorem twoByteIDs_pads (k : Nat) : twoByteIDs (rep k 0) = .ok [] := by
  induction k with
  | zero => simp [rep, twoByteIDs]
  | succ k ih =>
    simp only [rep, List.replicate_succ]
    rw [twoByteIDs.eq_def]
    simpa [rep] using ih

theorem twoByteGet_pads (k : Nat) (q : UInt8) : twoByteGet (rep k 0) q = .ok none := by
  induction k with
  | zero => simp [rep, twoByteGet]
  | succ k ih =>
    simp only [rep, List.replicate_succ]
    rw [twoByteGet.eq_def]
    simpa [rep] using ih

theorem twoByteIDs_body (items : List Item) (k : Nat) (h : items.all Item.ok2 = true) :
    twoByteIDs (body2 items ++ rep k 0) = .ok ((elems items).map (·.id)) := by
  induction items with
  | nil => simpa [elems] using twoByteIDs_pads k
  | cons it r ih =>
    simp only [List.all_cons, Bool.and_eq_true] at h
    obtain ⟨hit, hr⟩ := h
    cases it with
    | pad =>
      simp only [body2_pad, List.cons_append, elems]
      rw [twoByteIDs.eq_def]
      simpa using ih hr
    | elem id d =>
      obtain ⟨hid', hl⟩ := ok2_hdr hit
      simp only [body2_elem, List.cons_append, List.append_assoc, elems]
      rw [twoByteIDs.eq_def]
      simp only [hid', Bool.false_eq_true, ↓reduceIte, hl, List.drop_left, ih hr, List.map_cons]

theorem twoByteGet_body (items : List Item) (k : Nat) (q : UInt8) (h : items.all Item.ok2 = true) :
    twoByteGet (body2 items ++ rep k 0) q = .ok (((elems items).find? (·.id == q)).map (·.payload)) := by
  induction items with
  | nil => simpa [elems] using twoByteGet_pads k q
  | cons it r ih =>
    simp only [List.all_cons, Bool.and_eq_true] at h
    obtain ⟨hit, hr⟩ := h
    cases it with
    | pad =>
      simp only [body2_pad, List.cons_append, elems]
      rw [twoByteGet.eq_def]
      simpa using ih hr
    | elem id d =>
      obtain ⟨hid', hl⟩ := ok2_hdr hit
      simp only [body2_elem, List.cons_append, List.append_assoc, elems]
      rw [twoByteGet.eq_def]
      simp only [hid', Bool.false_eq_true, ↓reduceIte, hl]
      by_cases hq : id == q
      · simp [hq]
      · simp only [hq, Bool.false_eq_true, ↓reduceIte, List.drop_left, ih hr, List.find?_cons]

end Rtp.Proofs.Wire
