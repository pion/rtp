/-
  Rtp/Proofs/Sequencer.lean — C07, one caller: the sequential model refines the abstract counter of
  Rtp/Spec/Counter.lean (`Rep`, `run_refines`, `exec_refines`), the counter hands out consecutive values
  (`counter_nextResults`), the predicate of `c07.run` holds of the counter's runs and of nothing else
  (`walk_spec`, `walk_unique`), and the first value each constructor issues (`first_fixed`, `first_random`).
-/
import Rtp.Model.Sequencer
import Rtp.Pred.C07
namespace Rtp.Proofs.Sequencer
open Rtp Rtp.Model Rtp.Spec.Counter Rtp.Pred.C07

/-- refinement relation: the two Go fields represent the extended count `n` -/
def Rep (n : Nat) (s : SeqState) : Prop :=
  s.seq.toNat = n % 65536 ∧ s.roc.toNat = n / 65536 % 2 ^ 64

theorem rep_init (s : SeqState) (h : s.roc = 0) : Rep s.seq.toNat s := by
  have := s.seq.toNat_lt
  refine ⟨(Nat.mod_eq_of_lt this).symm, ?_⟩
  rw [h, Nat.div_eq_of_lt this]; rfl

/-- the value 0 is issued exactly when the count of wrap-arounds goes up -/
theorem zeros_succ (n : Nat) :
    (if (n + 1) % 65536 == 0 then n / 65536 + 1 else n / 65536) = (n + 1) / 65536 := by
  by_cases h : (n + 1) % 65536 = 0
  · rw [if_pos (beq_iff_eq.mpr h)]; omega
  · rw [if_neg (mt beq_iff_eq.mp h)]; omega

theorem next_val (n : Nat) (s : SeqState) (h : Rep n s) : s.next.1.toNat = (n + 1) % 65536 := by
  show (s.seq + 1).toNat = _
  rw [UInt16.toNat_add, h.1]
  exact (Nat.add_mod n 1 65536).symm

theorem next_rep (n : Nat) (s : SeqState) (h : Rep n s) : Rep (n + 1) s.next.2 := by
  have hv := next_val n s h
  refine ⟨hv, ?_⟩
  show (if s.seq + 1 == 0 then s.roc + 1 else s.roc).toNat = _
  -- the Go test `seq == 0` is the counter's test `(n + 1) % 65536 = 0`
  have hz : (s.seq + 1 == 0) = ((n + 1) % 65536 == 0) := by
    rw [← hv, Bool.eq_iff_iff, beq_iff_eq, beq_iff_eq, ← UInt16.toNat_inj]; rfl
  rw [← zeros_succ, hz]
  split
  · rw [UInt64.toNat_add, h.2]; exact (Nat.add_mod _ 1 _).symm
  · exact h.2

theorem step_rep (n : Nat) (s : SeqState) (h : Rep n s) (op : Op) :
    (s.step op).1 = (Spec.Counter.step n op).1 ∧ Rep (Spec.Counter.step n op).2 (s.step op).2 := by
  cases op with
  | next => exact ⟨by simpa [SeqState.step, Spec.Counter.step, value] using next_val n s h,
                   by simpa [SeqState.step, Spec.Counter.step] using next_rep n s h⟩
  | roc => exact ⟨by simpa [SeqState.step, Spec.Counter.step, rollovers, SeqState.rollOverCount] using h.2,
                  by simpa [SeqState.step, Spec.Counter.step] using h⟩

/-- the Go sequencer, run sequentially, IS the abstract counter -/
theorem run_refines (n : Nat) (s : SeqState) (h : Rep n s) (ops : List Op) :
    s.run ops = Spec.Counter.run n ops := by
  induction ops generalizing n s with
  | nil => rfl
  | cons op ops ih =>
    obtain ⟨h1, h2⟩ := step_rep n s h op
    simp only [SeqState.run, Spec.Counter.run]
    rw [h1, ih _ _ h2]

theorem exec_refines (n : Nat) (s : SeqState) (h : Rep n s) (ops : List Op) :
    Rep (Spec.Counter.exec n ops) (s.exec ops) := by
  induction ops generalizing n s with
  | nil => exact h
  | cons op ops ih =>
    obtain ⟨_, h2⟩ := step_rep n s h op
    simp only [SeqState.exec, Spec.Counter.exec]
    exact ih _ _ h2

theorem exec_eq (n : Nat) (ops : List Op) : Spec.Counter.exec n ops = n + nexts ops := by
  induction ops generalizing n with
  | nil => rfl
  | cons op ops ih =>
    cases op <;> simp only [Spec.Counter.exec, Spec.Counter.step, nexts, ih] <;> omega

/-- no gaps, no duplicates: the k-th value handed out is `(n + 1 + k) mod 2^16` -/
theorem counter_nextResults (n : Nat) (ops : List Op) :
    nextResults ops (Spec.Counter.run n ops) = (List.range (nexts ops)).map (fun k => (n + 1 + k) % 65536) := by
  induction ops generalizing n with
  | nil => simp [nextResults, nexts]
  | cons op ops ih =>
    cases op with
    | next =>
      simp only [Spec.Counter.run, Spec.Counter.step, nextResults, nexts, ih, value, List.range_succ_eq_map,
        List.map_cons, List.map_map]
      congr 1
      apply List.map_congr_left
      intro k _
      simp only [Function.comp, Nat.succ_eq_add_one]
      congr 1; omega
    | roc => simp only [Spec.Counter.run, Spec.Counter.step, nextResults, nexts, ih]

theorem walk_next (st : Start) (last : Option Nat) (zeros : Nat) (ops : List Op) (v : Nat) (vs : List Nat) :
    walk st last zeros (.next :: ops) (v :: vs) =
      (decide (v < 65536) && (match last with | none => firstOk st v | some l => v == (l + 1) % 65536) &&
        walk st (some v) (if v == 0 then zeros + 1 else zeros) ops vs) := rfl

theorem walk_roc (st : Start) (last : Option Nat) (zeros : Nat) (ops : List Op) (r : Nat) (vs : List Nat) :
    walk st last zeros (.roc :: ops) (r :: vs) = (r == zeros % 2 ^ 64 && walk st last zeros ops vs) := rfl

/-- the predicate of `c07.run` holds of every run of the abstract counter.  `hz`, `hl` are the loop
    invariant of `Pred.C07.walk` at count `n`: `zeros` is the number of wrap-arounds so far, `last` the
    value issued last (or, before any, the first value is one the start allows) -/
theorem walk_spec (st : Start) (n : Nat) (last : Option Nat) (zeros : Nat) (ops : List Op)
    (hz : zeros = n / 65536)
    (hl : last = some (n % 65536) ∨ (last = none ∧ firstOk st ((n + 1) % 65536) = true)) :
    walk st last zeros ops (Spec.Counter.run n ops) = true := by
  induction ops generalizing n last zeros with
  | nil => rfl
  | cons op ops ih =>
    subst hz
    cases op with
    | next =>
      show walk st last _ (.next :: ops) ((n + 1) % 65536 :: Spec.Counter.run (n + 1) ops) = true
      rw [walk_next, ih (n + 1) _ _ (zeros_succ n) (.inl rfl), Bool.and_true, Bool.and_eq_true, decide_eq_true_eq]
      refine ⟨Nat.mod_lt _ (by decide), ?_⟩
      rcases hl with rfl | ⟨rfl, hf⟩
      · exact beq_iff_eq.mpr (Nat.add_mod n 1 65536)
      · exact hf
    | roc =>
      show walk st last _ (.roc :: ops) (n / 65536 % 2 ^ 64 :: Spec.Counter.run n ops) = true
      rw [walk_roc, ih n last _ rfl hl, beq_self_eq_true]; rfl

/-- conversely, the predicate pins the run down: when `firstOk` admits a single first value, an
    observation that satisfies it IS the abstract counter's run -/
theorem walk_unique (st : Start) (n : Nat) (last : Option Nat) (zeros : Nat) (ops : List Op) (obs : List Nat)
    (hz : zeros = n / 65536)
    (hl : last = some (n % 65536) ∨ (last = none ∧ ∀ v, firstOk st v = true → v = (n + 1) % 65536))
    (h : walk st last zeros ops obs = true) : obs = Spec.Counter.run n ops := by
  induction ops generalizing n last zeros obs with
  | nil =>
    cases obs with
    | nil => rfl
    | cons v vs => cases h
  | cons op ops ih =>
    subst hz
    cases obs with
    | nil => cases op <;> cases h
    | cons v vs =>
      cases op with
      | next =>
        rw [walk_next, Bool.and_eq_true, Bool.and_eq_true] at h
        obtain ⟨⟨_, hfirst⟩, hrest⟩ := h
        have hv : v = (n + 1) % 65536 := by
          rcases hl with rfl | ⟨rfl, hf⟩
          · exact (beq_iff_eq.mp hfirst).trans (Nat.add_mod n 1 65536).symm
          · exact hf v hfirst
        subst hv
        show _ = (n + 1) % 65536 :: Spec.Counter.run (n + 1) ops
        rw [← ih (n + 1) _ _ vs (zeros_succ n) (.inl rfl) hrest]
      | roc =>
        rw [walk_roc, Bool.and_eq_true, beq_iff_eq] at h
        show _ = n / 65536 % 2 ^ 64 :: Spec.Counter.run n ops
        rw [h.1, ← ih n last _ vs rfl hl h.2]

/-- the first value issued: the start value for `NewFixedSequencer`, the random draw + 1 otherwise -/
theorem first_fixed (s : UInt16) : ((SeqState.newFixed s).seq.toNat + 1) % 65536 = s.toNat := by
  have := s.toNat_lt
  simp only [SeqState.newFixed, UInt16.toNat_sub]
  simp; omega

theorem first_random (r : Nat) (h : r < SeqState.maxInitialRandom) :
    ((SeqState.newRandom r).seq.toNat + 1) % 65536 = r + 1 := by
  simp only [SeqState.maxInitialRandom] at h
  simp only [SeqState.newRandom]
  simp; omega

/-- both constructors start with roll-over count 0: the state represents the count `seq` -/
theorem start_rep (st : Start) : Rep st.state.seq.toNat st.state :=
  rep_init _ (by cases st <;> rfl)

/-- skipping ahead on the abstract counter: after `k` issues the run continues from count `n + k` -/
theorem counter_run_skip (n k : Nat) (ops : List Op) :
    (Spec.Counter.run n (List.replicate k .next ++ ops)).drop k = Spec.Counter.run (n + k) ops := by
  induction k generalizing n with
  | zero => simp
  | succ k ih =>
    simp only [List.replicate_succ, List.cons_append, Spec.Counter.run, List.drop_succ_cons]
    have : (Spec.Counter.step n .next).2 = n + 1 := rfl
    rw [this, ih (n + 1)]
    congr 1; omega

end Rtp.Proofs.Sequencer
