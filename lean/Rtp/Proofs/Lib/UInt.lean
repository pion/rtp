/-
  Rtp/Proofs/Lib/UInt.lean — casts between `Nat` and the machine integers, in the one normal
  form `toNat … = … % 2^w` (numerals, no side condition; `omega` discharges the `%` when the value is small).
-/
namespace Rtp

@[simp] theorem toNat_toUInt8 (n : Nat) : n.toUInt8.toNat = n % 256 := UInt8.toNat_ofNat'
@[simp] theorem toNat_toUInt16 (n : Nat) : n.toUInt16.toNat = n % 65536 := UInt16.toNat_ofNat'
@[simp] theorem toNat_toUInt32 (n : Nat) : n.toUInt32.toNat = n % 4294967296 := UInt32.toNat_ofNat'
@[simp] theorem toNat_toUInt64 (n : Nat) : n.toUInt64.toNat = n % 18446744073709551616 := UInt64.toNat_ofNat'

theorem toNat_toUInt8_of_lt {n : Nat} (h : n < 256) : n.toUInt8.toNat = n :=
  (toNat_toUInt8 n).trans (Nat.mod_eq_of_lt h)
theorem toNat_toUInt16_of_lt {n : Nat} (h : n < 65536) : n.toUInt16.toNat = n :=
  (toNat_toUInt16 n).trans (Nat.mod_eq_of_lt h)
theorem toNat_toUInt32_of_lt {n : Nat} (h : n < 4294967296) : n.toUInt32.toNat = n :=
  (toNat_toUInt32 n).trans (Nat.mod_eq_of_lt h)
theorem toNat_toUInt64_of_lt {n : Nat} (h : n < 18446744073709551616) : n.toUInt64.toNat = n :=
  (toNat_toUInt64 n).trans (Nat.mod_eq_of_lt h)

/-- `x = n.toUInt8` is decided on `Nat` -/
theorem eq_toUInt8_iff (x : UInt8) (n : Nat) : x = n.toUInt8 ↔ x.toNat = n % 256 := by
  rw [← UInt8.toNat_inj, toNat_toUInt8]
theorem eq_toUInt16_iff (x : UInt16) (n : Nat) : x = n.toUInt16 ↔ x.toNat = n % 65536 := by
  rw [← UInt16.toNat_inj, toNat_toUInt16]
theorem toUInt8_eq_iff (a b : Nat) : a.toUInt8 = b.toUInt8 ↔ a % 256 = b % 256 := by
  rw [← UInt8.toNat_inj, toNat_toUInt8, toNat_toUInt8]
theorem toUInt16_eq_iff (a b : Nat) : a.toUInt16 = b.toUInt16 ↔ a % 65536 = b % 65536 := by
  rw [← UInt16.toNat_inj, toNat_toUInt16, toNat_toUInt16]

/-- the spec-side encoders write `(e % 256).toUInt8`; the `% 256` is redundant -/
@[simp] theorem toUInt8_mod (n : Nat) : (n % 256).toUInt8 = n.toUInt8 := UInt8.ofNat_mod_size
@[simp] theorem toUInt16_mod (n : Nat) : (n % 65536).toUInt16 = n.toUInt16 := UInt16.ofNat_mod_size

@[simp] theorem toUInt8_toNat (x : UInt8) : x.toNat.toUInt8 = x := UInt8.ofNat_toNat
@[simp] theorem toUInt16_toNat (x : UInt16) : x.toNat.toUInt16 = x := UInt16.ofNat_toNat
theorem toUInt64_mod (n : Nat) : (n % 2 ^ 64).toUInt64 = n.toUInt64 := UInt64.ofNat_mod_size
theorem toUInt64_toNat (x : UInt64) : x.toNat.toUInt64 = x := UInt64.ofNat_toNat

theorem u16_toUInt8_toNat (x : UInt16) : x.toUInt8.toNat = x.toNat % 256 := UInt16.toNat_toUInt8 x
theorem u32_toUInt8_toNat (x : UInt32) : x.toUInt8.toNat = x.toNat % 256 := UInt32.toNat_toUInt8 x
theorem u64_toUInt8_toNat (x : UInt64) : x.toUInt8.toNat = x.toNat % 256 := UInt64.toNat_toUInt8 x

/-! ### `(x >>> s).toUInt8`, the byte at bit offset `s` (`s` a numeral: `s.toNat` reduces by `rfl`) -/

theorem u16_shr_toUInt8_toNat (x s : UInt16) (j : Nat) (hs : s.toNat % 16 = j) :
    (x >>> s).toUInt8.toNat = x.toNat / 2 ^ j % 256 := by
  rw [UInt16.toNat_toUInt8, UInt16.toNat_shiftRight, hs, Nat.shiftRight_eq_div_pow]
theorem u32_shr_toUInt8_toNat (x s : UInt32) (j : Nat) (hs : s.toNat % 32 = j) :
    (x >>> s).toUInt8.toNat = x.toNat / 2 ^ j % 256 := by
  rw [UInt32.toNat_toUInt8, UInt32.toNat_shiftRight, hs, Nat.shiftRight_eq_div_pow]
theorem u64_shr_toUInt8_toNat (x s : UInt64) (j : Nat) (hs : s.toNat % 64 = j) :
    (x >>> s).toUInt8.toNat = x.toNat / 2 ^ j % 256 := by
  rw [UInt64.toNat_toUInt8, UInt64.toNat_shiftRight, hs, Nat.shiftRight_eq_div_pow]

theorem u8_and_le (x m : UInt8) : (x &&& m).toNat ≤ m.toNat := by
  rw [UInt8.toNat_and]; exact Nat.and_le_right

theorem mod_lt_256 (n : Nat) {k : Nat} (h0 : 0 < k) (hk : k ≤ 256) : n % k < 256 :=
  Nat.lt_of_lt_of_le (Nat.mod_lt n h0) hk

theorem eq_toUInt8_mod {x : UInt8} {n k : Nat} (h0 : 0 < k) (hk : k ≤ 256) (h : x.toNat = n % k) :
    x = (n % k).toUInt8 := by
  rw [eq_toUInt8_iff, Nat.mod_eq_of_lt (mod_lt_256 n h0 hk)]; exact h

theorem toUInt8_beq_of_lt {a b : Nat} (ha : a < 256) (hb : b < 256) :
    (a.toUInt8 == b.toUInt8) = (a == b) := by
  rw [Bool.eq_iff_iff, beq_iff_eq, beq_iff_eq, toUInt8_eq_iff, Nat.mod_eq_of_lt ha, Nat.mod_eq_of_lt hb]

theorem u16_toNat_le (x : UInt16) : x.toNat ≤ 65535 := Nat.le_of_lt_succ x.toNat_lt

theorem toNat_pos_of_ne_zero {x : UInt16} (h : x ≠ 0) : 0 < x.toNat :=
  Nat.pos_of_ne_zero fun h0 => h (UInt16.toNat_inj.mp h0)

theorem toUInt16_succ (n : Nat) : (n + 1).toUInt16 = n.toUInt16 + 1 := by
  simp [Nat.toUInt16, UInt16.ofNat_add]

theorem seq_succ_add (e : UInt16) (n : Nat) : e + 1 + n.toUInt16 = e + (n + 1).toUInt16 := by
  rw [toUInt16_succ, UInt16.add_assoc, UInt16.add_comm 1]

end Rtp
