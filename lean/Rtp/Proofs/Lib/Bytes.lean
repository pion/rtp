/-
  Rtp/Proofs/Lib/Bytes.lean — lemmas of `rep`, `slice`, `writeAt` (Rtp/Go/Prim.lean) for the shapes the
  marshalling proofs meet.  Buffers are kept in right-nested form `a ++ (x ++ b)` (simp's normal form for `++`).
-/
import Rtp.Go.Prim
namespace Rtp

@[simp] theorem rep_length (n : Nat) (b : UInt8) : (rep n b).length = n := List.length_replicate
@[simp] theorem rep_zero (b : UInt8) : rep 0 b = [] := rfl
theorem rep_succ (n : Nat) (b : UInt8) : rep (n + 1) b = b :: rep n b := rfl
theorem rep_add (m n : Nat) (b : UInt8) : rep (m + n) b = rep m b ++ rep n b :=
  List.replicate_append_replicate.symm
@[simp] theorem drop_rep (n k : Nat) (b : UInt8) : (rep n b).drop k = rep (n - k) b := List.drop_replicate

/-- a slice inside a known segment: `buf = … ++ l ++ tail` from `off` on -/
theorem slice_of_drop_eq {buf l tail : Bytes} {off : Nat} (k : Nat) (h : buf.drop off = l ++ tail)
    (hk : k ≤ l.length) : slice buf off (off + k) = l.take k := by
  rw [slice, h, Nat.add_sub_cancel_left, List.take_append_of_le_length hk]
theorem drop_add_of_drop_eq {buf l tail : Bytes} {off : Nat} (k : Nat) (h : buf.drop off = l ++ tail)
    (hk : k ≤ l.length) : buf.drop (off + k) = l.drop k ++ tail := by
  rw [← List.drop_drop, h, List.drop_append_of_le_length hk]

@[simp] theorem writeAt_length (dst : Bytes) (off : Nat) (src : Bytes) : (writeAt dst off src).length = dst.length := by
  simp only [writeAt, List.length_append, List.length_take, List.length_drop]; omega

@[simp] theorem writeAt_nil (dst : Bytes) (off : Nat) : writeAt dst off [] = dst := by
  simp only [writeAt, List.take_nil, List.append_nil, List.length_nil, Nat.add_zero, List.take_append_drop]

/-- the one shape every `copy(dst[off:], src)` of the model has: `src` replaces a stretch of its own length -/
theorem writeAt_mid (a x b y : Bytes) (n : Nat) (hn : n = a.length) (h : y.length = x.length) :
    writeAt (a ++ (x ++ b)) n y = a ++ (y ++ b) := by
  subst hn
  rw [writeAt, List.take_left, List.length_append, Nat.add_sub_cancel_left, List.take_of_length_le
    (by rw [List.length_append, h]; exact Nat.le_add_right _ _), h, ← List.length_append, ← List.append_assoc,
    List.drop_left, List.append_assoc]

/-- a write behind a prefix leaves the prefix alone -/
theorem writeAt_append_right (a b src : Bytes) (n k : Nat) (hn : n = a.length + k) :
    writeAt (a ++ b) n src = a ++ writeAt b k src := by
  subst hn
  simp only [writeAt, List.length_append, List.take_append, List.take_of_length_le (Nat.le_add_right _ _),
    Nat.add_sub_cancel_left, List.append_assoc, Nat.add_sub_add_left, Nat.add_assoc,
    List.drop_append, List.drop_of_length_le (Nat.le_add_right _ _), List.nil_append]

/-- a write at the front -/
theorem writeAt_zero (dst src : Bytes) (h : src.length ≤ dst.length) :
    writeAt dst 0 src = src ++ dst.drop src.length := by
  rw [writeAt, List.take_zero, List.nil_append, Nat.sub_zero, List.take_of_length_le h, Nat.zero_add]

/-- a write behind a prefix, over the front of the rest -/
theorem writeAt_at (pre rest src : Bytes) (n : Nat) (hn : n = pre.length) (h : src.length ≤ rest.length) :
    writeAt (pre ++ rest) n src = pre ++ (src ++ rest.drop src.length) := by
  rw [writeAt_append_right pre rest src n 0 hn, writeAt_zero rest src h]

end Rtp
