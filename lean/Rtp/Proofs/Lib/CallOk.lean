/-
  Rtp/Proofs/Lib/CallOk.lean — what C08 and C09 ask of one call, from the facts a payloader or a
  depacketizer proof ends with.
-/
import Rtp.Pred.C08
import Rtp.Pred.C09
namespace Rtp.Pred
open Rtp

theorem C08.callOk_frags (m : UInt16) (i : Option Bytes) (frags : List Bytes)
    (h : ∀ f ∈ frags, f.length ≤ m.toNat ∧ f ≠ []) : C08.callOk false m i (PayObs.ofFrags frags) = true := by
  simp only [C08.callOk, PayObs.ofFrags, PayObs.owned, Bool.not_false, Bool.true_and, Bool.and_true,
    Bool.false_or, Bool.and_eq_true, List.all_eq_true, decide_eq_true_eq, Bool.or_eq_true,
    Bool.not_eq_true', List.isEmpty_eq_false_iff]
  exact ⟨fun f hf => (h f hf).1, Or.inr fun f hf => (h f hf).2⟩

/-- a decoder that never panics and whose outcome (on success also its receiver) is that of a fresh receiver -/
theorem C09.callOk_dep {M : Type} [DecidableEq M] (rp rq : Res Bytes × M) (a b c : Bool) (hn : rp.1 ≠ .panic)
    (hr : rp.1 = rq.1 ∧ (rp.1.isOk = true → rp.2 = rq.2)) :
    C09.callOk true
      { res := rp.1.coarse, md := rp.2, head := a, tail0 := b, tail1 := c, auxPanic := false,
        freshSame := rp.1.coarse == rq.1.coarse && (!rp.1.isOk || rp.2 == rq.2), twinSame := true } = true := by
  obtain ⟨r1, p1⟩ := rp
  obtain ⟨r2, p2⟩ := rq
  obtain ⟨h1, h2⟩ := hr
  cases h1
  cases r1 with
  | panic => exact absurd rfl hn
  | err e => simp [C09.callOk, Res.coarse, Res.isPanic, Res.isOk]
  | ok b => have : p1 = p2 := h2 rfl
            simp [C09.callOk, Res.coarse, Res.isPanic, Res.isOk, this]

end Rtp.Pred
