/-
  Rtp/Proofs/Lib/Arith.lean — quotient and remainder of numbers given by their digits (`q * m + r`, `r < m`),
  and of scaled numbers; stated over variables, proved without `omega` (which is slow on `/` and `%`
  by large literals).
-/
namespace Rtp

theorem digit_lt {d x m b : Nat} (hd : d < b) (hx : x < m) : d * m + x < b * m :=
  calc d * m + x < d * m + m := Nat.add_lt_add_left hx _
    _ = (d + 1) * m := (Nat.succ_mul d m).symm
    _ ≤ b * m := Nat.mul_le_mul_right _ hd

/-- a number given as `q * m + r` with `r < m`: its quotient and remainder (`omega` finds them too, but slowly) -/
theorem div_mod_of_eq {n m q r : Nat} (h : n = q * m + r) (hr : r < m) : n / m = q ∧ n % m = r := by
  subst h
  have hm : 0 < m := Nat.lt_of_le_of_lt (Nat.zero_le r) hr
  exact ⟨by rw [Nat.add_comm, Nat.add_mul_div_right _ _ hm, Nat.div_eq_of_lt hr, Nat.zero_add],
    by rw [Nat.add_comm, Nat.add_mul_mod_self_right, Nat.mod_eq_of_lt hr]⟩

theorem two_digits {x y m : Nat} (hx : x < m) (hy : y < m) : (x * m + y) / m % m = x ∧ (x * m + y) % m = y := by
  obtain ⟨hq, hr⟩ := div_mod_of_eq (rfl : x * m + y = x * m + y) hy
  exact ⟨by rw [hq, Nat.mod_eq_of_lt hx], hr⟩

theorem div_bounds (a d : Nat) (hd : 0 < d) : d * (a / d) ≤ a ∧ a < d * (a / d) + d := by
  constructor
  · exact Nat.mul_div_le a d
  · have := Nat.lt_mul_div_succ a hd; rw [Nat.mul_add, Nat.mul_one] at this; exact this

/-- dividing `q·d + r` scaled by `c`: the quotient splits exactly -/
theorem scaled_div (u c d : Nat) (hd : 0 < d) : u * c / d = u / d * c + u % d * c / d := by
  conv => lhs; rw [← Nat.div_add_mod u d]
  rw [Nat.add_mul, Nat.mul_assoc, Nat.mul_add_div hd]

theorem beq_add_eq_beq_sub {a n : Nat} (v : Nat) (h : a ≤ n) : (a + v == n) = (v == n - a) := by
  rw [Bool.eq_iff_iff, beq_iff_eq, beq_iff_eq]
  omega

end Rtp
