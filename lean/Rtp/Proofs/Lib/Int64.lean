/-
  Rtp/Proofs/Lib/Int64.lean — Go's `int64(u)` / `uint64(i)` conversions: the value of an `Int64` from the
  `Nat` value of its bits, and the ranges on which the conversions change nothing.
-/
namespace Rtp

theorem int64_toInt (x : Int64) :
    x.toInt = if x.toUInt64.toNat < 9223372036854775808 then (x.toUInt64.toNat : Int)
      else (x.toUInt64.toNat : Int) - 18446744073709551616 := by
  rw [← Int64.toInt_toBitVec, BitVec.toInt_eq_toNat_cond, Int64.toNat_toBitVec]
  have hc : (2 * x.toUInt64.toNat < 2 ^ 64) ↔ (x.toUInt64.toNat < 9223372036854775808) := by omega
  simp only [hc]
  rfl

theorem toNat_of_nonneg (x : Int64) (h : 0 ≤ x.toInt) : x.toUInt64.toNat = x.toInt.toNat := by
  have := int64_toInt x
  have h' := x.toUInt64.toNat_lt
  split at this <;> omega

theorem toInt_of_toNat (x : Int64) (n : Nat) (h : x.toUInt64.toNat = n) (hn : n < 9223372036854775808) :
    x.toInt = n := by
  rw [int64_toInt, h, if_pos hn]

theorem toInt_toInt64 (u : UInt64) (n : Nat) (h : u.toNat = n) (hn : n < 9223372036854775808) :
    u.toInt64.toInt = n :=
  toInt_of_toNat _ n (by rw [UInt64.toUInt64_toInt64, h]) hn

end Rtp
