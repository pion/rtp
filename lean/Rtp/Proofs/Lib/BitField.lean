/-
  Rtp/Proofs/Lib/BitField.lean — the shapes in which the Go code reads and writes bit fields,
  on `UInt8`, `UInt16` and (the shapes that occur) `UInt32` / `UInt64`, as div / mod on `toNat`.
  Shift amounts and masks are numerals at the call sites; their side conditions (`s.toNat % 8 = j`, `m.toNat + 1 = 2 ^ k`, …) are closed by `rfl`.
-/
import Rtp.Proofs.Lib.Bits
import Rtp.Proofs.Lib.UInt
namespace Rtp
open Rtp.Bits

/-- `b & m`, `m = 2^k - 1` -/
theorem u8_and_mask (x m : UInt8) (k : Nat) (hm : m.toNat + 1 = 2 ^ k) : (x &&& m).toNat = x.toNat % 2 ^ k := by
  rw [UInt8.toNat_and, nat_and_mask_numeral hm, hm]

/-- `b >> j` -/
theorem u8_shr (x s : UInt8) (j : Nat) (hs : s.toNat % 8 = j) : (x >>> s).toNat = x.toNat / 2 ^ j := by
  rw [UInt8.toNat_shiftRight, hs, Nat.shiftRight_eq_div_pow]

/-- `(b >> j) & m` -/
theorem u8_shr_and (x s m : UInt8) (j k : Nat) (hs : s.toNat % 8 = j) (hm : m.toNat + 1 = 2 ^ k) :
    ((x >>> s) &&& m).toNat = x.toNat / 2 ^ j % 2 ^ k := by
  rw [u8_and_mask _ m k hm, u8_shr x s j hs]

/-- `(b & (m << j)) >> j` -/
theorem u8_and_shr (x M s : UInt8) (j k : Nat) (hs : s.toNat % 8 = j) (hM : M.toNat = (2 ^ k - 1) <<< j) :
    ((x &&& M) >>> s).toNat = x.toNat / 2 ^ j % 2 ^ k := by
  rw [u8_shr _ s j hs, UInt8.toNat_and, hM, ← Nat.shiftRight_eq_div_pow, nat_and_shl_shr]

/-- `b & (1 << i) != 0` -/
theorem u8_bit (x m : UInt8) (i : Nat) (hm : m.toNat = 2 ^ i) : ((x &&& m) != 0) = (x.toNat / 2 ^ i % 2 == 1) := by
  rw [Bool.eq_iff_iff, bne_iff_ne, beq_iff_eq, Ne, ← UInt8.toNat_inj, UInt8.toNat_and, hm]
  exact nat_and_bit_ne_zero x.toNat i

/-- setting bit `i` above a value below `2^i` -/
theorem u8_or_bit (t m : UInt8) (i : Nat) (hm : m.toNat = 2 ^ i) (ht : t.toNat < 2 ^ i) :
    (t ||| m).toNat = 2 ^ i + t.toNat := by
  rw [UInt8.toNat_or, hm, Nat.or_comm]
  have := nat_mul_or 1 t.toNat i ht
  rwa [Nat.one_mul] at this

theorem u16_and_mask (x m : UInt16) (k : Nat) (hm : m.toNat + 1 = 2 ^ k) : (x &&& m).toNat = x.toNat % 2 ^ k := by
  rw [UInt16.toNat_and, nat_and_mask_numeral hm, hm]

theorem u16_shr (x s : UInt16) (j : Nat) (hs : s.toNat % 16 = j) : (x >>> s).toNat = x.toNat / 2 ^ j := by
  rw [UInt16.toNat_shiftRight, hs, Nat.shiftRight_eq_div_pow]

theorem u16_shr_and (x s m : UInt16) (j k : Nat) (hs : s.toNat % 16 = j) (hm : m.toNat + 1 = 2 ^ k) :
    ((x >>> s) &&& m).toNat = x.toNat / 2 ^ j % 2 ^ k := by
  rw [u16_and_mask _ m k hm, u16_shr x s j hs]

theorem u16_and_shr (x M s : UInt16) (j k : Nat) (hs : s.toNat % 16 = j) (hM : M.toNat = (2 ^ k - 1) <<< j) :
    ((x &&& M) >>> s).toNat = x.toNat / 2 ^ j % 2 ^ k := by
  rw [u16_shr _ s j hs, UInt16.toNat_and, hM, ← Nat.shiftRight_eq_div_pow, nat_and_shl_shr]

theorem u16_bit (x m : UInt16) (i : Nat) (hm : m.toNat = 2 ^ i) : ((x &&& m) != 0) = (x.toNat / 2 ^ i % 2 == 1) := by
  rw [Bool.eq_iff_iff, bne_iff_ne, beq_iff_eq, Ne, ← UInt16.toNat_inj, UInt16.toNat_and, hm]
  exact nat_and_bit_ne_zero x.toNat i

theorem u32_and_mask (x m : UInt32) (k : Nat) (hm : m.toNat + 1 = 2 ^ k) : (x &&& m).toNat = x.toNat % 2 ^ k := by
  rw [UInt32.toNat_and, nat_and_mask_numeral hm, hm]
theorem u32_shr (x s : UInt32) (j : Nat) (hs : s.toNat % 32 = j) : (x >>> s).toNat = x.toNat / 2 ^ j := by
  rw [UInt32.toNat_shiftRight, hs, Nat.shiftRight_eq_div_pow]
theorem u32_and_shr (x M s : UInt32) (j k : Nat) (hs : s.toNat % 32 = j) (hM : M.toNat = (2 ^ k - 1) <<< j) :
    ((x &&& M) >>> s).toNat = x.toNat / 2 ^ j % 2 ^ k := by
  rw [u32_shr _ s j hs, UInt32.toNat_and, hM, ← Nat.shiftRight_eq_div_pow, nat_and_shl_shr]

theorem u64_and_mask (x m : UInt64) (k : Nat) (hm : m.toNat + 1 = 2 ^ k) : (x &&& m).toNat = x.toNat % 2 ^ k := by
  rw [UInt64.toNat_and, nat_and_mask_numeral hm, hm]
theorem u64_shr (x s : UInt64) (j : Nat) (hs : s.toNat % 64 = j) : (x >>> s).toNat = x.toNat / 2 ^ j := by
  rw [UInt64.toNat_shiftRight, hs, Nat.shiftRight_eq_div_pow]
theorem u64_and_shr (x M s : UInt64) (j k : Nat) (hs : s.toNat % 64 = j) (hM : M.toNat = (2 ^ k - 1) <<< j) :
    ((x &&& M) >>> s).toNat = x.toNat / 2 ^ j % 2 ^ k := by
  rw [u64_shr _ s j hs, UInt64.toNat_and, hM, ← Nat.shiftRight_eq_div_pow, nat_and_shl_shr]
/-- `a << j | b` with `a` and `b` small enough not to overlap or overflow -/
theorem u64_shl_or (a b s : UInt64) (j : Nat) (hs : s.toNat % 64 = j) (ha : a.toNat < 2 ^ (64 - j)) (hj : j ≤ 64)
    (hb : b.toNat < 2 ^ j) : ((a <<< s) ||| b).toNat = a.toNat * 2 ^ j + b.toNat := by
  rw [UInt64.toNat_or, UInt64.toNat_shiftLeft, hs, Nat.shiftLeft_eq, Nat.mod_eq_of_lt, nat_mul_or _ _ _ hb]
  calc a.toNat * 2 ^ j < 2 ^ (64 - j) * 2 ^ j := Nat.mul_lt_mul_of_pos_right ha (Nat.two_pow_pos j)
    _ = 2 ^ 64 := by rw [← Nat.pow_add, Nat.sub_add_cancel hj]

/-- `a << j` loses the top `j` bits -/
theorem u64_shl (a s : UInt64) (j : Nat) (hs : s.toNat % 64 = j) (hj : j ≤ 64) :
    (a <<< s).toNat = a.toNat % 2 ^ (64 - j) * 2 ^ j := by
  rw [UInt64.toNat_shiftLeft, hs, Nat.shiftLeft_eq, show (2 : Nat) ^ 64 = 2 ^ (64 - j) * 2 ^ j by
    rw [← Nat.pow_add, Nat.sub_add_cancel hj], Nat.mul_mod_mul_right]

/-- `if b then k else 0` is `b.toNat * k`; with `Bool.toNat_le` that is all `omega` needs about a flag -/
theorem ite_eq_toNat_mul (b : Bool) (k : Nat) : (if b then k else 0) = b.toNat * k := by
  cases b <;> simp
/-- reading a flag back: `x == 1` for `x = b.toNat` -/
theorem beq_one_of_eq_toNat {x : Nat} {b : Bool} (h : x = b.toNat) : (x == 1) = b := by
  subst h; cases b <;> rfl

theorem toNat_beq_one {n : Nat} (h : n < 2) : (n == 1).toNat = n := by
  have : n = 0 ∨ n = 1 := by omega
  rcases this with rfl | rfl <;> rfl

theorem bool_toNat_beq_one (b : Bool) : (b.toNat == 1) = b := beq_one_of_eq_toNat rfl

theorem u8_bne_zero (x : UInt8) (h : x.toNat < 2) : (x != 0) = (x.toNat == 1) := by
  rw [Bool.eq_iff_iff, bne_iff_ne, beq_iff_eq, Ne, ← UInt8.toNat_inj]
  show x.toNat ≠ 0 ↔ _
  omega

theorem u16_bne_zero (x : UInt16) (h : x.toNat < 2) : (x != 0) = (x.toNat == 1) := by
  rw [Bool.eq_iff_iff, bne_iff_ne, beq_iff_eq, Ne, ← UInt16.toNat_inj]
  show x.toNat ≠ 0 ↔ _
  omega

/-- `(b >> j) & 1 > 0`, a flag tested in place -/
theorem u8_flag (b s : UInt8) (j : Nat) (hs : s.toNat % 8 = j) :
    ((b >>> s) &&& 0x1) > 0 ↔ b.toNat / 2 ^ j % 2 = 1 := by
  rw [GT.gt, UInt8.lt_iff_toNat_lt, u8_shr_and b s 1 j 1 hs rfl]
  exact ⟨fun h => by have := Nat.mod_lt (b.toNat / 2 ^ j) (by decide : 0 < 2 ^ 1); omega, fun h => by rw [Nat.pow_one, h]; decide⟩

theorem u8_flag_eq (b s : UInt8) (j : Nat) (hs : s.toNat % 8 = j) (p : Bool) (h : b.toNat / 2 ^ j % 2 = p.toNat) :
    decide (((b >>> s) &&& 0x1) > 0) = p := by
  cases p
  · exact decide_eq_false (fun hc => by rw [u8_flag b s j hs, h] at hc; cases hc)
  · exact decide_eq_true ((u8_flag b s j hs).mpr h)
end Rtp
