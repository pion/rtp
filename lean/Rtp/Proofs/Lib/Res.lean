/-
  Rtp/Proofs/Lib/Res.lean — the equations of `Res.coarse / map / isOk / isErr / isPanic` on constructors
  (simp), how `coarse` and `map` commute with the observers, when a result is `ok`;
  `ErrOr`, the shape of a call that returns an error or a value of a known form.
-/
import Rtp.Go.Prim
namespace Rtp.Res
variable {α β : Type}

@[simp] theorem coarse_ok (a : α) : (ok a).coarse = ok a := rfl
@[simp] theorem coarse_err (e : Err) : (err e : Res α).coarse = err .other := rfl
@[simp] theorem coarse_panic : (panic : Res α).coarse = panic := rfl
@[simp] theorem map_ok (f : α → β) (a : α) : (ok a).map f = ok (f a) := rfl
@[simp] theorem map_err (f : α → β) (e : Err) : (err e : Res α).map f = err e := rfl
@[simp] theorem map_panic (f : α → β) : (panic : Res α).map f = panic := rfl
@[simp] theorem isOk_ok (a : α) : (ok a).isOk = true := rfl
@[simp] theorem isOk_err (e : Err) : (err e : Res α).isOk = false := rfl
@[simp] theorem isOk_panic : (panic : Res α).isOk = false := rfl
@[simp] theorem isErr_ok (a : α) : (ok a).isErr = false := rfl
@[simp] theorem isErr_err (e : Err) : (err e : Res α).isErr = true := rfl
@[simp] theorem isErr_panic : (panic : Res α).isErr = false := rfl
@[simp] theorem isPanic_ok (a : α) : (ok a).isPanic = false := rfl
@[simp] theorem isPanic_err (e : Err) : (err e : Res α).isPanic = false := rfl
@[simp] theorem isPanic_panic : (panic : Res α).isPanic = true := rfl

@[simp] theorem isOk_coarse (r : Res α) : r.coarse.isOk = r.isOk := by cases r <;> rfl
@[simp] theorem isErr_coarse (r : Res α) : r.coarse.isErr = r.isErr := by cases r <;> rfl
@[simp] theorem isPanic_coarse (r : Res α) : r.coarse.isPanic = r.isPanic := by cases r <;> rfl
@[simp] theorem isOk_map (f : α → β) (r : Res α) : (r.map f).isOk = r.isOk := by cases r <;> rfl
@[simp] theorem isErr_map (f : α → β) (r : Res α) : (r.map f).isErr = r.isErr := by cases r <;> rfl
@[simp] theorem isPanic_map (f : α → β) (r : Res α) : (r.map f).isPanic = r.isPanic := by cases r <;> rfl

theorem coarse_eq_ok {r : Res α} {a : α} : r.coarse = ok a ↔ r = ok a := by
  cases r <;> simp [coarse]
theorem isPanic_eq_false_iff {r : Res α} : r.isPanic = false ↔ r ≠ panic := by
  cases r <;> simp [isPanic]

theorem map_eq_ok_iff (f : α → β) (x : Res α) (b : β) :
    x.map f = .ok b ↔ ∃ a, x = .ok a ∧ f a = b := by
  cases x with
  | ok a => exact ⟨fun h => ⟨a, rfl, ok.inj h⟩, fun ⟨_, h, e⟩ => by cases h; exact congrArg ok e⟩
  | err e => exact ⟨nofun, fun ⟨_, h, _⟩ => by cases h⟩
  | panic => exact ⟨nofun, fun ⟨_, h, _⟩ => by cases h⟩

/-- lists of results, as the observation predicates see them -/
theorem all_isOk_map_coarse (l : List (Res α)) : (l.map coarse).all isOk = l.all isOk := by
  rw [List.all_map]; congr 1; funext r; exact isOk_coarse r
theorem all_isOk_map_ok (l : List α) : (l.map ok).all (isOk (α := α)) = true := by
  rw [List.all_map, List.all_eq_true]; intro _ _; rfl

section
variable {r : Res α} {P Q : α → Prop}

/-- the call does not panic, and a value it returns satisfies `P` -/
def ErrOr (r : Res α) (P : α → Prop) : Prop := (∃ e, r = .err e) ∨ ∃ k, r = .ok k ∧ P k

theorem ErrOr.err (e : Err) : (Res.err e : Res α).ErrOr P := .inl ⟨e, rfl⟩
theorem ErrOr.ok {k : α} (h : P k) : (Res.ok k).ErrOr P := .inr ⟨k, rfl, h⟩

/-- an early error return -/
theorem ErrOr.ite_err {c : Prop} [Decidable c] (e : Err) (h : ¬ c → r.ErrOr P) :
    (if c then Res.err e else r).ErrOr P := by
  split
  · exact .err e
  · exact h ‹_›

theorem ErrOr.ne_panic (h : r.ErrOr P) : r ≠ .panic := by
  rcases h with ⟨e, rfl⟩ | ⟨k, rfl, _⟩ <;> nofun

theorem ErrOr.of_ok (h : r.ErrOr P) {k : α} (hk : r = .ok k) : P k := by
  subst hk
  rcases h with ⟨e, he⟩ | ⟨k', hk', hp⟩
  · cases he
  · cases hk'; exact hp

theorem ErrOr.isErr (h : r.ErrOr P) (hn : ∀ k, ¬ P k) : r.isErr = true := by
  rcases h with ⟨e, rfl⟩ | ⟨k, _, hp⟩
  · rfl
  · exact absurd hp (hn k)

theorem ErrOr.mono (h : r.ErrOr P) (hpq : ∀ k, P k → Q k) : r.ErrOr Q :=
  h.imp_right fun ⟨k, hk, hp⟩ => ⟨k, hk, hpq k hp⟩

end
end Rtp.Res
