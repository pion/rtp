/-
  Rtp/Proofs/Lib/Bits.lean — more of Rtp/Go/Bits.lean: mask / shift / or on `Nat` as div / mod / mul / add,
  stated over variables, for the shapes that file does not cover (a mask left in place, a single bit, a
  mask given as a numeral, `*` in place of `<<<`).  After these rewrites `omega` finishes.
-/
import Rtp.Go.Bits
namespace Rtp.Bits

/-- a mask given as a numeral: `m + 1 = 2 ^ k` is closed by `rfl` -/
theorem nat_and_mask_numeral {m k : Nat} (h : m + 1 = 2 ^ k) (x : Nat) : x &&& m = x % (m + 1) := by
  rw [h, ← Nat.and_two_pow_sub_one_eq_mod, ← h, Nat.add_sub_cancel]

/-- a field mask left in place (`b & 0xE0`): the field, still shifted -/
theorem nat_and_shl (x j k : Nat) : x &&& ((2 ^ k - 1) <<< j) = x / 2 ^ j % 2 ^ k * 2 ^ j := by
  have h := nat_and_shl_shr x j k
  have h2 : (x &&& ((2 ^ k - 1) <<< j)) % 2 ^ j = 0 := by
    rw [Nat.and_mod_two_pow, Nat.shiftLeft_eq, Nat.mul_mod_left, Nat.and_zero]
  rw [Nat.shiftRight_eq_div_pow] at h
  rw [← h, Nat.div_mul_cancel (Nat.dvd_of_mod_eq_zero h2)]

/-- one bit tested in place (`b & 0x80 != 0`) -/
theorem nat_and_bit (x i : Nat) : x &&& 2 ^ i = x / 2 ^ i % 2 * 2 ^ i := by
  have := nat_and_shl x i 1
  rwa [Nat.shiftLeft_eq, Nat.pow_one, Nat.one_mul] at this

theorem nat_and_bit_ne_zero (x i : Nat) : x &&& 2 ^ i ≠ 0 ↔ x / 2 ^ i % 2 = 1 := by
  rw [nat_and_bit]
  have := Nat.two_pow_pos i
  constructor
  · intro h; rcases Nat.mod_two_eq_zero_or_one (x / 2 ^ i) with e | e
    · rw [e, Nat.zero_mul] at h; exact absurd rfl h
    · exact e
  · intro e; rw [e, Nat.one_mul]; omega

theorem nat_mul_or (a b j : Nat) (hb : b < 2 ^ j) : a * 2 ^ j ||| b = a * 2 ^ j + b := by
  rw [← nat_shl_or a b j hb, Nat.shiftLeft_eq]

/-- numeral form: `m = 2 ^ j` is closed by `rfl` -/
theorem nat_mul_or' {m j : Nat} (hm : m = 2 ^ j) (a b : Nat) (hb : b < m) : a * m ||| b = a * m + b := by
  subst hm; exact nat_mul_or a b j hb

theorem forall_u8_lt (n : Nat) (P : UInt8 → Prop) (h : ∀ i : Fin n, P (UInt8.ofNat i.val)) :
    ∀ x : UInt8, x.toNat < n → P x := by
  intro x hx
  have := h ⟨x.toNat, hx⟩
  simpa using this

theorem forall_u16_lt (n : Nat) (P : UInt16 → Prop) (h : ∀ i : Fin n, P (UInt16.ofNat i.val)) :
    ∀ x : UInt16, x.toNat < n → P x := by
  intro x hx
  have := h ⟨x.toNat, hx⟩
  simpa using this

end Rtp.Bits
