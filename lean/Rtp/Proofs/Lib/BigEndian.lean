/-
  Rtp/Proofs/Lib/BigEndian.lean — `be16/32/64` and `rd16/32/64` of Rtp/Go/Prim.lean as positional numbers;
  reading back what was written, for each width, and writing back what was read, for 16 bits; the lengths
  of `be16/24/32/64`.
  Normal forms:  bytes are written `e.toUInt8` with `e : Nat` (so two encoders agree iff their `e` agree mod 256:
  `toUInt8_eq_iff`, then `omega`);  words are read as `a * 2^k + …` on `toNat`.
-/
import Rtp.Go.Prim
import Rtp.Proofs.Lib.Arith
import Rtp.Proofs.Lib.Bits
import Rtp.Proofs.Lib.UInt
namespace Rtp
open Rtp.Bits

@[simp] theorem be16_length (x : UInt16) : (be16 x).length = 2 := rfl
@[simp] theorem be24_length (x : UInt32) : (be24 x).length = 3 := rfl
@[simp] theorem be32_length (x : UInt32) : (be32 x).length = 4 := rfl
@[simp] theorem be64_length (x : UInt64) : (be64 x).length = 8 := rfl

theorem flatten_map_be32_length (cs : List UInt32) : (cs.map be32).flatten.length = cs.length * 4 := by
  induction cs with
  | nil => rfl
  | cons c cs ih => rw [List.map_cons, List.flatten_cons, List.length_append, ih, be32_length,
      List.length_cons, Nat.succ_mul, Nat.add_comm]

/-! ### bounds used below (no `omega`: these run on every word width) -/

theorem byte_shl_lt {x k w : Nat} (hx : x < 2 ^ 8) (h : k + 8 ≤ w) : x * 2 ^ k < 2 ^ w :=
  calc x * 2 ^ k < 2 ^ 8 * 2 ^ k := Nat.mul_lt_mul_of_pos_right hx (Nat.two_pow_pos k)
    _ = 2 ^ (k + 8) := by rw [Nat.add_comm, Nat.pow_add]
    _ ≤ 2 ^ w := Nat.pow_le_pow_right (by decide) h

/-- a byte on top of `k` bits is `k + 8` bits -/
theorem byte_add_lt {x r k : Nat} (hx : x < 2 ^ 8) (hr : r < 2 ^ k) : x * 2 ^ k + r < 2 ^ (k + 8) := by
  rw [Nat.add_comm k, Nat.pow_add]; exact digit_lt hx hr

theorem rd16_toNat (a b : UInt8) : (rd16 a b).toNat = a.toNat * 2 ^ 8 + b.toNat := by
  simp only [rd16, UInt16.toNat_or, UInt16.toNat_shiftLeft, UInt8.toNat_toUInt16, UInt16.toNat_ofNat,
    Nat.shiftLeft_eq]
  rw [Nat.mod_eq_of_lt (byte_shl_lt a.toNat_lt (by decide)), nat_mul_or _ _ 8 b.toNat_lt]

theorem rd32_toNat (a b c d : UInt8) :
    (rd32 a b c d).toNat = a.toNat * 2 ^ 24 + (b.toNat * 2 ^ 16 + (c.toNat * 2 ^ 8 + d.toNat)) := by
  simp only [rd32, UInt32.toNat_or, UInt32.toNat_shiftLeft, UInt8.toNat_toUInt32, UInt32.toNat_ofNat,
    Nat.shiftLeft_eq]
  have l1 := byte_add_lt c.toNat_lt d.toNat_lt
  rw [Nat.mod_eq_of_lt (byte_shl_lt a.toNat_lt (by decide)), Nat.mod_eq_of_lt (byte_shl_lt b.toNat_lt (by decide)),
    Nat.mod_eq_of_lt (byte_shl_lt c.toNat_lt (by decide)), Nat.or_assoc, Nat.or_assoc,
    nat_mul_or _ _ 8 d.toNat_lt, nat_mul_or _ _ 16 l1, nat_mul_or _ _ 24 (byte_add_lt b.toNat_lt l1)]

theorem rd64_toNat (a b c d e f g h : UInt8) :
    (rd64 a b c d e f g h).toNat = a.toNat * 2 ^ 56 + (b.toNat * 2 ^ 48 + (c.toNat * 2 ^ 40 + (d.toNat * 2 ^ 32 +
      (e.toNat * 2 ^ 24 + (f.toNat * 2 ^ 16 + (g.toNat * 2 ^ 8 + h.toNat)))))) := by
  simp only [rd64, UInt64.toNat_or, UInt64.toNat_shiftLeft, UInt8.toNat_toUInt64, UInt64.toNat_ofNat,
    Nat.shiftLeft_eq]
  have l1 := byte_add_lt g.toNat_lt h.toNat_lt
  have l2 := byte_add_lt f.toNat_lt l1
  have l3 := byte_add_lt e.toNat_lt l2
  have l4 := byte_add_lt d.toNat_lt l3
  have l5 := byte_add_lt c.toNat_lt l4
  rw [Nat.mod_eq_of_lt (byte_shl_lt a.toNat_lt (by decide)), Nat.mod_eq_of_lt (byte_shl_lt b.toNat_lt (by decide)),
    Nat.mod_eq_of_lt (byte_shl_lt c.toNat_lt (by decide)), Nat.mod_eq_of_lt (byte_shl_lt d.toNat_lt (by decide)),
    Nat.mod_eq_of_lt (byte_shl_lt e.toNat_lt (by decide)), Nat.mod_eq_of_lt (byte_shl_lt f.toNat_lt (by decide)),
    Nat.mod_eq_of_lt (byte_shl_lt g.toNat_lt (by decide)),
    Nat.or_assoc, Nat.or_assoc, Nat.or_assoc, Nat.or_assoc, Nat.or_assoc, Nat.or_assoc,
    nat_mul_or _ _ 8 h.toNat_lt, nat_mul_or _ _ 16 l1, nat_mul_or _ _ 24 l2, nat_mul_or _ _ 32 l3,
    nat_mul_or _ _ 40 l4, nat_mul_or _ _ 48 l5, nat_mul_or _ _ 56 (byte_add_lt b.toNat_lt l5)]

/-! ### writing: every byte is `(x.toNat / 2^k).toUInt8` -/

theorem u16_shr_toUInt8 (x s : UInt16) (j : Nat) (hs : s.toNat % 16 = j) :
    (x >>> s).toUInt8 = (x.toNat / 2 ^ j).toUInt8 := by
  rw [eq_toUInt8_iff, u16_shr_toUInt8_toNat x s j hs]
theorem u32_shr_toUInt8 (x s : UInt32) (j : Nat) (hs : s.toNat % 32 = j) :
    (x >>> s).toUInt8 = (x.toNat / 2 ^ j).toUInt8 := by
  rw [eq_toUInt8_iff, u32_shr_toUInt8_toNat x s j hs]
theorem u64_shr_toUInt8 (x s : UInt64) (j : Nat) (hs : s.toNat % 64 = j) :
    (x >>> s).toUInt8 = (x.toNat / 2 ^ j).toUInt8 := by
  rw [eq_toUInt8_iff, u64_shr_toUInt8_toNat x s j hs]
theorem u16_toUInt8 (x : UInt16) : x.toUInt8 = x.toNat.toUInt8 := by
  rw [eq_toUInt8_iff, u16_toUInt8_toNat]
theorem u32_toUInt8 (x : UInt32) : x.toUInt8 = x.toNat.toUInt8 := by
  rw [eq_toUInt8_iff, u32_toUInt8_toNat]
theorem u64_toUInt8 (x : UInt64) : x.toUInt8 = x.toNat.toUInt8 := by
  rw [eq_toUInt8_iff, u64_toUInt8_toNat]

theorem be16_eq (x : UInt16) : be16 x = [(x.toNat / 2 ^ 8).toUInt8, x.toNat.toUInt8] := by
  rw [be16, u16_shr_toUInt8 x 8 8 rfl, u16_toUInt8]
theorem be32_eq (x : UInt32) :
    be32 x = [(x.toNat / 2 ^ 24).toUInt8, (x.toNat / 2 ^ 16).toUInt8, (x.toNat / 2 ^ 8).toUInt8, x.toNat.toUInt8] := by
  rw [be32, u32_shr_toUInt8 x 24 24 rfl, u32_shr_toUInt8 x 16 16 rfl, u32_shr_toUInt8 x 8 8 rfl, u32_toUInt8]
theorem be64_eq (x : UInt64) :
    be64 x = [(x.toNat / 2 ^ 56).toUInt8, (x.toNat / 2 ^ 48).toUInt8, (x.toNat / 2 ^ 40).toUInt8,
      (x.toNat / 2 ^ 32).toUInt8, (x.toNat / 2 ^ 24).toUInt8, (x.toNat / 2 ^ 16).toUInt8,
      (x.toNat / 2 ^ 8).toUInt8, x.toNat.toUInt8] := by
  rw [be64, u64_shr_toUInt8 x 56 56 rfl, u64_shr_toUInt8 x 48 48 rfl, u64_shr_toUInt8 x 40 40 rfl,
    u64_shr_toUInt8 x 32 32 rfl, u64_shr_toUInt8 x 24 24 rfl, u64_shr_toUInt8 x 16 16 rfl,
    u64_shr_toUInt8 x 8 8 rfl, u64_toUInt8]

/-! ### read ∘ write, for any number `n` (no bound: both sides truncate) -/

/-- the byte at bit offset `k` splits off the low `k + 8` bits -/
theorem mod_byte_step (n k : Nat) : n % 2 ^ (k + 8) = n / 2 ^ k % 2 ^ 8 * 2 ^ k + n % 2 ^ k := by
  rw [Nat.pow_add, Nat.mod_mul, Nat.add_comm, Nat.mul_comm]

theorem rd16_ofNat (n : Nat) : rd16 (n / 2 ^ 8).toUInt8 n.toUInt8 = n.toUInt16 := by
  rw [eq_toUInt16_iff, rd16_toNat, toNat_toUInt8, toNat_toUInt8]
  exact (mod_byte_step n 8).symm

theorem rd32_ofNat (n : Nat) :
    rd32 (n / 2 ^ 24).toUInt8 (n / 2 ^ 16).toUInt8 (n / 2 ^ 8).toUInt8 n.toUInt8 = n.toUInt32 := by
  rw [← UInt32.toNat_inj, rd32_toNat, toNat_toUInt32, toNat_toUInt8, toNat_toUInt8, toNat_toUInt8, toNat_toUInt8]
  exact (mod_byte_step n 8 ▸ mod_byte_step n 16 ▸ mod_byte_step n 24).symm

theorem rd64_ofNat (n : Nat) :
    rd64 (n / 2 ^ 56).toUInt8 (n / 2 ^ 48).toUInt8 (n / 2 ^ 40).toUInt8 (n / 2 ^ 32).toUInt8
      (n / 2 ^ 24).toUInt8 (n / 2 ^ 16).toUInt8 (n / 2 ^ 8).toUInt8 n.toUInt8 = n.toUInt64 := by
  rw [← UInt64.toNat_inj, rd64_toNat, toNat_toUInt64]
  simp only [toNat_toUInt8]
  exact (mod_byte_step n 8 ▸ mod_byte_step n 16 ▸ mod_byte_step n 24 ▸ mod_byte_step n 32 ▸ mod_byte_step n 40 ▸
    mod_byte_step n 48 ▸ mod_byte_step n 56).symm

theorem rd16_be16 (x : UInt16) : rd16 (x >>> 8).toUInt8 x.toUInt8 = x := by
  rw [u16_shr_toUInt8 x 8 8 rfl, u16_toUInt8, rd16_ofNat]; exact UInt16.ofNat_toNat

theorem rd32_be32 (x : UInt32) :
    rd32 (x >>> 24).toUInt8 (x >>> 16).toUInt8 (x >>> 8).toUInt8 x.toUInt8 = x := by
  rw [u32_shr_toUInt8 x 24 24 rfl, u32_shr_toUInt8 x 16 16 rfl, u32_shr_toUInt8 x 8 8 rfl, u32_toUInt8,
    rd32_ofNat]
  exact UInt32.ofNat_toNat

theorem rd64_be64 (x : UInt64) :
    rd64 (x >>> 56).toUInt8 (x >>> 48).toUInt8 (x >>> 40).toUInt8 (x >>> 32).toUInt8
      (x >>> 24).toUInt8 (x >>> 16).toUInt8 (x >>> 8).toUInt8 x.toUInt8 = x := by
  rw [u64_shr_toUInt8 x 56 56 rfl, u64_shr_toUInt8 x 48 48 rfl, u64_shr_toUInt8 x 40 40 rfl,
    u64_shr_toUInt8 x 32 32 rfl, u64_shr_toUInt8 x 24 24 rfl, u64_shr_toUInt8 x 16 16 rfl,
    u64_shr_toUInt8 x 8 8 rfl, u64_toUInt8, rd64_ofNat]
  exact UInt64.ofNat_toNat

/-- the top byte of `a * 2^k + r`, `r < 2^k` -/
theorem byte_top {a r k : Nat} (ha : a < 2 ^ 8) (hr : r < 2 ^ k) : (a * 2 ^ k + r) / 2 ^ k % 256 = a := by
  rw [Nat.add_comm, Nat.add_mul_div_right _ _ (Nat.two_pow_pos k), Nat.div_eq_of_lt hr, Nat.zero_add]
  exact Nat.mod_eq_of_lt ha

theorem be16_rd16 (a b : UInt8) : be16 (rd16 a b) = [a, b] := by
  rw [be16_eq, rd16_toNat]
  congr 1
  · rw [eq_comm, eq_toUInt8_iff, byte_top a.toNat_lt b.toNat_lt]
  · rw [eq_comm, List.cons.injEq, eq_toUInt8_iff, Nat.add_comm, Nat.add_mul_mod_self_right]
    exact ⟨(Nat.mod_eq_of_lt b.toNat_lt).symm, rfl⟩
end Rtp
