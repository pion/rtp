/-
  Rtp/Proofs/Packetizer.lean — the packetizer model (C06).  The equations of `mkPkts` / `mkPads` /
  `packetize` / `step`; what one call's packets are (`mkPkts_mem`, `mkPkts_shape`); their marshalled
  size and the wire form of a padding packet; the budget arithmetic; the induction along a history
  (`run_walk`) with its instances `run_seq`, `run_calls`, and `run_shape`; `execP` / `elapsed` for
  c06_ts in closed form; the value of the abs-send-time element.
-/
import Rtp.Model.Packetizer
import Rtp.Pred.C06
import Rtp.Spec.AbsSendTimeValue
import Rtp.Proofs.Ntp
import Rtp.Proofs.Lib.BitField
import Rtp.Proofs.Lib.BigEndian
import Rtp.Proofs.Lib.Bytes
namespace Rtp.Proofs.Packetizer
open Rtp Rtp.Model Rtp.Model.Packetizer Rtp.Pred.C06 Rtp.Spec.AbsSendTimeValue

/-- the extension id in force is 0 (disabled) or a legal one-byte-header id -/
def AbsValid (p : Packetizer) : Prop := p.absId = 0 ∨ idValid p.absId = true

def SameCfg (cfg p : Packetizer) : Prop := p.mtu = cfg.mtu ∧ p.pt = cfg.pt ∧ p.ssrc = cfg.ssrc

/-- the extension element `Packetize` attaches when the clock reads `now` -/
def extOf (p : Packetizer) (now : Int64) : Option (UInt8 × Bytes) :=
  if p.absId != 0 then some (p.absId8, absSendTimeBytes now) else none

theorem absId8_valid (p : Packetizer) (h : idValid p.absId = true) :
    (1 ≤ p.absId8 && p.absId8 ≤ 14) = true ∧ p.absId8 = p.absId.toNat.toUInt8 := by
  simp only [idValid, Bool.and_eq_true, decide_eq_true_eq] at h
  have h1 : p.absId % 256 = p.absId := Int.emod_eq_of_lt (by omega) (by omega)
  have h2 : p.absId.toNat % 256 = p.absId.toNat := by omega
  refine ⟨?_, by rw [absId8, h1]⟩
  rw [absId8, h1, Bool.and_eq_true, decide_eq_true_eq, decide_eq_true_eq, UInt8.le_iff_toNat_le,
    UInt8.le_iff_toNat_le, toNat_toUInt8, h2]
  exact ⟨by change 1 ≤ _; omega, by change _ ≤ 14; omega⟩

theorem extOf_disabled {p : Packetizer} (h : p.absId = 0) (now : Int64) : extOf p now = none := by
  simp [extOf, h]

theorem extOf_enabled {p : Packetizer} (h : idValid p.absId = true) (now : Int64) :
    extOf p now = some (p.absId.toNat.toUInt8, absSendTimeBytes now) := by
  have h0 : p.absId ≠ 0 := by
    intro h0; rw [h0] at h; exact absurd h (by decide)
  simp [extOf, h0, (absId8_valid p h).2]

theorem abs_len (now : Int64) : (absSendTimeBytes now).length = 3 := rfl

/-- `Packetize` on the property's domain, unfolded once and for all -/
theorem packetize_eq (pay : UInt16 → Bytes → List Bytes) (p : Packetizer) (hv : AbsValid p)
    (payload : Bytes) (hne : payload.isEmpty = false) (samples : UInt32) (now : Int64) :
    p.packetize pay payload samples now =
      (some p.budget, (mkPkts p (extOf p now) p.seq (pay p.budget payload)).1,
       { p with ts := p.ts + samples, seq := (mkPkts p (extOf p now) p.seq (pay p.budget payload)).2 }) := by
  simp only [packetize, hne, Bool.false_eq_true, if_false, extOf]
  rcases hv with h0 | hv
  · simp [h0]
  · simp [(absId8_valid p hv).1]

theorem packetize_empty (pay : UInt16 → Bytes → List Bytes) (p : Packetizer)
    (payload : Bytes) (he : payload.isEmpty = true) (samples : UInt32) (now : Int64) :
    p.packetize pay payload samples now = (none, [], p) := by
  simp [packetize, he]

theorem step_packetize (pay : UInt16 → Bytes → List Bytes) (p : Packetizer) (hv : AbsValid p)
    (payload : Bytes) (hne : payload.isEmpty = false) (samples : UInt32) (now : Int64) :
    p.step (.packetize pay payload samples now) =
      (.packetize (some (p.budget, true)) (mkPkts p (extOf p now) p.seq (pay p.budget payload)).1,
       { p with ts := p.ts + samples, seq := (mkPkts p (extOf p now) p.seq (pay p.budget payload)).2 }) := by
  rw [Packetizer.step, packetize_eq pay p hv payload hne]; rfl

theorem packetize_state (pay : UInt16 → Bytes → List Bytes) (p : Packetizer) (payload : Bytes)
    (samples : UInt32) (now : Int64) :
    ∃ seq, (p.packetize pay payload samples now).2.2 =
      { p with ts := p.ts + (if payload.isEmpty then 0 else samples), seq := seq } := by
  cases he : payload.isEmpty with
  | true => exact ⟨p.seq, by rw [packetize_empty pay p payload he, if_pos rfl, UInt32.add_zero]⟩
  | false =>
    refine ⟨(mkPkts p (extOf p now) p.seq (pay p.budget payload)).2, ?_⟩
    simp only [packetize, he, Bool.false_eq_true, if_false, extOf]
    split <;> rfl

theorem step_sameCfg (cfg p : Packetizer) (h : SameCfg cfg p) (op : PkOp) : SameCfg cfg (p.step op).2 := by
  cases op with
  | packetize pay payload samples now =>
    obtain ⟨seq, hs⟩ := packetize_state pay p payload samples now
    show SameCfg cfg (p.packetize pay payload samples now).2.2
    rw [hs]; exact h
  | skip n => exact h
  | padding n => exact h
  | enableAbs id => exact h

theorem step_absValid (p : Packetizer) (h : AbsValid p) (op : PkOp) (hop : opWf op = true) :
    AbsValid (p.step op).2 := by
  cases op with
  | packetize pay payload samples now =>
    obtain ⟨seq, hs⟩ := packetize_state pay p payload samples now
    show AbsValid (p.packetize pay payload samples now).2.2
    rw [hs]; exact h
  | skip n => exact h
  | padding n => exact h
  | enableAbs id =>
    simp only [opWf, Bool.or_eq_true, beq_iff_eq] at hop
    exact hop

/-- **induction along a history.**  `W p ops obs` is a clause of the property, read with the
    packetizer `p` as the walk's state; `cons` is one call.  The invariants every clause needs
    (`SameCfg`, `AbsValid`) are carried here. -/
theorem run_walk {W : Packetizer → List PkOp → List PkOpObs → Prop} (cfg : Packetizer)
    (nil : ∀ p, W p [] [])
    (cons : ∀ p op ops os, SameCfg cfg p → AbsValid p → opWf op = true →
      W (p.step op).2 ops os → W p (op :: ops) ((p.step op).1 :: os))
    (p : Packetizer) (hc : SameCfg cfg p) (hv : AbsValid p) (ops : List PkOp) (hops : ops.all opWf = true) :
    W p ops (p.run ops) := by
  induction ops generalizing p with
  | nil => exact nil p
  | cons op ops ih =>
    rw [List.all_cons, Bool.and_eq_true] at hops
    exact cons p op ops _ hc hv hops.1
      (ih _ (step_sameCfg cfg p hc op) (step_absValid p hv op hops.1) hops.2)

theorem mkPkts_one (p : Packetizer) (ext : Option (UInt8 × Bytes)) (s : SeqState) (f : Bytes) :
    mkPkts p ext s [f] = ([mkPkt p (s.seq + 1) true ext f], s.next.2) := rfl

theorem mkPkts_cons₂ (p : Packetizer) (ext : Option (UInt8 × Bytes)) (s : SeqState) (f g : Bytes) (gs : List Bytes) :
    mkPkts p ext s (f :: g :: gs) =
      (mkPkt p (s.seq + 1) false none f :: (mkPkts p ext s.next.2 (g :: gs)).1,
       (mkPkts p ext s.next.2 (g :: gs)).2) := rfl

theorem mkPads_succ (p : Packetizer) (s : SeqState) (n : Nat) :
    mkPads p s (n + 1) = (mkPad p (s.seq + 1) :: (mkPads p s.next.2 n).1, (mkPads p s.next.2 n).2) := rfl

theorem mkPkts_mem {p : Packetizer} {ext : Option (UInt8 × Bytes)} {s : SeqState} {frags : List Bytes} {q : PktObs}
    (h : q ∈ (mkPkts p ext s frags).1) :
    ∃ v m e f, q = mkPkt p v m e f ∧ (e = none ∨ e = ext) ∧ f ∈ frags := by
  induction frags generalizing s with
  | nil => cases h
  | cons f fs ih =>
    cases fs with
    | nil =>
      rw [mkPkts_one, List.mem_singleton] at h
      exact ⟨_, _, _, f, h, .inr rfl, List.mem_cons_self ..⟩
    | cons g gs =>
      rw [mkPkts_cons₂, List.mem_cons] at h
      rcases h with h | h
      · exact ⟨_, _, _, f, h, .inl rfl, List.mem_cons_self ..⟩
      · obtain ⟨v, m, e, x, hq, he, hx⟩ := ih h
        exact ⟨v, m, e, x, hq, he, List.mem_cons_of_mem _ hx⟩

theorem mkPkts_all {p : Packetizer} {ext : Option (UInt8 × Bytes)} {frags : List Bytes} {P : PktObs → Bool}
    (h : ∀ v m e f, (e = none ∨ e = ext) → f ∈ frags → P (mkPkt p v m e f) = true) (s : SeqState) :
    (mkPkts p ext s frags).1.all P = true :=
  List.all_eq_true.mpr fun _ hq => by
    obtain ⟨v, m, e, f, rfl, he, hf⟩ := mkPkts_mem hq
    exact h v m e f he hf

theorem mkPads_mem {p : Packetizer} {s : SeqState} {n : Nat} {q : PktObs} (h : q ∈ (mkPads p s n).1) :
    ∃ v, q = mkPad p v := by
  induction n generalizing s with
  | zero => cases h
  | succ n ih =>
    rw [mkPads_succ, List.mem_cons] at h
    rcases h with h | h
    · exact ⟨_, h⟩
    · exact ih h

/-- everything about a call's packets that depends on their order, by one induction -/
theorem mkPkts_shape (p : Packetizer) (ext : Option (UInt8 × Bytes)) (s : SeqState) (frags : List Bytes) :
    (mkPkts p ext s frags).1.map (·.payload) = frags ∧
    markersOk (mkPkts p ext s frags).1 = true ∧
    (∀ e, ext = some e → extOnLast e (mkPkts p ext s frags).1 = true) ∧
    seqFrom (s.seq + 1) (mkPkts p ext s frags).1 = true ∧
    (mkPkts p ext s frags).2.seq = s.seq + frags.length.toUInt16 := by
  induction frags generalizing s with
  | nil => exact ⟨rfl, rfl, fun _ _ => rfl, rfl, (UInt16.add_zero _).symm⟩
  | cons f fs ih =>
    cases fs with
    | nil =>
      refine ⟨rfl, rfl, ?_, ?_, rfl⟩
      · rintro e rfl; simp [mkPkts_one, extOnLast, mkPkt]
      · simp [mkPkts_one, seqFrom, mkPkt]
    | cons g gs =>
      obtain ⟨i1, i2, i3, i4, i5⟩ := ih s.next.2
      -- the tail is not empty, which is what `markersOk` and `extOnLast` look at
      obtain ⟨b, r, hbr⟩ : ∃ b r, (mkPkts p ext s.next.2 (g :: gs)).1 = b :: r := by
        cases gs <;> exact ⟨_, _, rfl⟩
      rw [mkPkts_cons₂]
      refine ⟨by rw [List.map_cons, i1]; rfl, ?_, ?_, ?_, ?_⟩
      · rw [hbr] at i2 ⊢; exact i2
      · intro e he; have := i3 e he; rw [hbr] at this ⊢; exact this
      · simp only [seqFrom, mkPkt, beq_self_eq_true, Bool.true_and]; exact i4
      · rw [i5]; exact seq_succ_add s.seq _

theorem mkPkts_payloads (p : Packetizer) (ext : Option (UInt8 × Bytes)) (s : SeqState) (frags : List Bytes) :
    (mkPkts p ext s frags).1.map (·.payload) = frags := (mkPkts_shape p ext s frags).1

theorem mkPkts_length (p : Packetizer) (ext : Option (UInt8 × Bytes)) (s : SeqState) (frags : List Bytes) :
    (mkPkts p ext s frags).1.length = frags.length := by
  rw [← List.length_map (·.payload), mkPkts_payloads]

theorem mkPads_shape (p : Packetizer) (s : SeqState) (n : Nat) :
    (mkPads p s n).1.length = n ∧ seqFrom (s.seq + 1) (mkPads p s n).1 = true ∧
    (mkPads p s n).2.seq = s.seq + n.toUInt16 := by
  induction n generalizing s with
  | zero => exact ⟨rfl, rfl, (UInt16.add_zero _).symm⟩
  | succ n ih =>
    obtain ⟨i1, i2, i3⟩ := ih s.next.2
    rw [mkPads_succ]
    refine ⟨by rw [List.length_cons, i1], ?_, by rw [i3]; exact seq_succ_add s.seq n⟩
    simp only [seqFrom, mkPad, beq_self_eq_true, Bool.true_and]; exact i2

theorem seqFrom_append (e : UInt16) (l1 l2 : List PktObs) :
    seqFrom e (l1 ++ l2) = (seqFrom e l1 && seqFrom (e + l1.length.toUInt16) l2) := by
  induction l1 generalizing e with
  | nil => simp [seqFrom, Nat.toUInt16]
  | cons p ps ih => simp only [List.cons_append, seqFrom, ih, Bool.and_assoc, List.length_cons, seq_succ_add]

theorem next_seq (s : SeqState) : s.next.1 = s.seq + 1 ∧ s.next.2.seq = s.seq + 1 := ⟨rfl, rfl⟩

theorem step_seq (p : Packetizer) (hv : AbsValid p) (op : PkOp) :
    seqFrom (p.seq.seq + 1) (pktsOf (p.step op).1) = true ∧
    (p.step op).2.seq.seq = p.seq.seq + (pktsOf (p.step op).1).length.toUInt16 := by
  cases op with
  | packetize pay payload samples now =>
    cases payload with
    | nil => exact ⟨rfl, (UInt16.add_zero _).symm⟩
    | cons b bs =>
      rw [step_packetize _ _ hv _ rfl]
      have h := mkPkts_shape p (extOf p now) p.seq (pay p.budget (b :: bs))
      exact ⟨h.2.2.2.1, by rw [pktsOf, mkPkts_length]; exact h.2.2.2.2⟩
  | skip n => exact ⟨rfl, (UInt16.add_zero _).symm⟩
  | padding n =>
    have h := mkPads_shape p p.seq n.toNat
    refine ⟨h.2.1, ?_⟩
    show (mkPads p p.seq n.toNat).2.seq = p.seq.seq + (mkPads p p.seq n.toNat).1.length.toUInt16
    rw [h.1]; exact h.2.2
  | enableAbs id => exact ⟨rfl, (UInt16.add_zero _).symm⟩

theorem run_seq (p : Packetizer) (hv : AbsValid p) (ops : List PkOp) (hops : ops.all opWf = true) :
    seqFrom (p.seq.seq + 1) (allPkts (p.run ops)) = true := by
  refine run_walk (W := fun p _ os => seqFrom (p.seq.seq + 1) (allPkts os) = true) p (fun _ => rfl) ?_
    p ⟨rfl, rfl, rfl⟩ hv ops hops
  intro p op ops os _ hv _ ih
  obtain ⟨h1, h2⟩ := step_seq p hv op
  rw [allPkts, List.flatMap_cons, seqFrom_append, h1, UInt16.add_assoc, UInt16.add_comm 1, ← UInt16.add_assoc, ← h2]
  exact ih

theorem run_shape (p : Packetizer) (ops : List PkOp) : shapeOk ops (p.run ops) = true := by
  induction ops generalizing p with
  | nil => rfl
  | cons op ops ih => cases op <;> exact ih _

theorem mkPkts_ts (p : Packetizer) (ext : Option (UInt8 × Bytes)) (s : SeqState) (frags : List Bytes) :
    (mkPkts p ext s frags).1.all (fun q => q.ts == p.ts) = true :=
  mkPkts_all (fun _ _ _ _ _ _ => beq_self_eq_true _) s

/-- the extension element attached by `Packetize` is always 3 bytes long -/
def Ext3 (ext : Option (UInt8 × Bytes)) : Prop := ∀ e, ext = some e → e.2.length = 3

theorem extOf_ext3 (p : Packetizer) (now : Int64) : Ext3 (extOf p now) := by
  intro e he
  rw [extOf] at he
  split at he
  · cases he; exact abs_len now
  · cases he

theorem ext3_none : Ext3 none := fun _ h => by cases h

theorem Ext3.of_mem {ext e : Option (UInt8 × Bytes)} (h : Ext3 ext) (he : e = none ∨ e = ext) : Ext3 e := by
  rcases he with rfl | rfl
  · exact ext3_none
  · exact h

/-- size of one media packet: `Marshal` gives exactly `MarshalSize` = 12 (+ 8) + payload bytes; the 8
    are the 4-byte extension header and the id/length byte with the 3 value bytes -/
theorem mkPkt_size (p : Packetizer) (v : UInt16) (m : Bool) (ext : Option (UInt8 × Bytes)) (h3 : Ext3 ext)
    (f : Bytes) :
    (mkPkt p v m ext f).marshalSize = 12 + (if ext.isSome then 8 else 0) + f.length ∧
    ∃ b, (mkPkt p v m ext f).marshal = .ok b ∧ b.length = (mkPkt p v m ext f).marshalSize := by
  refine ⟨rfl, _, rfl, ?_⟩
  cases ext with
  | none => simp [mkPkt, marshalSimple]; omega
  | some e =>
    have := h3 e rfl
    simp [mkPkt, marshalSimple, this]; omega

/-- `GeneratePadding` pads with 255 bytes: 12 + 255 = 267 on the wire, first octet 0xA0 = version 2 with
    the P bit, 254 zeros and the count 0xFF at the end -/
theorem marshal_len_pad (pt : UInt8) (seq : UInt16) (ts ssrc : UInt32) :
    (marshalSimple true false pt seq ts ssrc none [] 255).length = 267 := by
  simp [marshalSimple]

theorem pad_wire_aux (b1 s0 s1 t0 t1 t2 t3 c0 c1 c2 c3 : UInt8) (z : Bytes) (hz : z.length = 254) :
    paddingOnlyWire ([0xA0, b1, s0, s1, t0, t1, t2, t3, c0, c1, c2, c3] ++ z ++ [0xFF]) = true := by
  have h1 : (160 : UInt8) >>> 6 = 2 := by decide
  have h2 : (160 : UInt8) >>> 5 &&& 1 = 1 := by decide
  have h3 : ((160 : UInt8) >>> 4 &&& 1 = 1) = False := by decide
  have h4 : (c3 :: (z ++ [255])).getLast? = some 255 := by
    rw [← List.cons_append, List.getLast?_concat]
  simp [paddingOnlyWire, hz, h1, h2, h3, h4]

theorem pad_wire (pt : UInt8) (seq : UInt16) (ts ssrc : UInt32) :
    paddingOnlyWire (marshalSimple true false pt seq ts ssrc none [] 255) = true := by
  have := pad_wire_aux (pt ||| 0) (seq >>> 8).toUInt8 seq.toUInt8 (ts >>> 24).toUInt8 (ts >>> 16).toUInt8
    (ts >>> 8).toUInt8 ts.toUInt8 (ssrc >>> 24).toUInt8 (ssrc >>> 16).toUInt8 (ssrc >>> 8).toUInt8 ssrc.toUInt8
    (rep 254 0) (rep_length _ _)
  have h : (128 ||| 32 : UInt8) = 160 := by decide
  simpa [marshalSimple, be16, be32, h] using this

/-- the last clause of `wirePkt` / `padPkt`: `128 ≤ pt ||` in front of the modelled round-trip flag
    `decide (pt < 128)` -/
theorem pt_flag (cfg p : Packetizer) (hc : SameCfg cfg p) :
    (decide (128 ≤ cfg.pt.toNat) || decide (p.pt < 128)) = true := by
  rw [hc.2.1, Bool.or_eq_true, decide_eq_true_eq, decide_eq_true_eq, UInt8.lt_iff_toNat_lt]
  exact (Nat.lt_or_ge ..).symm

theorem mkPkts_wire (cfg p : Packetizer) (hc : SameCfg cfg p) (ext : Option (UInt8 × Bytes)) (h3 : Ext3 ext)
    (s : SeqState) (frags : List Bytes) : (mkPkts p ext s frags).1.all (wirePkt cfg) = true := by
  refine mkPkts_all (fun v m e f he _ => ?_) s
  obtain ⟨_, b, hb, hl⟩ := mkPkt_size p v m e (h3.of_mem he) f
  simp only [wirePkt, hb, hl, beq_self_eq_true, Bool.true_and]
  exact pt_flag cfg p hc

theorem extOf_isSome (p : Packetizer) (now : Int64) : (extOf p now).isSome = (p.absId != 0) := by
  rw [extOf]; split <;> simp_all

/-- the budget handed to the payloader is the MTU minus the reserved header bytes: 12, and 8 more
    for the extension block when abs-send-time is enabled; under `hm` neither `uint16` subtraction wraps -/
theorem budget_toNat (p : Packetizer) (hm : 12 + (if p.absId = 0 then 0 else 8) ≤ p.mtu.toNat) :
    p.budget.toNat = p.mtu.toNat - (12 + (if p.absId = 0 then 0 else 8)) := by
  have h12 : (12 : UInt16) ≤ p.mtu := UInt16.le_iff_toNat_le.mpr (Nat.le_trans (Nat.le_add_right 12 _) hm)
  have hb : (p.mtu - 12).toNat = p.mtu.toNat - 12 := UInt16.toNat_sub_of_le _ _ h12
  by_cases h0 : p.absId = 0
  · rw [if_pos h0, show p.budget = p.mtu - 12 by rw [budget, h0]; rfl, hb]
  · rw [if_neg h0] at hm ⊢
    have h8 : (8 : UInt16) ≤ p.mtu - 12 := by
      rw [UInt16.le_iff_toNat_le, hb]; exact Nat.le_sub_of_add_le' hm
    have hp : p.budget = p.mtu - 12 - 8 := by
      rw [budget]; exact if_pos (by rw [bne_iff_ne.mpr h0, decide_eq_true (h8 : p.mtu - 12 ≥ 8)]; rfl)
    rw [hp, UInt16.toNat_sub_of_le _ _ h8, hb, Nat.sub_sub]; rfl

theorem budget_fits (p : Packetizer) {now : Int64} (hm : 12 + (if p.absId = 0 then 0 else 8) ≤ p.mtu.toNat) :
    p.budget.toNat + 12 + (if (extOf p now).isSome then 8 else 0) ≤ p.mtu.toNat := by
  rw [budget_toNat p hm, extOf_isSome]
  by_cases h0 : p.absId = 0 <;> simp [h0] at hm ⊢ <;> omega

theorem mkPkts_fits (p : Packetizer) (mtu : UInt16) (B : Nat) (ext : Option (UInt8 × Bytes)) (h3 : Ext3 ext)
    (hB : B + 12 + (if ext.isSome then 8 else 0) ≤ mtu.toNat)
    (s : SeqState) (frags : List Bytes) (hf : ∀ f ∈ frags, f.length ≤ B) :
    (mkPkts p ext s frags).1.all (fitsMtu mtu) = true := by
  refine mkPkts_all (fun v m e f he hmem => ?_) s
  obtain ⟨hs, b, hb, hl⟩ := mkPkt_size p v m e (h3.of_mem he) f
  have := hf f hmem
  have : (if e.isSome then 8 else 0) ≤ (if ext.isSome then 8 else 0) := by
    rcases he with rfl | rfl
    · exact Nat.zero_le _
    · exact Nat.le_refl _
  simp only [fitsMtu, hb, hl, Bool.and_self, decide_eq_true_eq, hs]
  omega

theorem mkPad_ok (cfg p : Packetizer) (hc : SameCfg cfg p) (v : UInt16) : padPkt cfg (mkPad p v) = true := by
  simp only [padPkt, mkPad, pad_wire, marshal_len_pad, Bool.true_and, beq_self_eq_true, hc.2.2]
  exact pt_flag cfg p hc

/-- c06_ts, c06_fields, c06_abs, c06_mtu, c06_wire, c06_padding by one induction.  The walks have
    overlapping patterns, so they are not unfolded by `simp`: a call that a clause ignores (an empty
    payload included) leaves goal and hypothesis definitionally equal, and `show` exposes the check
    at a `Packetize` call. -/
theorem run_calls (cfg p : Packetizer) (hc : SameCfg cfg p) (hv : AbsValid p) (ops : List PkOp)
    (hops : ops.all opWf = true) :
    tsWalk p.ts ops (p.run ops) = true ∧ fieldsOk cfg ops (p.run ops) = true ∧
    absWalk p.absId ops (p.run ops) = true ∧ mtuOk cfg ops (p.run ops) = true ∧
    wireOk cfg ops (p.run ops) = true ∧ paddingOk cfg ops (p.run ops) = true := by
  refine run_walk (W := fun p ops os => tsWalk p.ts ops os = true ∧ fieldsOk cfg ops os = true ∧
    absWalk p.absId ops os = true ∧ mtuOk cfg ops os = true ∧ wireOk cfg ops os = true ∧
    paddingOk cfg ops os = true) cfg (fun _ => ⟨rfl, rfl, rfl, rfl, rfl, rfl⟩) ?_ p hc hv ops hops
  intro p op ops os hc hv _ ih
  cases op with
  | packetize pay payload samples now =>
    cases payload with
    | nil => exact ih
    | cons b bs =>
      rw [step_packetize _ _ hv _ rfl] at ih ⊢
      obtain ⟨i1, i2, i3, i4, i5, i6⟩ := ih
      refine ⟨Bool.and_eq_true_iff.mpr ⟨mkPkts_ts _ _ _ _, i1⟩, ?_, Bool.and_eq_true_iff.mpr ⟨?_, i3⟩,
        Bool.and_eq_true_iff.mpr ⟨?_, i4⟩,
        Bool.and_eq_true_iff.mpr ⟨Bool.or_eq_true_iff.mpr (.inr (mkPkts_wire cfg p hc _ (extOf_ext3 p now) _ _)), i5⟩, i6⟩
      · show ((true && _ == _ && _ && _) && _) = true
        rw [i2, mkPkts_payloads, (mkPkts_shape p _ _ _).2.1, beq_self_eq_true,
          mkPkts_all (fun _ _ _ _ _ _ => by simp [fixedFieldsOk, mkPkt, hc.2.1, hc.2.2])]
        rfl
      · show (if p.absId == 0 then _ else if idValid p.absId = true then _ else true) = true
        rcases hv with h0 | hv
        · rw [if_pos (by rw [h0]; rfl), extOf_disabled h0]
          exact mkPkts_all (fun _ _ e _ he _ => by rcases he with rfl | rfl <;> rfl) _
        · have hne : (p.absId == 0) = false := by
            rw [beq_eq_false_iff_ne]; intro h0; rw [h0] at hv; exact absurd hv (by decide)
          rw [hne, if_neg Bool.false_ne_true, if_pos hv, extOf_enabled hv]
          exact (mkPkts_shape p _ _ _).2.2.1 _ rfl
      · show (if _ then _ else true) = true
        split
        · rename_i hcond
          simp only [Bool.and_eq_true, decide_eq_true_eq, List.all_eq_true] at hcond
          rw [← hc.1] at hcond ⊢
          exact mkPkts_fits p p.mtu p.budget.toNat _ (extOf_ext3 p now) (budget_fits p (by split <;> omega)) _ _ hcond.2
        · rfl
  | skip n => exact ih
  | padding n =>
    obtain ⟨i1, i2, i3, i4, i5, i6⟩ := ih
    refine ⟨i1, i2, i3, i4, i5, ?_⟩
    show ((mkPads p p.seq n.toNat).1.length == n.toNat && (mkPads p p.seq n.toNat).1.all (padPkt cfg) && _) = true
    rw [i6, (mkPads_shape p p.seq n.toNat).1, beq_self_eq_true, Bool.true_and, Bool.and_true, List.all_eq_true]
    intro q hq
    obtain ⟨v, rfl⟩ := mkPads_mem hq
    exact mkPad_ok cfg p hc v
  | enableAbs id => exact ih

/-- the two parts of the domain the C06 proofs use come first; MTU ≥ 64 is asked again by `mtuOk` itself,
    and `pt < 128` only guards the modelled round-trip flag -/
theorem wf_parts {cfg : Packetizer} {ops : List PkOp} (h : wf cfg ops = true) :
    AbsValid cfg ∧ ops.all opWf = true ∧ 64 ≤ cfg.mtu.toNat ∧ cfg.pt.toNat < 128 := by
  simp only [wf, Bool.and_eq_true, decide_eq_true_eq, Bool.or_eq_true, beq_iff_eq] at h
  exact ⟨h.1.2, h.2, h.1.1.1, h.1.1.2⟩

def execP (p : Packetizer) : List PkOp → Packetizer
  | [] => p
  | op :: ops => execP (p.step op).2 ops

/-- samples of the non-empty `Packetize` calls plus skipped samples, mod 2^32 -/
def elapsed : List PkOp → UInt32
  | [] => 0
  | .packetize _ payload samples _ :: ops => (if payload.isEmpty then 0 else samples) + elapsed ops
  | .skip n :: ops => n + elapsed ops
  | _ :: ops => elapsed ops

theorem execP_absValid (p : Packetizer) (hv : AbsValid p) (ops : List PkOp) (hops : ops.all opWf = true) :
    AbsValid (execP p ops) := by
  induction ops generalizing p with
  | nil => exact hv
  | cons op ops ih =>
    rw [List.all_cons, Bool.and_eq_true] at hops
    exact ih _ (step_absValid p hv op hops.1) hops.2

theorem execP_ts (p : Packetizer) (ops : List PkOp) : (execP p ops).ts = p.ts + elapsed ops := by
  induction ops generalizing p with
  | nil => exact (UInt32.add_zero _).symm
  | cons op ops ih =>
    cases op with
    | packetize pay payload samples now =>
      obtain ⟨seq, hs⟩ := packetize_state pay p payload samples now
      rw [execP, ih, elapsed, ← UInt32.add_assoc]
      show (p.packetize pay payload samples now).2.2.ts + _ = _
      rw [hs]
    | skip n => rw [execP, ih, elapsed, ← UInt32.add_assoc]; rfl
    | padding n => exact ih _
    | enableAbs id => exact ih _

theorem run_append (p : Packetizer) (ops1 ops2 : List PkOp) :
    p.run (ops1 ++ ops2) = p.run ops1 ++ (execP p ops1).run ops2 := by
  induction ops1 generalizing p with
  | nil => rfl
  | cons op ops ih => simp [Packetizer.run, execP, ih]

/-- bits 14–37 of a 32.32 fixed-point number: the low 6 bits of the integer part over the high 18
    of the fraction -/
theorem fix_mid (A F : Nat) (hF : F < 4294967296) :
    (A * 4294967296 + F) / 16384 % 16777216 = A % 64 * 262144 + F / 16384 := by
  have hG : F / 16384 < 262144 := Nat.div_lt_of_lt_mul hF
  rw [show A * 4294967296 = 16384 * (A * 262144) by omega, Nat.mul_add_div (by decide)]
  omega

/-- bits 14–37 of the 32.32 NTP time are the 6.18 value: 6 bits of seconds, 18 of the fraction -/
theorem abs_value (now : Int64) :
    (toNtpTime now >>> 14).toNat % 16777216 = absValue now.toUInt64.toNat := by
  rw [u64_shr _ 14 14 rfl, show toNtpTime now = Ntp.toNtpTime now.toUInt64 from rfl, Ntp.toNtpTime_toNat,
    Ntp.ntpNat, absValue]
  generalize now.toUInt64.toNat = ns
  have hfr : ns % 1000000000 < 1000000000 := Nat.mod_lt _ (by decide)
  -- the fraction `fr * 2^32 / 10^9` shifted right by 14 is `fr * 2^18 / 10^9`
  rw [fix_mid _ _ (Nat.div_lt_of_lt_mul (Nat.mul_lt_mul_of_pos_right hfr (by decide))),
    Nat.mod_mod_of_dvd _ (by decide : 64 ∣ 4294967296), Nat.div_div_eq_div_mul,
    show ns % 1000000000 * 4294967296 = ns % 1000000000 * 262144 * 16384 by rw [Nat.mul_assoc],
    Nat.mul_div_mul_right _ _ (by decide)]

theorem be24n_mod (n : Nat) : be24n (n % 16777216) = [(n / 65536).toUInt8, (n / 256).toUInt8, n.toUInt8] := by
  rw [be24n, show 16777216 = 65536 * 256 from rfl, Nat.mod_mul_right_div_self, toUInt8_mod,
    show 65536 * 256 = 256 * 65536 from rfl, Nat.mod_mul_right_div_self,
    Nat.mod_mod_of_dvd _ (by decide : 256 ∣ 65536), toUInt8_mod,
    Nat.mod_mod_of_dvd _ (by decide : 256 ∣ 256 * 65536), toUInt8_mod]

theorem low24_bytes (t : UInt64) :
    [((t &&& 0xFF0000) >>> 16).toUInt8, ((t &&& 0xFF00) >>> 8).toUInt8, (t &&& 0xFF).toUInt8] =
      be24n (t.toNat % 16777216) := by
  rw [be24n_mod]
  congr 1
  · rw [eq_toUInt8_iff, u64_toUInt8_toNat, u64_and_shr t _ 16 16 8 rfl rfl]; exact Nat.mod_mod _ _
  · congr 1
    · rw [eq_toUInt8_iff, u64_toUInt8_toNat, u64_and_shr t _ 8 8 8 rfl rfl]; exact Nat.mod_mod _ _
    · congr 1
      rw [eq_toUInt8_iff, u64_toUInt8_toNat, u64_and_mask t _ 8 rfl]; exact Nat.mod_mod _ _

/-- `NewAbsSendTimeExtension(t).Marshal()` is the spec's 6.18 fixed-point value of the instant, for
    EVERY clock reading (`ns` = `uint64(t.UnixNano())`, which is the Unix time in ns when that is ≥ 0) -/
theorem abs_bytes_spec (now : Int64) : absSendTimeBytes now = be24n (absValue now.toUInt64.toNat) := by
  rw [← abs_value]; exact low24_bytes _

end Rtp.Proofs.Packetizer
