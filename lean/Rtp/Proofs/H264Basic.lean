/-
  Rtp/Proofs/H264Basic.lean — the H264 receiver model: `Unmarshal` packet kind by packet kind in the
  terms of Spec/Rfc6184.lean, and what follows by going through the kinds: no panic; only FU-A looks
  at the buffer, and a fragment with S = 1 discards it.  Then runs over payload sequences: a
  self-starting sequence gives the same results from any buffer (`run_selfStarting`, C15).
-/
import Rtp.Proofs.H264Hdr
import Rtp.Pred.C15H264
namespace Rtp.Proofs.H264
open Rtp Rtp.Model Rtp.Model.H264 Rtp.Spec.Rfc6184 Rtp.Pred.C15H264

theorem unmarshal_cons (avc : Bool) (buf : Bytes) (h : UInt8) (rest : Bytes) :
    unmarshal avc buf (h :: rest) =
      if 1 ≤ hType h ∧ hType h ≤ 23 then (.ok (package avc (h :: rest)), buf)
      else if hType h = 24 then (stapLoop avc rest, buf)
      else if hType h = 28 then
        match rest with
        | [] => (.err .short, buf)
        | fh :: body =>
          if fuE fh then
            (.ok (package avc (((h &&& naluRefIdcBitmask) ||| (fh &&& naluTypeBitmask)) ::
              ((if fuS fh then [] else buf) ++ body))), [])
          else (.ok [], (if fuS fh then [] else buf) ++ body)
      else (.err .other, buf) := by
  simp only [unmarshal, single_test, type_test, fuS_mask, fuE_mask, decide_eq_true_iff, beq_iff_eq]
  rfl

theorem unmarshal_single (avc : Bool) (buf : Bytes) (h : UInt8) (body : Bytes)
    (ht : 1 ≤ hType h ∧ hType h ≤ 23) :
    unmarshal avc buf (h :: body) = (.ok (package avc (h :: body)), buf) := by
  rw [unmarshal_cons, if_pos ht]

theorem unmarshal_stap (avc : Bool) (buf : Bytes) (h : UInt8) (rest : Bytes) (ht : hType h = 24) :
    unmarshal avc buf (h :: rest) = (stapLoop avc rest, buf) := by
  rw [unmarshal_cons, if_neg (by omega), if_pos ht]

theorem unmarshal_fua_short (avc : Bool) (buf : Bytes) (h : UInt8) (e : hType h = 28) :
    unmarshal avc buf [h] = (.err .short, buf) := by
  rw [unmarshal_cons, if_neg (by omega), if_neg (by omega), if_pos e]

theorem unmarshal_fua (avc : Bool) (buf : Bytes) (h fh : UInt8) (tl : Bytes) (e : hType h = 28) :
    unmarshal avc buf (h :: fh :: tl) =
      (if fuE fh then
        (.ok (package avc (((h &&& naluRefIdcBitmask) ||| (fh &&& naluTypeBitmask)) ::
                ((if fuS fh then [] else buf) ++ tl))), [])
       else (.ok [], (if fuS fh then [] else buf) ++ tl)) := by
  rw [unmarshal_cons, if_neg (by omega), if_neg (by omega), if_pos e]

theorem unmarshal_bad (avc : Bool) (buf : Bytes) (h : UInt8) (rest : Bytes)
    (ht : hType h = 0 ∨ 25 ≤ hType h ∧ hType h ≠ 28) :
    unmarshal avc buf (h :: rest) = (.err .other, buf) := by
  rw [unmarshal_cons, if_neg (by omega), if_neg (by omega), if_neg (by omega)]

theorem stapLoop_ne_panic (avc : Bool) (rest : Bytes) : stapLoop avc rest ≠ .panic := by
  fun_induction stapLoop avc rest with
  | case1 a b tl n h => simp
  | case2 a b tl n h r hr ih => simp
  | case3 a b tl n h hne ih => exact ih
  | case4 rest h => simp

theorem unmarshal_ne_panic (avc : Bool) (buf payload : Bytes) :
    (unmarshal avc buf payload).1 ≠ .panic := by
  match payload with
  | [] => nofun
  | h :: rest =>
    rcases type_cases h with ht | ht | ht | ht
    · rw [unmarshal_single avc buf h rest ht]; nofun
    · rw [unmarshal_stap avc buf h rest ht]; exact stapLoop_ne_panic avc rest
    · match rest with
      | [] => rw [unmarshal_fua_short avc buf h ht]; nofun
      | fh :: tl => rw [unmarshal_fua avc buf h fh tl ht]; split <;> nofun
    · rw [unmarshal_bad avc buf h rest ht]; nofun

theorem unmarshal_other (avc : Bool) (buf : Bytes) (p : Bytes)
    (hp : ∀ h fh tl, p = h :: fh :: tl → hType h ≠ 28) :
    unmarshal avc buf p = ((unmarshal avc [] p).1, buf) := by
  match p with
  | [] => rfl
  | h :: rest =>
    rcases type_cases h with ht | ht | ht | ht
    · rw [unmarshal_single avc buf h rest ht, unmarshal_single avc [] h rest ht]
    · rw [unmarshal_stap avc buf h rest ht, unmarshal_stap avc [] h rest ht]
    · match rest with
      | [] => rw [unmarshal_fua_short avc buf h ht, unmarshal_fua_short avc [] h ht]
      | fh :: tl => exact absurd ht (hp h fh tl rfl)
    · rw [unmarshal_bad avc buf h rest ht, unmarshal_bad avc [] h rest ht]

theorem run_append (avc : Bool) (buf : Bytes) (a b : List Bytes) :
    run avc buf (a ++ b) =
      ((run avc buf a).1 ++ (run avc (run avc buf a).2 b).1, (run avc (run avc buf a).2 b).2) := by
  induction a generalizing buf with
  | nil => rfl
  | cons p ps ih => simp only [List.cons_append, run, ih]

theorem run_length (avc : Bool) (buf : Bytes) (ps : List Bytes) : (run avc buf ps).1.length = ps.length := by
  induction ps generalizing buf with
  | nil => rfl
  | cons p ps ih => simp only [run, List.length_cons, ih]

/-- two receivers whose buffers may differ while no unit is open in the frame give the same
    results on a self-starting payload sequence.  The buffers are equal whenever a unit is open: a
    fragment with S = 1 makes both `[] ++ tl` (case2: the two sides are then the same term), one
    without S needs an open unit, and everything else ignores the buffer (`unmarshal_other`). -/
theorem run_selfStarting (avc : Bool) (ps : List Bytes) (inUnit : Bool) :
    ∀ (b1 b2 : Bytes), selfStarting inUnit ps = true → (inUnit = true → b1 = b2) →
      (run avc b1 ps).1 = (run avc b2 ps).1 := by
  fun_induction selfStarting inUnit ps <;> intro b1 b2 hs hb
  case case1 => rfl
  case case2 inUnit ps h fh tl e hS ih =>
    simp only [run, unmarshal_fua avc _ h fh tl e, hS, if_true]
  case case3 inUnit ps h fh tl e hS ih =>
    rw [Bool.and_eq_true] at hs
    cases hb hs.1
    rfl
  case case4 inUnit ps h fh tl e ih =>
    have hp : ∀ h' fh' tl', h :: fh :: tl = h' :: fh' :: tl' → hType h' ≠ 28 := by
      intro _ _ _ eq; cases eq; exact e
    simp only [run]
    rw [unmarshal_other avc b1 _ hp, unmarshal_other avc b2 _ hp, ih b1 b2 hs hb]
  case case5 inUnit p ps hp ih =>
    have hp' : ∀ h fh tl, p = h :: fh :: tl → hType h ≠ 28 := fun h fh tl eq => (hp h fh tl eq).elim
    simp only [run]
    rw [unmarshal_other avc b1 _ hp', unmarshal_other avc b2 _ hp', ih b1 b2 hs hb]

end Rtp.Proofs.H264
