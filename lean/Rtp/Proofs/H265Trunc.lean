/-
  Rtp/Proofs/H265Trunc.lean — `H265Packet.Unmarshal` on every proper prefix of every well-formed
  payload: rejected when the cut falls inside a mandatory field, otherwise the shorter packet.
-/
import Rtp.Proofs.H265Parse
namespace Rtp.Model.H265
open Rtp Rtp.Bits Rtp.Spec.Rfc7798 Rtp.Pred

theorem decode_short (mode : Bool) (l : Bytes) (h : l.length ≤ 2) : (decode mode (some l)).isErr = true := by
  match l, h with
  | [], _ => rfl
  | [_], _ => rfl
  | [_, _], _ => rfl

theorem take_prefix_ge (A p : Bytes) (n : Nat) (h : A.length ≤ n) : (A ++ p).take n = A ++ p.take (n - A.length) := by
  rw [List.take_append, List.take_of_length_le h]

theorem take_ne_nil (p : Bytes) (k : Nat) (hk : 0 < k) (hp : p ≠ []) : p.take k ≠ [] := by
  rw [Ne, List.take_eq_nil_iff, not_or]
  exact ⟨by omega, hp⟩

/- The three packet forms that end in a payload, cut after `n` octets.  A cut inside the mandatory front is
   rejected by the sub-parser the payload header names (`parseX_short`); a later cut leaves the front and a
   shorter, still non-empty payload, which decodes as any such packet does (`decode_X`). -/
theorem trunc_single (mode : Bool) (h : Hdr) (d : Option UInt16) (p : Bytes) (n : Nat)
    (hwf : (Packet.single h d p).WF mode = true) :
    C14.decOk mode (.single h d p) (some n) ((encode (.single h d p)).take n)
      (decObs mode ((encode (.single h d p)).take n)) = true := by
  simp only [Packet.WF, Bool.and_eq_true, Bool.not_eq_true', bne_iff_ne, ne_eq, beq_iff_eq,
    List.isEmpty_eq_false_iff] at hwf
  obtain ⟨⟨⟨⟨⟨⟨hw, hf⟩, h48⟩, h49⟩, h50⟩, hd⟩, hp⟩ := hwf
  obtain ⟨a, b, hb, hv, e1, e2⟩ := hdr_bytes h hw
  have hfl : (h.bytes ++ donlBytes d).length = 2 + (if mode then 2 else 0) := by
    rw [List.length_append, hb, donlBytes_length hd]; rfl
  simp only [C14.decOk, beq_self_eq_true, Bool.true_and, decObs, C14.mandatory, encode]
  by_cases hlt : n < 2 + (if mode then 2 else 0) + 1
  · simp only [hlt, if_true]
    by_cases h2 : n ≤ 2
    · exact decode_short _ _ (by rw [List.length_take]; omega)
    · have hs := parseSingle_short mode ((h.bytes ++ donlBytes d ++ p).take n) (by rw [List.length_take]; omega)
      rw [hb, List.append_assoc, take_prefix_ge [a, b] _ n (by simp only [List.length_cons, List.length_nil]; omega)]
        at hs ⊢
      have hne := take_ne_nil (donlBytes d ++ p) (n - 2) (by omega) (List.append_ne_nil_of_right_ne_nil _ hp)
      simpa [decode, unmarshal_cons mode a b _ hne, hdrIsPACI, hdrIsFU, hdrIsAgg, e1, e2, hf, h48, h49, h50]
        using hs
  · simp only [hlt, if_false, C14.cutPacket, beq_iff_eq]
    rw [take_prefix_ge _ p n (by rw [hfl]; omega), hfl]
    exact decode_single mode h d _ hw hf h48 h49 h50 hd (take_ne_nil p _ (by omega) hp)

theorem trunc_fu (mode : Bool) (h : Hdr) (s e : Bool) (t : UInt8) (d : Option UInt16) (p : Bytes) (n : Nat)
    (hwf : (Packet.fu h s e t d p).WF mode = true) :
    C14.decOk mode (.fu h s e t d p) (some n) ((encode (.fu h s e t d p)).take n)
      (decObs mode ((encode (.fu h s e t d p)).take n)) = true := by
  simp only [Packet.WF, Bool.and_eq_true, Bool.not_eq_true', beq_iff_eq, decide_eq_true_eq,
    List.isEmpty_eq_false_iff] at hwf
  obtain ⟨⟨⟨⟨⟨hw, hf⟩, h49⟩, ht⟩, hd⟩, hp⟩ := hwf
  obtain ⟨a, b, hb, hv, e1, e2⟩ := hdr_bytes h hw
  obtain ⟨f1, _, _⟩ := fuByte_fields s e t ht
  have hfl : (h.bytes ++ [fuByte s e t] ++ donlBytes d).length = 3 + (if mode && s then 2 else 0) := by
    simp only [List.length_append, hb, donlBytes_length hd]; rfl
  simp only [C14.decOk, beq_self_eq_true, Bool.true_and, decObs, C14.mandatory, encode]
  by_cases hlt : n < 3 + (if mode && s then 2 else 0) + 1
  · simp only [hlt, if_true]
    by_cases h2 : n ≤ 2
    · exact decode_short _ _ (by rw [List.length_take]; omega)
    · have hs := parseFU_short mode a b (fuByte s e t) ((donlBytes d ++ p).take (n - 3))
        (by rw [f1, Bool.and_comm, List.length_take]; omega)
      rw [hb, List.append_assoc, take_prefix_ge ([a, b] ++ [fuByte s e t]) _ n (by simp; omega)]
      simpa [decode, unmarshal_cons mode a b _ (List.cons_ne_nil _ _), hdrIsPACI, hdrIsFU, e1, e2, hf, h49]
        using hs
  · simp only [hlt, if_false, C14.cutPacket, beq_iff_eq]
    rw [take_prefix_ge _ p n (by rw [hfl]; omega), hfl]
    exact decode_fu mode h s e t d _ hw hf h49 ht hd (take_ne_nil p _ (by omega) hp)

theorem trunc_paci (mode : Bool) (h : Hdr) (a : Bool) (c phs : UInt8) (f0 f1 f2 y : Bool) (phes p : Bytes)
    (n : Nat) (hwf : (Packet.paci h a c phs f0 f1 f2 y phes p).WF mode = true) :
    C14.decOk mode (.paci h a c phs f0 f1 f2 y phes p) (some n)
      ((encode (.paci h a c phs f0 f1 f2 y phes p)).take n)
      (decObs mode ((encode (.paci h a c phs f0 f1 f2 y phes p)).take n)) = true := by
  simp only [Packet.WF, Bool.and_eq_true, Bool.not_eq_true', beq_iff_eq, decide_eq_true_eq,
    List.isEmpty_eq_false_iff] at hwf
  obtain ⟨⟨⟨⟨⟨⟨hw, hf⟩, h50⟩, hc⟩, hp⟩, hl⟩, hq⟩ := hwf
  obtain ⟨a0, b0, hb, hv, e1, e2⟩ := hdr_bytes h hw
  obtain ⟨x, y', hx, _, hy⟩ := u16be_bytes_lt _ (paciWord_lt a c phs f0 f1 f2 y hc hp)
  obtain ⟨_, _, p3, _⟩ := paci_fields a c phs f0 f1 f2 y hc hp _ hy
  have hfl : (h.bytes ++ u16be (paciWord a c phs f0 f1 f2 y) ++ phes).length = 4 + phs.toNat := by
    simp only [List.length_append, hb, hx, hl]; rfl
  simp only [C14.decOk, beq_self_eq_true, Bool.true_and, decObs, C14.mandatory, encode]
  by_cases hlt : n < 4 + phs.toNat + 1
  · simp only [hlt, if_true]
    by_cases h2 : n ≤ 2
    · exact decode_short _ _ (by rw [List.length_take]; omega)
    · have hshort : ((h.bytes ++ u16be (paciWord a c phs f0 f1 f2 y) ++ phes ++ p).take n).length ≤ 4 +
          (paciPHS (rd16 (((h.bytes ++ u16be (paciWord a c phs f0 f1 f2 y) ++ phes ++ p).take n).getD 2 0)
            (((h.bytes ++ u16be (paciWord a c phs f0 f1 f2 y) ++ phes ++ p).take n).getD 3 0))).toNat := by
        rw [List.length_take]
        by_cases h4 : n ≤ 4
        · omega
        · rw [hb, hx, show [a0, b0] ++ [x, y'] ++ phes ++ p = [a0, b0, x, y'] ++ (phes ++ p) by simp,
            take_prefix_ge _ _ n (by simp; omega)]
          simp only [List.cons_append, List.nil_append, List.getD_cons_succ, List.getD_cons_zero, p3]
          omega
      have hs := parsePACI_short _ hshort
      rw [hb, List.append_assoc, List.append_assoc, take_prefix_ge [a0, b0] _ n (by simp; omega)] at hs ⊢
      have hne := take_ne_nil (u16be (paciWord a c phs f0 f1 f2 y) ++ (phes ++ p)) (n - 2) (by omega)
        (by simp [hx])
      simpa [decode, unmarshal_cons mode a0 b0 _ hne, hdrIsPACI, e1, e2, hf, h50] using hs
  · simp only [hlt, if_false, C14.cutPacket, beq_iff_eq]
    rw [take_prefix_ge _ p n (by rw [hfl]; omega), hfl]
    exact decode_paci mode h a c phs f0 f1 f2 y phes _ hw hf h50 hc hp hl (take_ne_nil p _ (by omega) hq)

/-- a cut inside an aggregation unit: the loop stops there -/
theorem prefix_noparse (mode : Bool) (u : Option UInt8 × Bytes) (hu1 : u.1.isSome = mode)
    (hu2 : u.2.length < 65536) (j : Nat) (hj : j < (unitBytes u).length) (k : Nat) :
    parseAggRest mode k ((unitBytes u).take j) = [] := by
  cases k with
  | zero => rfl
  | succ k =>
    obtain ⟨dd, nal⟩ := u
    obtain ⟨x, y, hx, _, hy⟩ := u16be_bytes_lt nal.length hu2
    simp only at hu1 hu2
    cases dd with
    | none =>
      simp at hu1; subst hu1
      simp only [unitBytes, dondBytes, hx, List.nil_append, List.length_append, List.length_cons,
        List.length_nil] at hj ⊢
      match j, hj with
      | 0, _ => simp [parseAggRest]
      | 1, _ => simp [parseAggRest]
      | j + 2, hj =>
        simp [parseAggRest, hy]; omega
    | some d =>
      simp at hu1; subst hu1
      simp only [unitBytes, dondBytes, hx, List.length_append, List.length_cons, List.length_nil] at hj ⊢
      match j, hj with
      | 0, _ => simp [parseAggRest]
      | 1, _ => simp [parseAggRest]
      | 2, _ => simp [parseAggRest]
      | j + 3, hj =>
        simp [parseAggRest, hy]; omega

/-- cutting the unit list: the complete units, then a strict prefix of the next one -/
theorem take_units (rest : List (Option UInt8 × Bytes)) (n : Nat)
    (hn : n < ((rest.map unitBytes).flatten).length) :
    ∃ u ∈ rest, ∃ j, j < (unitBytes u).length ∧
      ((rest.map unitBytes).flatten).take n =
        ((C14.unitsWithin n rest).map unitBytes).flatten ++ (unitBytes u).take j := by
  induction rest generalizing n with
  | nil => simp at hn
  | cons v vs ih =>
    simp only [List.map_cons, List.flatten_cons, List.length_append] at hn ⊢
    by_cases hle : (unitBytes v).length ≤ n
    · obtain ⟨u, hu, j, hj, he⟩ := ih (n - (unitBytes v).length) (by omega)
      refine ⟨u, by simp [hu], j, hj, ?_⟩
      simp only [C14.unitsWithin, hle, if_true, List.map_cons, List.flatten_cons, List.append_assoc]
      rw [take_prefix_ge _ _ _ hle, he]
    · refine ⟨v, by simp, n, by omega, ?_⟩
      simp only [C14.unitsWithin, hle, if_false, List.map_nil, List.flatten_nil, List.nil_append]
      rw [List.take_append_of_le_length (by omega)]

theorem unitsWithin_sub (n : Nat) (rest : List (Option UInt8 × Bytes)) :
    ∀ u ∈ C14.unitsWithin n rest, u ∈ rest := by
  induction rest generalizing n with
  | nil => intro u hu; simp [C14.unitsWithin] at hu
  | cons v vs ih =>
    intro u hu
    simp only [C14.unitsWithin] at hu
    split at hu
    · simp only [List.mem_cons] at hu
      rcases hu with rfl | hu
      · simp
      · simp [ih _ u hu]
    · simp at hu

/-- an aggregation packet whose first unit is cut, or with no complete second unit, is rejected -/
theorem ap_err (mode : Bool) (h : Hdr) (d : Option UInt16) (L : Nat) (r : Bytes)
    (hw : h.WF = true) (hf : h.f = false) (h48 : h.type = 48) (hd : d.isSome = mode) (hL : L < 65536)
    (hbad : r.length < L ∨ parseAggRest mode r.length (r.drop L) = []) :
    (decode mode (some (h.bytes ++ donlBytes d ++ u16be L ++ r))).isErr = true := by
  obtain ⟨a, b, hb, hv, e1, e2⟩ := hdr_bytes h hw
  obtain ⟨x, y, hx, _, hy⟩ := u16be_bytes_lt L hL
  have hin : h.bytes ++ donlBytes d ++ u16be L ++ r = a :: b :: (donlBytes d ++ x :: y :: r) := by
    simp [hb, hx]
  rw [hin, decode, Res.isErr_coarse, Res.isErr_map, unmarshal_cons mode a b _ (by simp),
    parseAgg_of mode a b d x y r hd]
  rcases hbad with hbad | hbad
  · simp [hdrIsPACI, hdrIsFU, hdrIsAgg, e1, e2, hf, h48, hy, hbad]
  · by_cases hlt : r.length < L
    · simp [hdrIsPACI, hdrIsFU, hdrIsAgg, e1, e2, hf, h48, hy, hlt]
    · simp [hdrIsPACI, hdrIsFU, hdrIsAgg, e1, e2, hf, h48, hy, hlt, hbad]

theorem trunc_ap (mode : Bool) (h : Hdr) (d : Option UInt16) (first : Bytes)
    (rest : List (Option UInt8 × Bytes)) (n : Nat)
    (hwf : (Packet.ap h d first rest).WF mode = true) (hn : n < (encode (.ap h d first rest)).length) :
    C14.decOk mode (.ap h d first rest) (some n) ((encode (.ap h d first rest)).take n)
      (decObs mode ((encode (.ap h d first rest)).take n)) = true := by
  simp only [Packet.WF, Bool.and_eq_true, Bool.not_eq_true', beq_iff_eq, decide_eq_true_eq,
    List.isEmpty_eq_false_iff, List.all_eq_true] at hwf
  obtain ⟨⟨⟨⟨⟨⟨hw, hf⟩, h48⟩, hd⟩, hfl⟩, hne⟩, hr⟩ := hwf
  obtain ⟨a, b, hb, hv, e1, e2⟩ := hdr_bytes h hw
  obtain ⟨x, y, hx, _, hy⟩ := u16be_bytes_lt first.length hfl
  obtain ⟨u2, rest', rfl⟩ := List.exists_cons_of_ne_nil hne
  simp only [C14.decOk, beq_self_eq_true, Bool.true_and, decObs, C14.mandatory]
  -- the fixed-size front: payload header, DONL, size of the first unit
  have hdl := donlBytes_length hd
  have henc : encode (.ap h d first (u2 :: rest')) =
      (h.bytes ++ donlBytes d ++ u16be first.length) ++ (first ++ ((u2 :: rest').map unitBytes).flatten) := by
    simp [encode]
  have hp0 : (h.bytes ++ donlBytes d ++ u16be first.length).length = 2 + (if mode then 2 else 0) + 2 := by
    simp [hb, hdl, hx]; omega
  rw [henc] at hn ⊢
  simp only [List.length_append, hp0] at hn
  by_cases hshort : n < 2 + (if mode then 2 else 0) + 2
  · -- inside the payload header, the DONL or the first size field
    have hm : n < 2 + (if mode then 2 else 0) + 2 + first.length + (unitBytes u2).length := by omega
    simp only [hm, if_true]
    by_cases h2 : n ≤ 2
    · exact decode_short _ _ (by rw [List.length_take]; omega)
    · generalize first ++ ((u2 :: rest').map unitBytes).flatten = T
      have hs := parseAgg_short mode ((h.bytes ++ donlBytes d ++ u16be first.length ++ T).take n)
        (by rw [List.length_take]; omega)
      rw [hb, List.append_assoc, List.append_assoc, take_prefix_ge [a, b] _ n (by simp; omega)] at hs ⊢
      have hne := take_ne_nil (donlBytes d ++ (u16be first.length ++ T)) (n - 2) (by omega) (by simp [hx])
      simpa [decode, unmarshal_cons mode a b _ hne, hdrIsPACI, hdrIsFU, hdrIsAgg, e1, e2, hf, h48] using hs
  · rw [take_prefix_ge _ _ n (by rw [hp0]; omega), hp0]
    by_cases hfirst : n - (2 + (if mode then 2 else 0) + 2) < first.length
    · -- inside the first unit
      have hm : n < 2 + (if mode then 2 else 0) + 2 + first.length + (unitBytes u2).length := by omega
      simp only [hm, if_true]
      apply ap_err mode h d first.length _ hw hf h48 hd hfl
      left
      rw [List.length_take, List.length_append]; omega
    · rw [take_prefix_ge first _ _ (by omega)]
      have hn' : n - (2 + (if mode then 2 else 0) + 2) - first.length <
          (((u2 :: rest').map unitBytes).flatten).length := by omega
      obtain ⟨u, hu, j, hj, htk⟩ := take_units (u2 :: rest') _ hn'
      rw [htk]
      have hnp := prefix_noparse mode u (hr u hu).1 (hr u hu).2 j hj
      by_cases hm : n < 2 + (if mode then 2 else 0) + 2 + first.length + (unitBytes u2).length
      · -- inside the second unit: no complete second unit, rejected
        simp only [hm, if_true]
        have hW : C14.unitsWithin (n - (2 + (if mode then 2 else 0) + 2) - first.length) (u2 :: rest') = [] := by
          simp only [C14.unitsWithin]; rw [if_neg]; omega
        apply ap_err mode h d first.length _ hw hf h48 hd hfl
        right
        rw [hW]
        simp only [List.map_nil, List.flatten_nil, List.nil_append, List.drop_left']
        exact hnp _
      · -- after the second unit: the complete units are decoded, the rest is ignored
        simp only [hm, if_false, C14.cutPacket]
        have hW : C14.unitsWithin (n - (2 + (if mode then 2 else 0) + 2) - first.length) (u2 :: rest') ≠ [] := by
          simp only [C14.unitsWithin]; rw [if_pos (by omega)]; simp
        have hsub := unitsWithin_sub (n - (2 + (if mode then 2 else 0) + 2) - first.length) (u2 :: rest')
        have := decode_ap_trailing mode h d first _ ((unitBytes u).take j) hw hf h48 hd hfl hW
          (fun v hv => hr v (hsub v hv)) hnp
        have e3 : n - (2 + (if mode then 2 else 0) + 2 + first.length) =
            n - (2 + (if mode then 2 else 0) + 2) - first.length := by omega
        rw [e3]
        simp only [encode, List.append_assoc] at this ⊢
        simp [this, Packet.tsci]

/-- only the aggregation packet needs `hn`: its `mandatory` reaches into the second unit -/
theorem trunc_all (mode : Bool) (desc : Packet) (n : Nat) (hwf : desc.WF mode = true)
    (hn : n < (encode desc).length) :
    C14.decOk mode desc (some n) ((encode desc).take n) (decObs mode ((encode desc).take n)) = true := by
  cases desc with
  | single h d p => exact trunc_single mode h d p n hwf
  | ap h d first rest => exact trunc_ap mode h d first rest n hwf hn
  | fu h s e t d p => exact trunc_fu mode h s e t d p n hwf
  | paci h a c phs f0 f1 f2 y phes p => exact trunc_paci mode h a c phs f0 f1 f2 y phes p n hwf

end Rtp.Model.H265
