/-
  Rtp/Proofs/VLADec.lean — Unmarshal on arbitrary bytes.  One lemma per stage of the decoder says
  what it can return: never a panic, never an offset beyond the input, and layers of a fixed shape.
  Together: Unmarshal is safe (`unmarshal_safe`), and everything it accepts has stream count 1–4,
  layers in strictly ascending (stream, spatial id) order with ids in range, 1–4 temporal layers each,
  resolution fields in their representable range or zero when absent (`Decoded`); hence a decoded
  allocation passes Marshal's validation again as soon as its RID is below the stream count.
-/
import Rtp.Proofs.VLA
import Rtp.Proofs.VLABuf
import Rtp.Proofs.Leb128Go
import Rtp.Proofs.Lib.UInt
namespace Rtp.Model.Vla
open Rtp Rtp.Spec.VlaSpec

/-- what every successful Unmarshal leaves in the receiver; the RID is two header bits of their own, so it is
    bounded by 3, not by the stream count -/
def Decoded (v : VLA) : Prop :=
  1 ≤ v.count ∧ v.count ≤ 4 ∧ 0 ≤ v.rid ∧ v.rid ≤ 3 ∧
  v.layers.Pairwise Layer.before ∧
  (∀ l ∈ v.layers, LayerOk v.count l) ∧
  (v.hasRes = true → ∀ l ∈ v.layers, l.ResWF) ∧
  (v.hasRes = false → ∀ l ∈ v.layers, l.width = 0 ∧ l.height = 0 ∧ l.fps = 0)

def slotOf (l : Layer) : Int × Int := (l.stream, l.spatial)
def castSlot (p : Nat × Nat) : Int × Int := ((p.1 : Int), (p.2 : Int))

/-- a layer as the #tl loop creates it -/
def Fresh (l : Layer) : Prop :=
  1 ≤ l.rates.length ∧ l.rates.length ≤ 4 ∧ l.width = 0 ∧ l.height = 0 ∧ l.fps = 0

theorem fresh_tlLayer (s k : Nat) (x : UInt8) : Fresh (tlLayer s k ((x &&& 3).toNat + 1)) := by
  have : (x &&& 3).toNat ≤ 3 := u8_and_le x 3
  refine ⟨?_, ?_, rfl, rfl, rfl⟩ <;> simp only [tlLayer, List.length_replicate] <;> omega

/-! ### the slot enumeration is sorted and in range -/

theorem eq_of_ite_none_some {α : Type} {c : Prop} [Decidable c] {a b : α}
    (h : (if c then none else some a) = some b) : b = a := by
  split at h
  · cases h
  · exact (Option.some.inj h).symm

theorem activeSlots_mem (count : Nat) (masks : List UInt8) (p : Nat × Nat)
    (h : p ∈ activeSlots count masks) : p.1 < count ∧ p.2 < 4 := by
  unfold activeSlots at h
  obtain ⟨s, hs, hp⟩ := List.mem_flatMap.mp h
  obtain ⟨k, hk, hf⟩ := List.mem_filterMap.mp hp
  rw [eq_of_ite_none_some hf]
  exact ⟨List.mem_range.mp hs, List.mem_range.mp hk⟩

theorem activeSlots_sorted (count : Nat) (masks : List UInt8) :
    (activeSlots count masks).Pairwise (fun a b => a.1 < b.1 ∨ (a.1 = b.1 ∧ a.2 < b.2)) := by
  unfold activeSlots
  rw [List.pairwise_flatMap]
  refine ⟨?_, ?_⟩
  · intro s _
    apply List.Pairwise.filterMap _ _ (List.pairwise_lt_range (n := 4))
    intro k k' hkk b hb b' hb'
    rw [eq_of_ite_none_some hb, eq_of_ite_none_some hb']
    exact Or.inr ⟨rfl, hkk⟩
  · apply List.Pairwise.imp _ (List.pairwise_lt_range (n := count))
    intro s s' hss x hx y hy
    obtain ⟨k, _, hf⟩ := List.mem_filterMap.mp hx
    obtain ⟨k', _, hf'⟩ := List.mem_filterMap.mp hy
    rw [eq_of_ite_none_some hf, eq_of_ite_none_some hf']
    exact Or.inl hss

theorem decoded_of_slots (rid count : Nat) (masks : List UInt8) (ls : List Layer) (res : Bool)
    (hr : rid ≤ 3) (hc : 1 ≤ count ∧ count ≤ 4)
    (hs : ls.map slotOf = (activeSlots count masks).map castSlot)
    (h : ∀ l ∈ ls, 1 ≤ l.rates.length ∧ l.rates.length ≤ 4 ∧
      if res then l.ResWF else l.width = 0 ∧ l.height = 0 ∧ l.fps = 0) :
    Decoded { rid := rid, count := count, layers := ls, hasRes := res } := by
  refine ⟨by simp only; omega, by simp only; omega, by simp only; omega, by simp only; omega, ?_, ?_,
    fun hh l hl => by have := (h l hl).2.2; rwa [show res = true from hh, if_pos rfl] at this,
    fun hh l hl => by have := (h l hl).2.2; rwa [show res = false from hh, if_neg (by decide)] at this⟩
  · have h1 : (ls.map slotOf).Pairwise (fun a b => a.1 < b.1 ∨ (a.1 = b.1 ∧ a.2 < b.2)) := by
      rw [hs, List.pairwise_map]
      apply List.Pairwise.imp _ (activeSlots_sorted count masks)
      intro a b hab
      simp only [castSlot]
      omega
    rw [List.pairwise_map] at h1
    exact h1
  · intro l hl
    have : slotOf l ∈ (activeSlots count masks).map castSlot := by
      rw [← hs]; exact List.mem_map_of_mem hl
    obtain ⟨p, hp, he⟩ := List.mem_map.mp this
    have hp' := activeSlots_mem count masks p hp
    have ht := h l hl
    simp only [castSlot, slotOf, Prod.mk.injEq] at he
    unfold LayerOk
    simp only
    omega

theorem rdTl_shape (bs : Bytes) (slots : List (Nat × Nat)) :
    ∀ (idx off : Nat) (acc : List Layer), off < bs.length → (∀ l ∈ acc, Fresh l) →
      match rdTl bs slots idx off acc with
      | .ok o ls => o < bs.length ∧ ls.map slotOf = acc.map slotOf ++ slots.map castSlot ∧ ∀ l ∈ ls, Fresh l
      | .short o => o ≤ bs.length
      | .panic => False := by
  induction slots with
  | nil =>
    intro idx off acc h hacc
    exact ⟨h, by simp, hacc⟩
  | cons p rest ih =>
    obtain ⟨s, k⟩ := p
    intro idx off acc ho hacc
    have e : ∀ tl, acc.map slotOf ++ ((s, k) :: rest).map castSlot =
        (acc ++ [tlLayer s k tl]).map slotOf ++ rest.map castSlot := by
      intro tl; simp [slotOf, castSlot, tlLayer]
    have hf : ∀ x : UInt8, ∀ l ∈ acc ++ [tlLayer s k ((x &&& 3).toNat + 1)], Fresh l := by
      intro x l hl
      rcases List.mem_append.mp hl with hl | hl
      · exact hacc l hl
      · rw [List.mem_singleton.mp hl]; exact fresh_tlLayer _ _ _
    by_cases hi : idx < 4
    · rw [rdTl_step _ _ _ _ _ _ _ hi ho, e]
      exact ih _ _ _ ho (hf _)
    · rw [rdTl_wrap _ _ _ _ _ _ (Nat.le_of_not_lt hi)]
      by_cases h2 : off + 1 + 1 ≤ bs.length
      · rw [if_pos h2, rdTl_step _ _ _ _ _ _ _ (by decide) h2, e]
        exact ih _ _ _ h2 (hf _)
      · rw [if_neg h2]
        show off + 1 ≤ bs.length
        omega

/-- the only failure is ReadLeb128's own -/
theorem rdRates_shape (bs : Bytes) (todo : List Int) :
    ∀ off : Nat, off ≤ bs.length →
      match rdRates bs todo off with
      | .ok o ks => o ≤ bs.length ∧ ks.length = todo.length
      | .fail o e => o ≤ bs.length ∧ e = .leb
      | .panic => False := by
  induction todo with
  | nil => intro off h; exact ⟨h, rfl⟩
  | cons t todo ih =>
    intro off h
    unfold rdRates
    rw [if_neg (by omega)]
    cases hr : readLebGo (bs.drop off) with
    | none => exact ⟨h, rfl⟩
    | some p =>
      obtain ⟨kbps, n⟩ := p
      have hn := (readLebGo_le_length _ _ _ hr).2
      rw [List.length_drop] at hn
      have h2 : off + n ≤ bs.length := by omega
      simp only [h2, not_true_eq_false, if_false]
      have := ih (off + n) h2
      revert this
      cases rdRates bs todo (off + n) with
      | ok o ks => exact fun ⟨a, b⟩ => ⟨a, by rw [List.length_cons, b, List.length_cons]⟩
      | fail o e => exact id
      | panic => exact id

/-- `if !ctx.checkRemainingLen(in)` after ReadLeb128 (vlaextension.go:296) can never fire:
    ReadLeb128 does not report more bytes than the slice it was given -/
theorem rdRates_never_tooShort (bs : Bytes) (todo : List Int) :
    ∀ (off o : Nat), off ≤ bs.length → rdRates bs todo off ≠ .fail o .tooShort := by
  intro off o hoff h
  have := rdRates_shape bs todo off hoff
  rw [h] at this
  exact absurd this.2 (by decide)

theorem rdLayerRates_shape (bs : Bytes) (ls : List Layer) :
    ∀ off : Nat, off ≤ bs.length → (∀ l ∈ ls, Fresh l) →
      match rdLayerRates bs ls off with
      | .ok o ls' => o ≤ bs.length ∧ ls'.map slotOf = ls.map slotOf ∧ ∀ l ∈ ls', Fresh l
      | .fail o _ => o ≤ bs.length
      | .panic => False := by
  induction ls with
  | nil => intro off h _; exact ⟨h, rfl, by simp⟩
  | cons l rest ih =>
    intro off h hf
    unfold rdLayerRates
    have h1 := rdRates_shape bs l.rates off h
    revert h1
    cases rdRates bs l.rates off with
    | panic => exact id
    | fail o e => exact fun h1 => h1.1
    | ok o ks =>
      intro ⟨h1, hlen⟩
      dsimp only
      have h2 := ih o h1 (fun x hx => hf x (List.mem_cons_of_mem _ hx))
      revert h2
      cases rdLayerRates bs rest o with
      | panic => exact id
      | fail o e => exact id
      | ok o2 ls2 =>
        intro ⟨a, b, c⟩
        refine ⟨a, by simp only [List.map_cons, b]; rfl, List.forall_mem_cons.mpr ⟨?_, c⟩⟩
        have hl := hf l List.mem_cons_self
        unfold Fresh at hl ⊢
        simp only [hlen]
        exact hl

theorem rdRes_shape (bs : Bytes) (ls : List Layer) :
    ∀ off : Nat, off + ls.length * 5 ≤ bs.length → (∀ l ∈ ls, Fresh l) →
      ∃ ls', rdRes bs ls off = some (off + ls.length * 5, ls') ∧ ls'.map slotOf = ls.map slotOf ∧
        ∀ l ∈ ls', 1 ≤ l.rates.length ∧ l.rates.length ≤ 4 ∧ l.ResWF := by
  induction ls with
  | nil => intro off _ _; exact ⟨[], by simp [rdRes], rfl, by simp⟩
  | cons l rest ih =>
    intro off h hf
    rw [List.length_cons] at h
    obtain ⟨ls', h', hs', hw'⟩ := ih (off + 5) (by omega) (fun x hx => hf x (List.mem_cons_of_mem _ hx))
    rw [Nat.add_assoc, Nat.add_comm 5, ← Nat.succ_mul] at h'
    unfold rdRes
    rw [if_neg (by omega), h', List.length_cons]
    have hl := hf l List.mem_cons_self
    refine ⟨_, rfl, by simp only [List.map_cons, hs']; rfl, List.forall_mem_cons.mpr ⟨⟨hl.1, hl.2.1, ?_⟩, hw'⟩⟩
    unfold Layer.ResWF
    have a := (rd16 (at' bs off) (at' bs (off + 1))).toNat_lt
    have b := (rd16 (at' bs (off + 2)) (at' bs (off + 3))).toNat_lt
    have c := (at' bs (off + 4)).toNat_lt
    simp only
    omega

theorem unmarshalTail_shape (bs : Bytes) (rid count : Nat) (masks : List UInt8) (off : Nat)
    (hoff : off ≤ bs.length) (hr : rid ≤ 3) (hc : 1 ≤ count ∧ count ≤ 4) :
    match unmarshalTail bs rid count masks off with
    | .ok n v => n ≤ bs.length ∧ Decoded v
    | .fail n _ => n ≤ bs.length
    | .panic => False := by
  unfold unmarshalTail
  by_cases h1 : off + 1 ≤ bs.length
  · simp only [h1, not_true_eq_false, if_false]
    have ht := rdTl_shape bs (activeSlots count masks) 0 off [] (by omega) (by simp)
    generalize rdTl bs (activeSlots count masks) 0 off [] = t at ht ⊢
    cases t with
    | panic => exact ht
    | short o => exact ht
    | ok o ls =>
      obtain ⟨ho, hs, hf⟩ := ht
      dsimp only
      have hq := rdLayerRates_shape bs ls (o + 1) (by omega) hf
      generalize rdLayerRates bs ls (o + 1) = q at hq ⊢
      cases q with
      | panic => exact hq
      | fail o e => exact hq
      | ok o2 ls2 =>
        obtain ⟨ho2, hs2, hf2⟩ := hq
        dsimp only
        by_cases h2 : bs.length = o2
        · simp only [h2, beq_self_eq_true, if_true]
          exact ⟨Nat.le_refl _, decoded_of_slots rid count masks ls2 false hr hc (hs2.trans hs) hf2⟩
        · rw [if_neg (by simpa using h2)]
          by_cases h3 : o2 + ls2.length * 5 ≤ bs.length
          · obtain ⟨ls3, e3, hs3, hf3⟩ := rdRes_shape bs ls2 o2 h3 hf2
            rw [if_neg (not_not_intro h3), e3]
            exact ⟨h3, decoded_of_slots rid count masks ls3 true hr hc (hs3.trans (hs2.trans hs)) hf3⟩
          · simp only [h3, not_false_eq_true, if_true]
            exact ho2
  · simp only [h1, not_false_eq_true, if_true]
    exact hoff

theorem unmarshal_shape (r : VLA) (bs : Bytes) :
    match unmarshal r bs with
    | .ok n v => n ≤ bs.length ∧ Decoded v
    | .fail n _ => n ≤ bs.length
    | .panic => False := by
  have hr : ((at' bs 0 >>> 6) &&& 3).toNat ≤ 3 := u8_and_le _ 3
  have hc : ((at' bs 0 >>> 4) &&& 3).toNat ≤ 3 := u8_and_le _ 3
  unfold unmarshal
  by_cases h0 : 0 + 1 ≤ bs.length
  · rw [if_neg (not_not_intro h0), if_neg (by omega)]
    dsimp only
    by_cases hs : (at' bs 0 &&& 15 != 0) = true
    · rw [if_pos hs]
      exact unmarshalTail_shape _ _ _ _ _ (by omega) hr (by omega)
    · rw [if_neg hs]
      -- Go's `checkRemainingLen` for the mask bytes: header, then `(count - 1) / 2 + 1` of them
      by_cases h2 : 1 + ((((at' bs 0 >>> 4) &&& 3).toNat + 1 - 1) / 2 + 1) ≤ bs.length
      · rw [if_neg (not_not_intro h2), if_neg (by omega)]
        exact unmarshalTail_shape _ _ _ _ _ (by omega) hr (by omega)
      · rw [if_pos h2]
        show 1 ≤ bs.length
        omega
  · rw [if_pos h0]
    exact Nat.zero_le _

theorem unmarshal_safe (r : VLA) (bs : Bytes) : Pred.C19.dec bs (unmarshal r bs) = true := by
  have := unmarshal_shape r bs
  revert this
  cases unmarshal r bs with
  | ok n v => exact fun h => decide_eq_true h.1
  | fail n e => exact fun h => decide_eq_true h
  | panic => exact False.elim

theorem unmarshal_decoded (r : VLA) (bs : Bytes) (n : Nat) (v : VLA) (h : unmarshal r bs = .ok n v) :
    Decoded v := by
  have := unmarshal_shape r bs
  rw [h] at this
  exact this.2

/-- whatever Unmarshal accepted passes Marshal's validation again once its RID is below the count -/
theorem decoded_marshals (v : VLA) (hd : Decoded v) (hr : v.rid < v.count) : ∃ b, marshalGo v = .ok b := by
  obtain ⟨hc1, hc4, hr0, _, hs, hw, _, _⟩ := hd
  rw [marshalGo_eq_marshal]
  refine ⟨_, marshal_valid v ⟨hc1, hc4⟩ ⟨hr0, hr⟩ ?_⟩
  rw [preprocess_none_iff]
  refine ⟨fun l hl => ⟨hw l hl, by simp⟩, ?_⟩
  apply List.Pairwise.imp _ hs
  intro a b hab hsame
  unfold Layer.before at hab; unfold SameSlot at hsame
  omega

end Rtp.Model.Vla
