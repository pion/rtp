/-
  Rtp/Proofs/PipelineVP9.lean — VP9 in the end-to-end composition, for BOTH payloader modes
  (flexible: `flex_frameOk`; non-flexible: `nonflex_frameOk` with the header facts of C12
  `c12_hdrFacts`).  Separate from PipelineCodecs.lean because it needs Rtp/Props/C12Header.lean.
-/
import Rtp.Proofs.PipelineCodecs
import Rtp.Props.C12Header
namespace Rtp.Proofs.Pipeline
open Rtp Rtp.Model Rtp.Model.Pipeline Rtp.Pred.Pipeline

/-- domain: a payloader in mode `flex` whose next picture id is below 2^15 (every reachable state),
    and a frame that is `C12.proper` for the budget under SOME header description -/
def vp9Inv (flex : Bool) (B : UInt16) : VP9Pay → Bytes → Prop := fun st frame =>
  st.flexible = flex ∧ vp9Pid st < 32768 ∧
  ∃ d, Rtp.Pred.C12.proper flex { mtu := B, frame := some frame, desc := d } = true

theorem proper_ne (flex : Bool) (c : Rtp.Pred.C12.Call) (h : Rtp.Pred.C12.proper flex c = true) :
    (c.frame.getD []).isEmpty = false := by
  simp only [Rtp.Pred.C12.proper, Bool.and_eq_true, Bool.not_eq_true'] at h
  exact h.1

theorem vp9_fits (flex : Bool) (B : UInt16) : PayFits vp9Pay B (vp9Inv flex B) := by
  intro st frame h
  obtain ⟨_, _, d, hp⟩ := h
  refine ⟨by simpa using proper_ne flex _ hp, ?_⟩
  intro x hx
  exact (Rtp.Proofs.VP9.payload_frag st B (some frame) x hx).1

/-- what `C12.frameOk` on the recorded fragments says about the depacketizer run -/
theorem dep_of_frameOk (flex : Bool) (pid : Nat) (info : Option (Bool × UInt16 × UInt16)) (frame : Bytes)
    (frags : List Bytes) (r : VP9Packet)
    (hf : Rtp.Pred.C12.frameOk flex pid info frame (Rtp.Pred.C12.obsFrags r frags).1 = true) :
    (depackAll vp9Depack r frags).1.all Res.isOk = true ∧
    (depackAll vp9Depack r frags).1.flatMap resBytes = frame := by
  simp only [Rtp.Pred.C12.frameOk, Bool.and_eq_true, beq_iff_eq] at hf
  obtain ⟨⟨⟨⟨_, hall⟩, _⟩, hflat⟩, _⟩ := hf
  have hres := obsFrags_res frags r
  constructor
  · rw [← Res.all_isOk_map_coarse, ← hres]
    simp only [List.all_map, List.all_eq_true] at hall ⊢
    intro x hx
    have := hall x hx
    simp only [Rtp.Pred.C12.fragOk, Bool.and_eq_true] at this
    exact this.1.1.1.1.1
  · rw [← coarse_resBytes, ← hres, ← fragPayload_eq]
    exact hflat

theorem vp9_dep (flex : Bool) (B : UInt16) : DepOk vp9Pay vp9Depack B (vp9Inv flex B) := by
  intro st frame r h
  obtain ⟨hfl, hpid, d, hprop⟩ := h
  have hlt : (vp9Pid st).toNat < 32768 := UInt16.lt_iff_toNat_lt.mp hpid
  have hcast : (vp9Pid st).toNat.toUInt16 = vp9Pid st := toUInt16_toNat _
  have hp : (vp9Pay st B frame).1 =
      if flex then vp9PayloadFlexible (vp9Pid st) B.toNat frame
      else vp9PayloadNonFlexible (vp9Pid st) B.toNat frame := by
    show (vp9Payload st B (some frame)).1 = _
    rw [Rtp.Proofs.VP9.payload_fst, hfl]; rfl
  rw [hp]
  cases flex with
  | true =>
    simp only [Rtp.Pred.C12.proper, if_true, Bool.and_eq_true, Bool.not_eq_true', decide_eq_true_eq,
      Option.getD_some] at hprop
    have hne : frame ≠ [] := by intro he; simp [he] at hprop
    have hf := Rtp.Proofs.VP9.flex_frameOk (vp9Pid st).toNat hlt none B.toNat frame hprop.2 hne r
    rw [hcast] at hf
    exact dep_of_frameOk true _ _ _ _ r hf
  | false =>
    have hf := Rtp.Proofs.VP9.nonflex_frameOk (vp9Pid st).toNat hlt
      { mtu := B, frame := some frame, desc := d } (Rtp.Props.C12.c12_hdrFacts _) hprop r
    rw [hcast] at hf
    exact dep_of_frameOk false _ _ _ _ r hf

theorem wrap15_lt (x : UInt16) : (if x ≥ 0x8000 then (0 : UInt16) else x) < 32768 := by
  split
  · decide
  · rename_i hge
    simp only [ge_iff_le, UInt16.le_iff_toNat_le, UInt16.lt_iff_toNat_lt, UInt16.reduceToNat] at hge ⊢
    omega

/-- the payloader keeps its mode, and its next picture id stays below 2^15 -/
theorem vp9_next (B : UInt16) (st : VP9Pay) (frame : Bytes) :
    (vp9Pay st B frame).2.flexible = st.flexible ∧ vp9Pid (vp9Pay st B frame).2 < 32768 := by
  show (vp9Payload st B (some frame)).2.flexible = st.flexible ∧ vp9Pid (vp9Payload st B (some frame)).2 < 32768
  unfold vp9Payload
  simp only [vp9Pid]
  cases hi : st.initialized <;> simp only [hi, Bool.false_eq_true, if_false, if_true] <;>
    exact ⟨trivial, wrap15_lt _⟩

theorem vp9_payOk (st : VP9Pay) (hpid : vp9Pid st < 32768) (B : UInt16) (frames : List VP9Frame)
    (hfr : ∀ fr ∈ frames, Rtp.Pred.C12.proper st.flexible (fr.call B) = true) :
    PayOk vp9Pay B (vp9Inv st.flexible B) st (frames.map VP9Frame.frameIn) := by
  refine payOk_of vp9Pay B (vp9Inv st.flexible B) (fun s => s.flexible = st.flexible ∧ vp9Pid s < 32768)
    (fun fr => ∃ d, Rtp.Pred.C12.proper st.flexible { mtu := B, frame := some fr, desc := d } = true)
    (fun s fr hs hd => ⟨hs.1, hs.2, hd⟩)
    (fun s fr hs _ => ⟨by rw [(vp9_next B s fr).1, hs.1], (vp9_next B s fr).2⟩)
    _ st ⟨rfl, hpid⟩ ?_
  intro f hf
  obtain ⟨fr, hfr', rfl⟩ := List.mem_map.mp hf
  exact ⟨fr.desc, hfr fr hfr'⟩

end Rtp.Proofs.Pipeline
