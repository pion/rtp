/-
  Rtp/Proofs/WireAccept.lean — from the RFC well-formedness of Spec/Wire.lean to the hypotheses of
  the parse-of-encode lemmas (WireParse).
-/
import Rtp.Proofs.WireParse
import Rtp.Pred.C03
namespace Rtp.Proofs.Wire
open Rtp Rtp.Model Rtp.Spec.Wire
open Rtp.Pred.C01 (canonP canonH)

theorem ok1_of_wf1 (it : Item) (h : it.wf1 = true) : Item.ok1 it = true := by
  cases it with
  | pad => rfl
  | elem id d =>
    simp only [Item.wf1, Bool.and_eq_true, decide_eq_true_eq] at h
    obtain ⟨⟨⟨h1, h2⟩, h3⟩, h4⟩ := h
    have : (id == 0) = false := by
      rw [Bool.eq_false_iff]; intro h0; simp at h0; subst h0; simp at h1
    simp [Item.ok1, h2, h3, h4, this]

theorem ok2_of_wf2 (it : Item) (h : it.wf2 = true) : Item.ok2 it = true := by
  cases it with
  | pad => rfl
  | elem id d =>
    simp only [Item.wf2, Bool.and_eq_true, decide_eq_true_eq] at h
    obtain ⟨h1, h2⟩ := h
    have : id ≠ 0 := by intro h0; subst h0; simp at h1
    simp [Item.ok2, h2, this]

theorem WF_ext {w : Wire} {b : ExtBlock} (hw : w.WF = true) (hx : w.ext = some b) : b.WF = true := by
  simp only [Wire.WF, Bool.and_eq_true, hx] at hw; exact hw.1.2

/-- a legacy profile is not the two-byte profile -/
theorem legacy_profile (p : UInt16) (h : ((p &&& 0xFFF0) != 0x1000) = true) : p ≠ 0x1000 := by
  intro hp; subst hp; revert h; decide

/-- a well-formed block with zero appbits meets the hypotheses of the parse lemmas -/
theorem blockOk_of_WF (b : ExtBlock) (h : b.WF = true) (ha : b.appbits = false) : blockOk b = true := by
  cases b with
  | oneByte items stop =>
    simp only [ExtBlock.WF, Bool.and_eq_true, List.all_eq_true] at h
    simp only [blockOk, Bool.and_eq_true, List.all_eq_true]
    refine ⟨⟨fun x hx => ok1_of_wf1 x (h.1.1 x hx), ?_⟩, h.2⟩
    cases stop with
    | none => rfl
    | some st => exact h.1.2
  | twoByte a items =>
    simp only [ExtBlock.WF, Bool.and_eq_true, List.all_eq_true] at h
    simp only [ExtBlock.appbits, bne_eq_false_iff_eq] at ha
    simp only [blockOk, Bool.and_eq_true, List.all_eq_true, beq_iff_eq]
    exact ⟨⟨ha, fun x hx => ok2_of_wf2 x (h.1.2 x hx)⟩, h.2⟩
  | legacy p ws =>
    simp only [ExtBlock.WF, Bool.and_eq_true, bne_iff_ne, ne_eq, beq_iff_eq, decide_eq_true_eq] at h
    obtain ⟨⟨⟨h1, h2⟩, h3⟩, h4⟩ := h
    simp only [blockOk, Bool.and_eq_true, bne_iff_ne, ne_eq, beq_iff_eq, decide_eq_true_eq]
    exact ⟨⟨⟨h1, legacy_profile p (by simpa using h2)⟩, h3⟩, h4⟩

theorem wireOk_of_WF (w : Wire) (h : w.WF = true) (ha : w.appbits = false) : wireOk w = true := by
  simp only [Wire.WF, Bool.and_eq_true] at h
  obtain ⟨⟨⟨⟨h1, h2⟩, h3⟩, h4⟩, h5⟩ := h
  simp only [wireOk, Bool.and_eq_true]
  refine ⟨⟨⟨⟨h1, h2⟩, h3⟩, ?_⟩, h5⟩
  cases hx : w.ext with
  | none => rfl
  | some b =>
    simp only [hx] at h4
    simp only [Wire.appbits, hx] at ha
    exact blockOk_of_WF b h4 ha

theorem canonH_hdrOf (r : Header) (w : Wire) : canonH (hdrOf r w) = canonH w.toPacket.header := by
  cases hx : w.ext <;> simp [canonH, hdrOf, Wire.toPacket, hx]

/-- bytes behind a reserved id exist in a one-byte block only: the two finding regions are disjoint -/
theorem appbits_of_ignored_pos {w : Wire} (hi : 0 < w.ignored) : w.appbits = false := by
  cases hx : w.ext with
  | none => simp [Wire.appbits, hx]
  | some b =>
    cases b with
    | oneByte items stop => simp [Wire.appbits, hx, ExtBlock.appbits]
    | twoByte a items => simp [Wire.ignored, hx, ExtBlock.ignored] at hi
    | legacy p ws => simp [Wire.appbits, hx, ExtBlock.appbits]

theorem ignored_le_extEnd (w : Wire) : w.ignored ≤ w.extEnd := by
  cases hx : w.ext with
  | none => simp [Wire.ignored, hx]
  | some b =>
    have := ignored_le b
    simp only [Wire.ignored, hx, Wire.extEnd, encodeExt, ExtBlock.encode, be16, List.length_append, List.length_cons,
      List.length_nil] at this ⊢
    omega

end Rtp.Proofs.Wire
