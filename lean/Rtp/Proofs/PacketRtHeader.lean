/-
  Rtp/Proofs/PacketRtHeader.lean — `Header.Unmarshal` / `Packet.Unmarshal` of the bytes `Marshal` produces for a
  well-formed value: instances of the parse lemmas for wire descriptions (Rtp/Proofs/Wire*), through
  `hdrWire h = headBytes (ofPacket ·)`.  Also `dropHidden`, `rt`, with which Props/C01 states its theorems.
-/
import Rtp.Proofs.WireRemarshal
namespace Rtp.Proofs.PacketRt
open Rtp Rtp.Model

/-- `Header.Unmarshal` of the serialised header of any packet Marshal writes faithfully, into any
    receiver, whatever follows -/
theorem hdrUnmarshal_wire_of_encodable (p : Packet) (henc : Wire.encodable p = true) (r : Header) (tail : Bytes) :
    hdrUnmarshal r (hdrWire p.header ++ tail) =
      .ok (PacketParse.withProfile r.extProfile p.header, hdrMarshalSize p.header) := by
  obtain ⟨h1, h2, _⟩ := Wire.ofPacket_ok p henc
  have hw := Wire.hdrWire_ofPacket p henc
  rw [hw, Wire.hdrUnmarshal_head _ r h1 tail, h2, Nat.sub_zero, Wire.hdrOf_ofPacket r p henc, ← Wire.headBytes_length,
    ← hw, hdrWire_length_ser p.header (Wire.encodable_ser p henc).1]

open Rtp.Pred.C01 in
theorem hdrUnmarshal_wire (h : Header) (hwf : wfH h = true) (r : Header) (tail : Bytes) :
    hdrUnmarshal r (hdrWire h ++ tail) = .ok (PacketParse.withProfile r.extProfile h, hdrMarshalSize h) :=
  -- any packet around `h` with a consistent padding count will do
  hdrUnmarshal_wire_of_encodable ⟨h, [], if h.padding then 1 else 0⟩
    (Wire.encodable_of_wfP _ (by rw [wfP, hwf]; cases h.padding <;> rfl)) r tail

theorem pktUnmarshal_wire (p : Packet) (hwf : Pred.C01.wfP p = true) (r : Packet) :
    pktUnmarshal r (pktWire p) =
      .ok { header := PacketParse.withProfile r.header.extProfile p.header, payload := p.payload, paddingSize := p.paddingSize } := by
  have henc := Wire.encodable_of_wfP p hwf
  obtain ⟨h1, h2, h3⟩ := Wire.ofPacket_ok p henc
  have hps : (Wire.ofPacket p).toPacket.paddingSize = p.paddingSize := by rw [h3]; rfl
  rw [Wire.pktWire_ofPacket p henc, Wire.pktUnmarshal_encode _ r h1 h2, Wire.hdrOf_ofPacket r.header p henc, hps]
  rfl

/-- elements held while `Extension` is false are invisible: no accessor shows them and the
    encoder never looks at them -/
def dropHidden (p : Packet) : Packet :=
  if p.header.extension then p else { p with header := { p.header with exts := [] } }

/-- round trip on one packet into a fresh receiver, up to `canonP`, as a Bool (for the `c01_sharp_*` theorems) -/
def rt (p : Packet) : Bool :=
  match pktMarshal p with
  | .ok bs => (pktUnmarshal {} bs).map Pred.C01.canonP == .ok (Pred.C01.canonP p)
  | _ => false

end Rtp.Proofs.PacketRt
