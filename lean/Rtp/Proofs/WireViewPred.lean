/-
  Rtp/Proofs/WireViewPred.lean — the `c03.view` predicate on the model's observation of a view on
  the encoding of a well-formed block of its own form.
-/
import Rtp.Proofs.WireView
import Rtp.Proofs.WireAccept
import Rtp.Pred.C03
namespace Rtp.Proofs.Wire
open Rtp Rtp.Model Rtp.Spec.Wire Rtp.Pred.C03

/-- MarshalTo into size−1 / size / size+1 bytes of `fill` -/
theorem view_to (bytes : Bytes) (fill : UInt8) (h : 1 ≤ bytes.length) :
    ([bytes.length - 1, bytes.length, bytes.length + 1].map fun m => (viewMarshalTo bytes (rep m fill)).coarse) =
      [.err .other, .ok (bytes, bytes.length), .ok (bytes ++ [fill], bytes.length)] := by
  have h1 : bytes.length > (rep (bytes.length - 1) fill).length := by rw [rep_length]; omega
  have h2 : ¬ bytes.length > (rep bytes.length fill).length := by rw [rep_length]; omega
  have h3 : ¬ bytes.length > (rep (bytes.length + 1) fill).length := by rw [rep_length]; omega
  have w2 : writeAt (rep bytes.length fill) 0 bytes = bytes := by
    rw [writeAt_zero _ _ (by rw [rep_length]; omega)]
    simp [rep]
  have w3 : writeAt (rep (bytes.length + 1) fill) 0 bytes = bytes ++ [fill] := by
    rw [writeAt_zero _ _ (by rw [rep_length]; omega)]
    simp [rep, List.drop_replicate]
  simp only [List.map_cons, List.map_nil, viewMarshalTo, h1, h2, h3, ↓reduceIte, Res.coarse, w2, w3]

theorem formMatches_oneByte {k : ViewKind} {items : List Item} {stop : Option (UInt8 × Bytes)}
    (h : formMatches k (.oneByte items stop) = true) : k = .oneByte := by
  cases k <;> first | rfl | cases h

theorem formMatches_twoByte {k : ViewKind} {a : UInt8} {items : List Item}
    (h : formMatches k (.twoByte a items) = true) : k = .twoByte := by
  cases k <;> first | rfl | cases h

theorem formMatches_legacy {k : ViewKind} {p : UInt16} {ws : Bytes}
    (h : formMatches k (.legacy p ws) = true) : k = .raw := by
  cases k <;> first | rfl | cases h

/-- where `expectGet` determines the answer: a listed id, or an id that can stand nowhere in the block -/
theorem expectGet_cases {k : ViewKind} {b : ExtBlock} {bytes : Bytes} {q : UInt8} {v : Option Bytes}
    (he : expectGet k b bytes q = some v) :
    (b.ids.contains q = true ∧ v = match (generalizing := false) k with | .raw => some bytes | _ => b.lookup q) ∨
    (b.mentions q = false ∧ v = none) := by
  unfold expectGet at he
  split at he
  · next hin => exact Or.inl ⟨hin, (Option.some.inj he).symm⟩
  · split at he
    · next hm => exact Or.inr ⟨by simpa using hm, (Option.some.inj he).symm⟩
    · cases he

theorem find?_of_contains (es : List Ext) (q : UInt8) (h : (es.map (·.id)).contains q = true) :
    ∃ e, es.find? (·.id == q) = some e := by
  obtain ⟨e, he1, he2⟩ := List.mem_map.mp (List.contains_iff_mem.mp h)
  exact Option.isSome_iff_exists.mp (List.find?_isSome.mpr ⟨e, he1, by simp [he2]⟩)

theorem find?_of_not_any (es : List Ext) (q : UInt8) (h : es.any (·.id == q) = false) :
    es.find? (·.id == q) = none :=
  List.find?_eq_none.mpr (fun x hx => by simpa using List.any_eq_false.mp h x hx)

theorem getsOK_map (k : ViewKind) (b : ExtBlock) (bytes : Bytes) (qs : List UInt8)
    (H : ∀ q v, expectGet k b bytes q = some v → viewGet k bytes q = .ok v) :
    getsOK k b bytes qs (qs.map (viewGet k bytes)) = true := by
  induction qs with
  | nil => rfl
  | cons q r ih =>
    simp only [List.map_cons, getsOK, Bool.and_eq_true, ih, and_true]
    cases he : expectGet k b bytes q with
    | none => rfl
    | some v => simp [H q v he]

/-- the block's bytes: 4-byte header, then content and alignment pads -/
theorem encode_shape (b : ExtBlock) :
    b.encode = (b.profile >>> 8).toUInt8 :: b.profile.toUInt8 ::
      (((b.body.length + padTo4 b.body.length) / 4).toUInt16 >>> 8).toUInt8 ::
      ((b.body.length + padTo4 b.body.length) / 4).toUInt16.toUInt8 :: (b.body ++ rep (padTo4 b.body.length) 0) := by
  simp [ExtBlock.encode, be16]

theorem find_prefix {α} (p : α → Bool) (l1 l2 : List α) (h : l1.any p = true) :
    (l1 ++ l2).find? p = l1.find? p := by
  induction l1 with
  | nil => simp at h
  | cons a r ih =>
    simp only [List.cons_append, List.find?_cons]
    cases hp : p a with
    | true => rfl
    | false =>
      simp only [List.any_cons, hp, Bool.false_or] at h
      exact ih h

theorem encode_length_pos (b : ExtBlock) : 4 ≤ b.encode.length := by
  rw [encode_shape]; simp only [List.length_cons]; omega

theorem drop4_encode (b : ExtBlock) : b.encode.drop 4 = b.body ++ rep (padTo4 b.body.length) 0 := by
  rw [encode_shape]; rfl

theorem viewUnmarshal_encode (k : ViewKind) (b : ExtBlock) (hf : formMatches k b = true) (hw : b.WF = true)
    (ha : b.appbits = false) :
    viewUnmarshal k b.encode = .ok b.encode.length := by
  rw [encode_shape]
  simp only [viewUnmarshal, rd16_be16]
  cases k <;> cases b <;> simp only [formMatches] at hf <;> try (exact absurd hf (by decide))
  · simp [ExtBlock.profile, profileOneByte]
  · rename_i a items
    simp only [ExtBlock.appbits, bne_eq_false_iff_eq] at ha
    subst ha
    have : ((0x1000 + (0 : UInt8).toNat).toUInt16 == profileTwoByte) = true := by decide
    simp only [ExtBlock.profile, this, ↓reduceIte]
  · rename_i p ws
    simp only [ExtBlock.WF, Bool.and_eq_true, bne_iff_ne, ne_eq] at hw
    have e1 : (p == profileOneByte) = false := by simpa [profileOneByte] using hw.1.1.1
    have e2 : (p == profileTwoByte) = false := by
      have := legacy_profile p (by simpa using hw.1.1.2)
      simpa [profileTwoByte] using this
    simp [ExtBlock.profile, e1, e2]

theorem modelView_encode (k : ViewKind) (b : ExtBlock) (qs : List UInt8) (fill : UInt8)
    (hf : formMatches k b = true) (hw : b.WF = true) (ha : b.appbits = false) :
    modelView { kind := k, block := some b, bytes := b.encode, queries := qs, fill := fill } =
      { unm := .ok b.encode.length
        ids := viewGetIDs k b.encode
        gets := qs.map (viewGet k b.encode)
        marshal := .ok b.encode
        size := .ok b.encode.length
        to := [.err .other, .ok (b.encode, b.encode.length), .ok (b.encode ++ [fill], b.encode.length)] } := by
  have := encode_length_pos b
  simp only [modelView, viewUnmarshal_encode k b hf hw ha, viewMarshal, viewMarshalSize, view_to b.encode fill (by omega)]

/-- `c03.view` on the encoding of a well-formed block of the view's own form comes down to the two reads:
    the id list, and every query whose answer the description determines -/
theorem view_of (k : ViewKind) (b : ExtBlock) (qs : List UInt8) (fill : UInt8)
    (hf : formMatches k b = true) (hw : b.WF = true) (ha : b.appbits = false)
    (hids : viewGetIDs k b.encode = .ok b.ids)
    (hget : ∀ q v, expectGet k b b.encode q = some v → viewGet k b.encode q = .ok v) :
    Pred.C03.view { kind := k, block := some b, bytes := b.encode, queries := qs, fill := fill }
      (modelView { kind := k, block := some b, bytes := b.encode, queries := qs, fill := fill }) = true := by
  rw [modelView_encode k b qs fill hf hw ha]
  simp only [Pred.C03.view, ViewIn.desc, hf, hw, Bool.and_self, Bool.not_true, Bool.false_or, viewOK, beq_self_eq_true,
    Bool.true_and, Bool.and_true, Bool.and_eq_true, beq_iff_eq]
  exact ⟨hids, getsOK_map k b b.encode qs hget⟩

end Rtp.Proofs.Wire
