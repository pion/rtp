/-
  Rtp/Proofs/AV1Walk.lean — the OBU-stream scanner of Payload on a serialised well-formed OBU
  sequence.  `obu_size` fields need not be minimally encoded (AV1 spec 4.10.5): the scanner consumes
  the number of bytes ReadLeb128 reports, so the width of a size field makes no difference to what
  is found; the minimal serialisation is the case of width 0 throughout.
-/
import Rtp.Model.AV1Obs
import Rtp.Proofs.Obu
import Rtp.Proofs.Leb128Go
import Rtp.Proofs.Lib.UInt
namespace Rtp.Model.AV1
open Rtp Rtp.Model Rtp.Spec.Av1Rtp
open Rtp.Model.ObuLemmas

theorem padLeb_length (n w : Nat) : (padLeb n w).length = w := by
  induction w generalizing n with
  | zero => rfl
  | succ w ih =>
    cases w with
    | zero => rfl
    | succ w => rw [padLeb, List.length_cons, ih]

/-- a padded field of `w ≥ 1` bytes that holds `n` reads back (by the specification of LEB128) as
    `n`, `w` bytes consumed, whatever follows -/
theorem readLebSpec_padLeb (w n : Nat) (hw : 0 < w) (hn : n < 128 ^ w) (rest : Bytes) :
    readLebSpec (padLeb n w ++ rest) = some (n, w) := by
  induction w generalizing n with
  | zero => omega
  | succ w ih =>
    cases w with
    | zero =>
      have hn' : n < 128 := by simpa using hn
      have hb : n.toUInt8.toNat = n := toNat_toUInt8_of_lt (by omega)
      rw [padLeb, Nat.mod_eq_of_lt hn', List.singleton_append,
        readLebSpec_cons_lt _ _ (by rw [hb]; exact hn'), hb]
    | succ w =>
      have hd : n / 128 < 128 ^ (w + 1) := by
        rw [Nat.div_lt_iff_lt_mul (by decide)]; rw [Nat.pow_succ] at hn; exact hn
      rw [padLeb, List.cons_append, readLebSpec_group _ (Nat.mod_lt _ (by decide)),
        ih (n / 128) (by omega) hd, Option.map_some, Nat.mod_add_div]

/-- ReadLeb128 (64-bit accumulator) on a size field of any allowed width: the value, and the width as
    the number of bytes read -/
theorem readLebGo_sizeField (n w : Nat) (hn : n < 2 ^ 56) (hw : widthOK n w = true) (rest : Bytes) :
    readLebGo (sizeField n w ++ rest) = some (n.toUInt64, (sizeField n w).length) := by
  unfold sizeField
  by_cases h0 : w = 0
  · simp only [h0, if_true]
    exact readLebGo_writeLeb n rest hn
  · simp only [widthOK, Bool.or_eq_true, beq_iff_eq, Bool.and_eq_true, decide_eq_true_eq] at hw
    rcases hw with hw | ⟨hw8, hfit⟩
    · exact absurd hw h0
    · simp only [h0, if_false, padLeb_length]
      exact readLebGo_eq_spec _ n w (readLebSpec_padLeb w n (by omega) hfit rest) hw8

theorem serialiseW_zero (os : List Obu) : serialiseW (os.map (·, 0)) = serialise os := by
  simp only [serialiseW, serialise, List.map_map]
  rfl

theorem wireW_length_pos (o : Obu) (w : Nat) : 1 ≤ (o.wireW w).length := by
  have := size_pos o.hdr
  simp [Obu.wireW, marshal_length]; omega

theorem wire_length_pos (o : Obu) : 1 ≤ o.wire.length := wireW_length_pos o 0

theorem serialiseW_cons (ow : Obu × Nat) (os : List (Obu × Nat)) :
    serialiseW (ow :: os) = ow.1.wireW ow.2 ++ serialiseW os := by simp [serialiseW]

theorem obusWF_cons (o : Obu) (os : List Obu) (h : obusWF (o :: os) = true) :
    hdrWF o.hdr = true ∧ o.payload.length < 2 ^ 56 ∧ (os ≠ [] → o.hdr.hasSize = true) ∧
      obusWF os = true := by
  cases os with
  | nil =>
    simp only [obusWF, Bool.and_eq_true, decide_eq_true_eq] at h
    exact ⟨h.1, h.2, fun h => absurd rfl h, rfl⟩
  | cons o' os' =>
    simp only [obusWF, Bool.and_eq_true, decide_eq_true_eq] at h
    exact ⟨h.1.1.1, h.1.2, fun _ => h.1.1.2, h.2⟩

/-- scanning a serialisation with size fields of any allowed widths gives back the OBUs, header and
    payload -/
theorem walk_serialiseW (ows : List (Obu × Nat)) (hwf : obusWF (ows.map (·.1)) = true)
    (hww : widthsOK ows = true) (fuel : Nat) (hf : (serialiseW ows).length ≤ fuel) :
    walk fuel (serialiseW ows) = ows.map (fun ow => (ow.1.hdr, ow.1.payload)) := by
  induction ows generalizing fuel with
  | nil => cases fuel <;> simp [serialiseW, walk, parseObuHeader]
  | cons ow os ih =>
    obtain ⟨o, w⟩ := ow
    have hwl := wireW_length_pos o w
    rw [serialiseW_cons] at hf ⊢
    simp only [List.length_append] at hf
    simp only [widthsOK, List.all_cons, Bool.and_eq_true] at hww
    obtain ⟨hw, hwrest⟩ := hww
    obtain ⟨hh, hsmall, hsz, hrest⟩ := obusWF_cons o _ hwf
    obtain ⟨f, rfl⟩ : ∃ f, fuel = f + 1 := ⟨fuel - 1, by omega⟩
    have hparse : parseObuHeader (o.wireW w ++ serialiseW os) = .ok o.hdr := by
      simp only [Obu.wireW, List.append_assoc]
      exact parse_marshal o.hdr hh _
    have hdrop : (o.wireW w ++ serialiseW os).drop o.hdr.size =
        (if o.hdr.hasSize then sizeField o.payload.length w else []) ++ o.payload ++ serialiseW os := by
      simp only [Obu.wireW, List.append_assoc]
      rw [List.drop_left' (marshal_length o.hdr)]
    unfold walk
    rw [hparse]
    dsimp only
    rw [hdrop]
    by_cases hs : o.hdr.hasSize = true
    · simp only [hs, if_true, List.append_assoc]
      rw [readLebGo_sizeField o.payload.length w hsmall hw]
      dsimp only
      rw [List.drop_left' rfl, toNat_toUInt64_of_lt (by omega)]
      have hle : ¬ o.payload.length > (o.payload ++ serialiseW os).length := by simp
      rw [if_neg hle, List.take_left' rfl, List.drop_left' rfl]
      rw [ih hrest (by simpa [widthsOK] using hwrest) f (by
        have : (o.wireW w).length =
            o.hdr.size + (sizeField o.payload.length w).length + o.payload.length := by
          simp [Obu.wireW, hs, marshal_length]; omega
        omega)]
      simp
    · -- only the last OBU may lack a size field: it extends to the end of the input
      have hs' : o.hdr.hasSize = false := by simpa using hs
      have hos : os = [] := by
        cases os with
        | nil => rfl
        | cons a b => exact absurd (hsz (by simp)) hs
      subst hos
      simp [hs', serialiseW, Obu.wireW]

/-- width 0 stands for the minimal encoding (not for a field of no bytes) -/
theorem walk_serialise (obus : List Obu) (hwf : obusWF obus = true) (fuel : Nat)
    (hf : (serialise obus).length ≤ fuel) :
    walk fuel (serialise obus) = obus.map (fun o => (o.hdr, o.payload)) := by
  have hfst : (obus.map (·, 0)).map (·.1) = obus := by simp [List.map_map, Function.comp_def]
  have := walk_serialiseW (obus.map (·, 0)) (by rw [hfst]; exact hwf)
    (by simp [widthsOK, widthOK]) fuel (by rw [serialiseW_zero]; exact hf)
  rw [serialiseW_zero, List.map_map] at this
  exact this

/-- AV1Payloader.Payload does not depend on the widths of the `obu_size` fields of its input -/
theorem payload_serialiseW (mtu : UInt16) (ows : List (Obu × Nat))
    (hwf : obusWF (ows.map (·.1)) = true) (hww : widthsOK ows = true) :
    AV1.payload mtu (serialiseW ows) = AV1.payload mtu (serialise (ows.map (·.1))) := by
  have he : (serialiseW ows).isEmpty = (serialise (ows.map (·.1))).isEmpty := by
    cases ows with
    | nil => rfl
    | cons ow os =>
      have e2 : serialise ((ow :: os).map (·.1)) = ow.1.wire ++ serialise (os.map (·.1)) := by
        simp [serialise]
      rw [serialiseW_cons, e2, List.isEmpty_eq_false_iff.mpr, List.isEmpty_eq_false_iff.mpr]
      · exact List.append_ne_nil_of_left_ne_nil
          (List.length_pos_iff.mp (wire_length_pos ow.1)) _
      · exact List.append_ne_nil_of_left_ne_nil
          (List.length_pos_iff.mp (wireW_length_pos ow.1 ow.2)) _
  unfold AV1.payload payloadPks
  rw [he, walk_serialiseW ows hwf hww _ (Nat.le_refl _), walk_serialise _ hwf _ (Nat.le_refl _)]
  simp [List.map_map, Function.comp_def]

end Rtp.Model.AV1
