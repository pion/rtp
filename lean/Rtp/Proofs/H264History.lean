/-
  Rtp/Proofs/H264History.lean — whole histories of `Payload` calls: the payloads are the RFC 6184
  encoding of a legal plan whose units are the input's units after hold-back (towards c10_shape,
  c10_roundtrip).
-/
import Rtp.Proofs.H264Step
import Rtp.Proofs.H264Parse
import Rtp.Proofs.H264Obs
import Rtp.Proofs.H264Holdback
namespace Rtp.Proofs.H264
open Rtp Rtp.Model Rtp.Model.H264 Rtp.Model.H264.Obs Rtp.Spec.Rfc6184 Rtp.Pred

/-- the pending SPS and PPS -/
abbrev Pend := Option Bytes × Option Bytes

/-- groups released by a list of (MTU, unit), and the pending pair afterwards -/
def stepsOut (disable : Bool) : Pend → List (Nat × Bytes) → List Group × Pend
  | p, [] => ([], p)
  | p, (m, n) :: ns =>
    let r := stepOut disable m p.1 p.2 n
    let rs := stepsOut disable r.2 ns
    (r.1 ++ rs.1, rs.2)

theorem stepsOut_append (disable : Bool) (p : Pend) (a b : List (Nat × Bytes)) :
    stepsOut disable p (a ++ b) =
      ((stepsOut disable p a).1 ++ (stepsOut disable (stepsOut disable p a).2 b).1,
       (stepsOut disable (stepsOut disable p a).2 b).2) := by
  induction a generalizing p with
  | nil => simp [stepsOut]
  | cons n ns ih => obtain ⟨m, n⟩ := n; simp [stepsOut, ih]

def pendOf (st : PayState) : Pend := (st.sps, st.pps)

/-- `step_spec` along the units of one call -/
theorem steps_spec (disable : Bool) (mtu : Nat) (hm : 3 ≤ mtu) (hm2 : mtu < 65536)
    (nals : List Bytes) (hw : ∀ n ∈ nals, nalWF n = true) (st : PayState) (hst : StOk st) :
    StepPlan (steps disable mtu st nals).1 (stepsOut disable (pendOf st) (nals.map (mtu, ·))).1 ∧
    pendOf (steps disable mtu st nals).2 = (stepsOut disable (pendOf st) (nals.map (mtu, ·))).2 ∧
    StOk (steps disable mtu st nals).2 := by
  induction nals generalizing st with
  | nil => exact ⟨StepPlan.nil, rfl, hst⟩
  | cons n ns ih =>
    obtain ⟨h1, h2, h3⟩ := step_spec disable mtu hm hm2 st n (hw n (by simp)) hst
    obtain ⟨k1, k2, k3⟩ := ih (fun m hm' => hw m (by simp [hm'])) (step disable mtu st n).2 h3
    have e : pendOf (step disable mtu st n).2 = (stepOut disable mtu st.sps st.pps n).2 := h2
    simp only [steps, stepsOut, pendOf, List.map_cons] at *
    rw [← e]
    exact ⟨StepPlan.append h1 k1, k2, k3⟩

/-- a call's buffer (`bare`: no start code, hence exactly one unit) is split into the call's units -/
theorem call_payload (disable : Bool) (st : PayState) (c : C10.RtCall)
    (hb : c.bare = true → c.units.length = 1) (hw : ∀ u ∈ c.units, nalWF u.2 = true) :
    payload disable c.mtu st c.buffer = steps disable c.mtu.toNat st c.nals := by
  unfold payload C10.RtCall.buffer C10.RtCall.nals
  cases hbare : c.bare with
  | true =>
    have := hb hbare
    match hu : c.units, this with
    | [(f, n)], _ =>
      have hn : nalWF n = true := hw (f, n) (by simp [hu])
      have hne : n ≠ [] := (nalOk_of_wf n hn).1
      simp only [if_true, List.map_cons, List.map_nil]
      rw [if_neg (by simpa using hne), emitNalus_bare n (nalOk_of_wf n hn)]
  | false =>
    simp only [Bool.false_eq_true, if_false]
    cases hu : c.units with
    | nil => simp [annexB, steps]
    | cons u r =>
      have hall : ∀ v ∈ (u :: r), nalOk v.2 := by
        intro v hv; exact nalOk_of_wf v.2 (hw v (by simpa [hu] using hv))
      rw [emitNalus_annexB (u :: r) (by simp) hall]
      have hne : (annexB (u :: r)).isEmpty = false := by
        obtain ⟨f, n⟩ := u
        cases f <;> simp [annexB]
      rw [hne]; simp

theorem rtCalls_flatten (disable avc : Bool) (st : PayState) (buf : Bytes) (cs : List C10.RtCall) :
    (rtCalls disable avc st buf cs).flatten = (observePkts avc buf (fragsCalls disable st cs)).1 ∧
    (rtCalls disable avc st buf cs).length = cs.length := by
  induction cs generalizing st buf with
  | nil => simp [rtCalls, fragsCalls, observePkts]
  | cons c cs ih =>
    have := ih (payload disable c.mtu st c.buffer).2
      (observePkts avc buf (payload disable c.mtu st c.buffer).1).2
    simp [rtCalls, fragsCalls, observePkts_append, this.1, this.2]

/-- … and along the calls of a history, from any well-formed pending state -/
theorem frags_spec (disable : Bool) (cs : List C10.RtCall) (hw : ∀ c ∈ cs, C10.RtCall.WF c) (st : PayState)
    (hst : StOk st) :
    StepPlan (fragsCalls disable st cs) (stepsOut disable (pendOf st) (cs.flatMap C10.RtCall.tagged)).1 := by
  induction cs generalizing st with
  | nil => exact StepPlan.nil
  | cons c cs ih =>
    obtain ⟨hm, hb, hu⟩ := hw c (by simp)
    have hnals : ∀ n ∈ c.nals, nalWF n = true := by
      intro n hn
      simp only [C10.RtCall.nals, List.mem_map] at hn
      obtain ⟨u, hu', rfl⟩ := hn
      exact hu u hu'
    obtain ⟨h1, h2, h3⟩ := steps_spec disable c.mtu.toNat hm c.mtu.toNat_lt c.nals hnals st hst
    have ih' := ih (fun c' hc' => hw c' (by simp [hc'])) (steps disable c.mtu.toNat st c.nals).2 h3
    have ht : c.tagged = c.nals.map (c.mtu.toNat, ·) := by
      simp [C10.RtCall.tagged, C10.RtCall.nals]
    simp only [fragsCalls, call_payload disable st c hb hu, List.flatMap_cons, stepsOut_append, ht]
    rw [h2] at ih'
    exact StepPlan.append h1 ih'

/-- `DisableStapA` set: every unit but AUD and filler leaves at once, never in a STAP-A -/
theorem stepsOut_disable (p : Pend) (ts : List (Nat × Bytes)) :
    flatOf (stepsOut true p ts).1 = (ts.map (·.2)).filter (fun n => !isDropped n) ∧
    ∀ g ∈ (stepsOut true p ts).1, g.1 = false := by
  induction ts generalizing p with
  | nil => simp [stepsOut, flatOf]
  | cons t ts ih =>
    obtain ⟨m, n⟩ := t
    have := ih p
    simp only [flatOf] at this
    simp only [stepsOut, stepOut, List.map_cons, List.filter_cons, flatOf]
    by_cases hd : isDropped n = true
    · simpa [hd] using this
    · simp only [hd, Bool.false_eq_true, if_false, if_true, List.cons_append, List.nil_append,
        List.flatMap_cons, Bool.not_false, List.mem_cons, forall_eq_or_imp, true_and]
      exact ⟨by rw [this.1], this.2⟩

/-- `DisableStapA` clear: the units leave in the order `holdback` describes -/
theorem stepsOut_holdback (p : Pend) (ts : List (Nat × Bytes)) :
    flatOf (stepsOut false p ts).1 = holdback p.1 p.2 (ts.map (·.2)) := by
  induction ts generalizing p with
  | nil => rfl
  | cons t ts ih =>
    obtain ⟨m, n⟩ := t
    obtain ⟨s, q⟩ := p
    simp only [stepsOut, stepOut, holdback, Bool.false_eq_true, if_false, List.map_cons, flatOf,
      List.flatMap_append]
    simp only [flatOf] at ih
    by_cases hd : isDropped n = true
    · simp [hd, ih]
    · simp only [hd, Bool.false_eq_true, if_false]
      by_cases h7 : isSps n = true
      · simp [h7, ih]
      · simp only [h7, Bool.false_eq_true, if_false]
        by_cases h8 : isPps n = true
        · simp [h8, ih]
        · simp only [h8, Bool.false_eq_true, if_false]
          cases s <;> cases q <;> simp [ih]
          split <;> simp

theorem flatOf_group (plan : List Item) : flatOf (plan.map Item.group) = plan.flatMap Item.nals := by
  simp [flatOf, List.flatMap_map, Item.group]

theorem tagged_snd (cs : List C10.RtCall) :
    (cs.flatMap C10.RtCall.tagged).map (·.2) = cs.flatMap C10.RtCall.nals := by
  rw [List.map_flatMap]
  congr 1; funext c
  simp [C10.RtCall.tagged, C10.RtCall.nals]

/-- a whole history from a new payloader: the fragments are the encoding of a legal plan, packed
    as `stepsOut` says, that carries exactly the units `delivered` says -/
theorem history_plan (disable : Bool) (cs : List C10.RtCall) (hw : ∀ c ∈ cs, C10.RtCall.WF c) :
    ∃ plan : List Item, fragsCalls disable {} cs = encode plan ∧ plan.all Item.wf = true ∧
      plan.all C10.headsApply = true ∧
      plan.map Item.group = (stepsOut disable (none, none) (cs.flatMap C10.RtCall.tagged)).1 ∧
      plan.flatMap Item.nals = delivered disable (cs.flatMap C10.RtCall.nals) := by
  obtain ⟨plan, e, w, ha, k⟩ := (frags_spec disable cs hw {} StOk.empty).ex
  refine ⟨plan, e, w, ha, k, ?_⟩
  rw [← flatOf_group, k]
  cases disable with
  | true => simp [delivered, (stepsOut_disable _ _).1, tagged_snd]
  | false => simp [delivered, stepsOut_holdback, pendOf, tagged_snd]

theorem callWF_of_wf (i : C10.RtInput) (h : i.wf = true) : ∀ c ∈ i.calls, C10.RtCall.WF c := by
  intro c hc
  simp only [C10.RtInput.wf, Bool.and_eq_true, List.all_eq_true, decide_eq_true_eq,
    Bool.or_eq_true, Bool.not_eq_true', beq_iff_eq] at h
  obtain ⟨⟨h1, h2⟩, h3⟩ := h.1 c hc
  refine ⟨h1, ?_, fun u hu => h3 u hu⟩
  intro hb
  rcases h2 with h2 | h2
  · rw [hb] at h2; cases h2
  · exact h2

theorem expected_of_wf (i : C10.RtInput) (h : i.wf = true) : delivered i.disable i.nals = i.expected := by
  simp only [C10.RtInput.wf, Bool.and_eq_true, Bool.or_eq_true] at h
  simp only [delivered, C10.RtInput.expected]
  cases hd : i.disable with
  | true => simp
  | false =>
    simp only [Bool.false_eq_true, if_false]
    rcases h.2 with h2 | h2
    · rw [hd] at h2; cases h2
    · exact holdback_paired i.nals h2

end Rtp.Proofs.H264
