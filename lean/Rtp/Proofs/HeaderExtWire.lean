/-
  Rtp/Proofs/HeaderExtWire.lean — C05 and the wire.  What Marshal does with any header (never
  panics; refuses only a legacy value that is not whole words).  C05's invariant `legal` as
  `InvWith`, with the element test of the one-byte form as a parameter, preserved by SetExtension /
  DelExtension (`InvWith.step`); the fixed fields are not touched (`fixedOk_step`).  An accepted
  SetExtension reads back (`set_get`) and leads into C01's domain (`wfH_of_set`).  C01's header
  round trip as a proposition (`HeaderRoundTrip`), and the final clause of the predicate for every
  header in its domain (`finalWfH_of_legal`, `finalOk_model`).
-/
import Rtp.Proofs.HeaderExt
import Rtp.Proofs.HeaderExtSpec
import Rtp.Proofs.PacketRtWrite
namespace Rtp.Proofs.HeaderExt
open Rtp Rtp.Model Rtp.Pred Rtp.Pred.C05
open Rtp.Spec.OrderedMap (Map Op)

theorem extBodyBytes_err (h : Header) (e : Err) (he : extBodyBytes h = .err e) :
    isLegacy h.extProfile = true ∧
    ∃ x rest, h.exts = x :: rest ∧ x.payload.length % 4 ≠ 0 := by
  unfold extBodyBytes at he
  split at he
  · simp at he
  · split at he
    · simp at he
    · rename_i h1 h2
      split at he
      · simp at he
      · rename_i _ x rest heq
        split at he
        · rename_i hm
          refine ⟨by simp [isLegacy, h1, h2], x, rest, heq, by simpa using hm⟩
        · simp at he

theorem hdrMarshal_err (h : Header) (e : Err) (he : hdrMarshal h = .err e) :
    h.extension = true ∧ isLegacy h.extProfile = true ∧
    ∃ x rest, h.exts = x :: rest ∧ x.payload.length % 4 ≠ 0 := by
  unfold hdrMarshal hdrMarshalTo at he
  simp only [rep_length, Nat.lt_irrefl, gt_iff_lt, if_false] at he
  by_cases hx : h.extension = true
  · simp only [hx, if_true] at he
    cases hb : extBodyBytes h with
    | ok b => simp [hb] at he
    | panic => exact absurd hb (PacketRt.extBodyBytes_ne_panic h)
    | err e' => exact ⟨hx, extBodyBytes_err h e' hb⟩
  · simp [hx] at he

theorem all_upsert (P : Ext → Bool) (es : List Ext) (id : UInt8) (v : Bytes)
    (hall : es.all P = true) (hnew : ∀ e : Ext, e.id = id → P { e with payload := v } = true) :
    (upsertExt es id v).all P = true := by
  induction es with
  | nil => simpa [upsertExt] using hnew { id := id, payload := v } rfl
  | cons e es ih =>
    simp only [List.all_cons, Bool.and_eq_true] at hall
    simp only [upsertExt]
    cases hc : e.id == id
    · simp only [Bool.false_eq_true, if_false, List.all_cons, hall.1, ih hall.2, Bool.and_self]
    · simp only [if_true, List.all_cons, hall.2, Bool.and_true]
      exact hnew e (by simpa using hc)

theorem eraseExt_sublist (es es' : List Ext) (id : UInt8) (he : eraseExt es id = some es') :
    es'.Sublist es ∧ es'.length + 1 = es.length := by
  induction es generalizing es' with
  | nil => cases he
  | cons e es ih =>
    simp only [eraseExt] at he
    split at he
    · cases he; exact ⟨List.sublist_cons_self e es, rfl⟩
    · simp only [Option.map_eq_some_iff] at he
      obtain ⟨r, hr, rfl⟩ := he
      exact ⟨(ih r hr).1.cons_cons e, by simp only [List.length_cons, (ih r hr).2]⟩

/-- the element test of a block: `P1` in the one-byte form, SetExtension's own test otherwise -/
def elemOk (P1 : Ext → Bool) (profile : UInt16) (e : Ext) : Bool :=
  if profile == profileOneByte then P1 e else (validateExt profile e.id e.payload.length).isNone

/-- C05's invariant (`legal`, Pred/C05.lean) with the one-byte element test as a parameter -/
def InvWith (P1 : Ext → Bool) (h : Header) : Prop :=
  noGhost h = true ∧ h.exts.all (elemOk P1 h.extProfile) = true ∧
    (isLegacy h.extProfile = true → h.exts.length ≤ 1)

/-- SetExtension's test in the one-byte form -/
def validOne (e : Ext) : Bool := (validateExt profileOneByte e.id e.payload.length).isNone

theorem elemOk_validOne (p : UInt16) :
    elemOk validOne p = fun e => (validateExt p e.id e.payload.length).isNone := by
  funext e
  unfold elemOk validOne
  split
  · rename_i h; rw [eq_of_beq h]
  · rfl

theorem elemOk_oneByte (P1 : Ext → Bool) : elemOk P1 profileOneByte = P1 := rfl

theorem elemOk_of_ne (P1 Q1 : Ext → Bool) (p : UInt16) (hp : (p == profileOneByte) = false) :
    elemOk P1 p = elemOk Q1 p := by
  funext e
  simp only [elemOk, hp, Bool.false_eq_true, if_false]

theorem InvWith.mono {P1 Q1 : Ext → Bool} {h : Header} (hl : InvWith P1 h)
    (hPQ : h.extProfile = profileOneByte → ∀ e ∈ h.exts, P1 e = true → Q1 e = true) : InvWith Q1 h := by
  refine ⟨hl.1, ?_, hl.2.2⟩
  have hall := hl.2.1
  rw [List.all_eq_true] at hall ⊢
  intro e he
  have := hall e he
  unfold elemOk at this ⊢
  split
  · rename_i hp; rw [if_pos hp] at this; exact hPQ (eq_of_beq hp) e he this
  · rename_i hp; rwa [if_neg hp] at this

theorem validate_legacy (p : UInt16) (id : UInt8) (len : Nat) (hp : isLegacy p = true) :
    (validateExt p id len).isNone = (id == 0) := by
  simp only [isLegacy, Bool.not_eq_true', Bool.or_eq_false_iff] at hp
  simp only [validateExt, hp.1, hp.2, Bool.false_eq_true, if_false, bne]
  by_cases h0 : id = 0 <;> simp [h0]

theorem legal_iff (h : Header) : legal h = true ↔ InvWith validOne h := by
  unfold legal InvWith noGhost
  simp only [elemOk_validOne]
  cases h.extension
  · simp (config := { contextual := true }) [List.isEmpty_iff]
  · by_cases h12 : (h.extProfile == profileOneByte || h.extProfile == profileTwoByte) = true
    · simp [h12, isLegacy]
    · have hleg : isLegacy h.extProfile = true := by simpa [isLegacy] using h12
      simp only [h12, hleg, validate_legacy _ _ _ hleg]
      match h.exts with
      | [] => simp
      | [e] => simp
      | _ :: _ :: _ => simp

theorem elemOk_legacy (P1 : Ext → Bool) (p : UInt16) (hp : isLegacy p = true) :
    elemOk P1 p = fun e => e.id == 0 := by
  funext e
  have h1 : (p == profileOneByte) = false := by
    simp only [isLegacy, Bool.not_eq_true', Bool.or_eq_false_iff] at hp; exact hp.1
  simp only [elemOk, h1, Bool.false_eq_true, if_false, validate_legacy p _ _ hp]

section
variable {P1 : Ext → Bool}
  (hP : ∀ e, validOne e = true → P1 e = true)
include hP

theorem InvWith.set {h : Header} (hl : InvWith P1 h) (id : UInt8) (v : Bytes) :
    InvWith P1 (setExtension h id v).2 := by
  obtain ⟨hg, hall, hlen⟩ := hl
  rw [setExtension_eq]
  cases hv : validateExt (setProfile h v.length) id v.length with
  | some e => exact ⟨hg, hall, hlen⟩
  | none =>
    have hnew : ∀ e : Ext, e.id = id → elemOk P1 (setProfile h v.length) { e with payload := v } = true := by
      intro e he
      subst he
      unfold elemOk
      split
      · rename_i hp; rw [eq_of_beq hp] at hv; exact hP _ (by rw [validOne, hv]; rfl)
      · simp only [hv, Option.isNone_none]
    by_cases hx : h.extension = true
    · have hp : setProfile h v.length = h.extProfile := if_pos hx
      rw [hp] at hv hnew
      simp only [hx, Bool.not_true, Bool.false_eq_true, if_false]
      refine ⟨by simp [noGhost], all_upsert _ _ _ _ hall hnew, fun hleg => ?_⟩
      -- a legacy block holds at most one element, of id 0, and only id 0 is accepted: it is replaced
      have hid : (id == 0) = true := by
        rw [← validate_legacy _ id v.length hleg, hv]; rfl
      have hl1 := hlen hleg
      rw [elemOk_legacy P1 _ hleg] at hall
      match hes : h.exts, hall, hl1 with
      | [], _, _ => simp [upsertExt]
      | [e], hall, _ =>
        have : (e.id == id) = true := by
          simp only [List.all_cons, List.all_nil, Bool.and_true, beq_iff_eq] at hall hid ⊢; rw [hall, hid]
        simp [upsertExt, this]
      | _ :: _ :: _, _, hl1 => simp at hl1
    · have hx' : h.extension = false := by simpa using hx
      have hn : h.exts = [] := by simpa [noGhost, hx'] using hg
      simp only [hx', Bool.not_false, if_true, hn, List.nil_append]
      exact ⟨rfl, by simpa using hnew ⟨id, v⟩ rfl, fun _ => Nat.le_refl 1⟩

omit hP in
theorem InvWith.del {h : Header} (hl : InvWith P1 h) (id : UInt8) :
    InvWith P1 (delExtension h id).2 := by
  obtain ⟨hg, hall, hlen⟩ := hl
  unfold delExtension
  split
  · exact ⟨hg, hall, hlen⟩
  · rename_i hx
    cases he : eraseExt h.exts id with
    | none => exact ⟨hg, hall, hlen⟩
    | some es =>
      have hx' : h.extension = true := by simpa using hx
      obtain ⟨hsub, hlt⟩ := eraseExt_sublist _ _ _ he
      refine ⟨by simp [noGhost, hx'], ?_, fun hleg => ?_⟩
      · exact List.all_eq_true.mpr fun e hm => List.all_eq_true.mp hall e (hsub.subset hm)
      · have := hlen hleg
        show es.length ≤ 1
        omega

theorem InvWith.step {h : Header} (hl : InvWith P1 h) (op : Op) : InvWith P1 (modelStep h op).2 := by
  cases op with
  | set id v => exact hl.set hP id v
  | del id => exact hl.del id
end

theorem legal_step (h : Header) (op : Op) (hl : legal h = true) : legal (modelStep h op).2 = true :=
  (legal_iff _).mpr (((legal_iff h).mp hl).step (fun _ he => he) op)

theorem legal_noGhost (h : Header) (hl : legal h = true) : noGhost h = true := ((legal_iff h).mp hl).1

theorem fixedOk_iff (h : Header) : fixedOk h = true ↔
    h.version.toNat < 4 ∧ h.payloadType.toNat < 128 ∧ h.csrc.length ≤ 15 := by
  simp only [fixedOk, Bool.and_eq_true, decide_eq_true_eq, and_assoc]

/-- the accessors never touch version, payload type or the CSRC list -/
theorem fixedOk_step (h : Header) (op : Op) : fixedOk (modelStep h op).2 = fixedOk h := by
  cases op with
  | set id v =>
    rw [modelStep, setExtension_eq]
    split
    · rfl
    · split <;> rfl
  | del id =>
    rw [modelStep, delExtension]
    split
    · rfl
    · split <;> rfl

theorem fixedOk_steps (ops : List Op) (h : Header) (hf : fixedOk h = true) :
    fixedOk (modelSteps h ops).2 = true :=
  modelSteps_inv (fun h op hf => (fixedOk_step h op).trans hf) ops h hf

theorem set_get (h : Header) (id : UInt8) (v : Bytes) (h' : Header) (hg : noGhost h = true)
    (hs : setExtension h id v = (none, h')) : getExtension h' id = some v := by
  have hv := step_view h (.set id v) hg (by simp [modelStep, hs])
  simp only [modelStep, hs] at hv
  rw [get_view, hv]
  exact Rtp.Proofs.HeaderExtSpec.get_set_same _ id v

theorem set_enabled (h : Header) (id : UInt8) (v : Bytes) (h' : Header)
    (hs : setExtension h id v = (none, h')) : h'.extension = true := by
  rw [setExtension_eq] at hs
  split at hs
  · cases hs
  · split at hs
    · cases hs; rfl
    · rename_i hx
      cases hs
      simpa using hx

/-- RFC 8285's table at its two profiles, as C01 spells it -/
theorem accepts_oneByte (id : UInt8) (len : Nat) : OM.accepts profileOneByte id len =
    (1 ≤ id.toNat && id.toNat ≤ 14 && 1 ≤ len && len ≤ 16) := rfl

theorem accepts_twoByte (id : UInt8) (len : Nat) : OM.accepts profileTwoByte id len =
    (1 ≤ id.toNat && len ≤ 255) := rfl

theorem extsLegal_of_legal (h : Header) (hl : legal h = true)
    (hleg : isLegacy h.extProfile = true → h.extension = true →
      ∃ e, h.exts = [e] ∧ e.payload.length % 4 = 0) :
    C01.extsLegal h = true := by
  obtain ⟨hg, hall, _⟩ := (legal_iff h).mp hl
  rw [elemOk_validOne] at hall
  simp only [validate_accepts] at hall
  unfold C01.extsLegal
  by_cases hx : h.extension = true
  · simp only [hx, Bool.not_true, Bool.false_eq_true, if_false]
    by_cases h1 : (h.extProfile == profileOneByte) = true
    · rw [if_pos h1]
      simpa only [eq_of_beq h1, accepts_oneByte] using hall
    · by_cases h2 : (h.extProfile == profileTwoByte) = true
      · rw [if_neg h1, if_pos h2]
        simpa only [eq_of_beq h2, accepts_twoByte] using hall
      · rw [if_neg h1, if_neg h2]
        have hlg : isLegacy h.extProfile = true := by simp [isLegacy, h1, h2]
        obtain ⟨e, he, hm⟩ := hleg hlg hx
        simp only [← validate_accepts, validate_legacy _ _ _ hlg] at hall
        rw [he] at hall ⊢
        simpa [hm] using hall
  · have hx' : h.extension = false := by simpa using hx
    simpa [noGhost, hx'] using hg

/-- after an accepted SetExtension on a header that satisfies `legal`, with sane fixed fields, a block
    that fits the 16-bit word count of the extension header (65535 words: the last clause of
    `C01.wfH`) and, legacy only, a value of whole words, the header is in the domain of C01's
    round trip -/
theorem wfH_of_set (h : Header) (id : UInt8) (v : Bytes) (h' : Header) (hl : legal h = true)
    (hs : setExtension h id v = (none, h')) (hf : fixedOk h = true)
    (hsize : extBodySize h' ≤ 65535 * 4)
    (hleg : isLegacy h'.extProfile = true → v.length % 4 = 0) : C01.wfH h' = true := by
  have hl' : legal h' = true := by have := legal_step h (.set id v) hl; rwa [modelStep, hs] at this
  have hfx : fixedOk h' = true := by
    have := (fixedOk_step h (.set id v)).trans hf; rwa [modelStep, hs] at this
  obtain ⟨hv, hpt, hcc⟩ := (fixedOk_iff h').mp hfx
  have hen := set_enabled h id v h' hs
  have hel : C01.extsLegal h' = true := by
    apply extsLegal_of_legal h' hl'
    intro hlg _
    -- a legacy block has at most one element, and `id` reads back as `v`: the element is ⟨_, v⟩
    have hget := set_get h id v h' (legal_noGhost h hl) hs
    have hlen := ((legal_iff h').mp hl').2.2 hlg
    simp only [getExtension, hen, Bool.not_true, Bool.false_eq_true, if_false] at hget
    match hes : h'.exts, hlen with
    | [], _ => rw [hes] at hget; cases hget
    | [e], _ =>
      rw [hes, List.find?_cons] at hget
      split at hget
      · cases hget; exact ⟨e, rfl, hleg hlg⟩
      · cases hget
    | _ :: _ :: _, hlen => simp at hlen
  simp only [C01.wfH, hv, hpt, hcc, hel, hsize, decide_true, Bool.and_self]

/-- C01's header round trip: a well-formed header marshals, and the bytes decode — into any
    receiver — to a header with the same canonical observation.  It is a theorem of Rtp/Props/C01.lean
    (`c01_header_roundtrip_all`), which the proof files do not import, so the wire theorems of C05
    take it as a hypothesis and Rtp/Props/C05Closed.lean discharges it (`headerRoundTrip`). -/
def HeaderRoundTrip : Prop :=
  ∀ h : Header, C01.wfH h = true →
    ∃ bs, hdrMarshal h = .ok bs ∧
      ∀ r : Header, ∃ h', hdrUnmarshal r bs = .ok (h', bs.length) ∧ C01.canonH h' = C01.canonH h

theorem getExtension_of_canon_eq (a b : Header) (h : C01.canonH a = C01.canonH b) (id : UInt8) :
    getExtension a id = getExtension b id := by
  have hc : ∀ x, getExtension (C01.canonH x) id = getExtension x id := fun x => by
    unfold C01.canonH; split <;> rfl
  rw [← hc a, ← hc b, h]

theorem hdrMarshal_legacy_err (h : Header) (e : Ext) (rest : List Ext) (hx : h.extension = true)
    (hleg : isLegacy h.extProfile = true) (hes : h.exts = e :: rest) (hm : e.payload.length % 4 ≠ 0) :
    (hdrMarshal h).isErr = true := by
  simp only [isLegacy, Bool.not_eq_true', Bool.or_eq_false_iff] at hleg
  -- `io.ErrShortBuffer` is what Header.MarshalTo returns for a legacy value that is not whole words
  have hb : extBodyBytes h = .err .shortBuffer := by
    unfold extBodyBytes
    simp [hleg.1, hleg.2, hes, hm]
  unfold hdrMarshal hdrMarshalTo
  simp [hx, hb, Res.isErr]

/-- the three ways into the domain of the wire clause: C01's domain, or refused by Marshal (a
    legacy value that is not whole words), or no element -/
theorem finalWfH_of_legal (h : Header) (hl : legal h = true) (hf : fixedOk h = true)
    (hs : extBodySize h ≤ 65535 * 4) : finalWfH h = true := by
  obtain ⟨hv, hpt, hcc⟩ := (fixedOk_iff h).mp hf
  have wf_of_ext : C01.extsLegal h = true → finalWfH h = true := by
    intro he
    simp [finalWfH, C01.wfH, hv, hpt, hcc, he, hs]
  by_cases hx : h.extension = true
  · by_cases hleg : isLegacy h.extProfile = true
    · have hlen := ((legal_iff h).mp hl).2.2 hleg
      match hes : h.exts, hlen with
      | [], _ => simp [finalWfH, getExtensionIDs, hes]
      | [e], _ =>
        by_cases hm : e.payload.length % 4 = 0
        · exact wf_of_ext (extsLegal_of_legal h hl (fun _ _ => ⟨e, hes, hm⟩))
        · have := hdrMarshal_legacy_err h e [] hx hleg hes hm
          simp [finalWfH, this]
      | _ :: _ :: _, hlen => simp at hlen
    · exact wf_of_ext (extsLegal_of_legal h hl (fun hlg _ => absurd hlg hleg))
  · have hx' : h.extension = false := by simpa using hx
    simp [finalWfH, getExtensionIDs, hx']

/-- the receiver `{}` and the unused length `n` are those of `modelFinal` -/
theorem finalOk_of_roundtrip (h : Header) (bs : Bytes) (h' : Header) (n : Nat) (hm : hdrMarshal h = .ok bs)
    (hu : hdrUnmarshal {} bs = .ok (h', n)) (hget : ∀ k, getExtension h' k = getExtension h k) :
    finalOk (view h) (modelFinal h) = true := by
  simp only [finalOk, modelFinal, hm, Res.coarse, hu, Res.map, beq_self_eq_true, Bool.or_true, Bool.true_and,
    beq_iff_eq]
  rw [ids_view]
  apply List.map_congr_left
  intro k _
  rw [hget, get_view]

/-- the final part of the predicate holds of the model for a header in the domain of the round
    trip theorem, or one that Marshal refuses, or one that shows no element -/
theorem finalOk_model (hrt : HeaderRoundTrip) (h : Header)
    (hw : finalWfH h = true) : finalOk (view h) (modelFinal h) = true := by
  cases hm : hdrMarshal h with
  | panic => exact absurd hm (PacketRt.hdrMarshal_ne_panic h)
  | err e =>
    obtain ⟨hx, hleg, x, rest, hes, hlen⟩ := hdrMarshal_err h e hm
    simp only [finalOk, modelFinal, hm, Res.coarse, hx, Bool.true_and, Bool.and_eq_true]
    have hc : C01.canonH h = h := by simp [C01.canonH, hx]
    refine ⟨by rw [hc]; exact hleg, ?_⟩
    simp only [view, hx, if_true, hes, List.map_cons, toPair]
    simpa using hlen
  | ok bs =>
    by_cases hwf : C01.wfH h = true
    · obtain ⟨bs', hm', hun⟩ := hrt h hwf
      cases hm.symm.trans hm'
      obtain ⟨h', hu, hc⟩ := hun {}
      exact finalOk_of_roundtrip h bs h' _ hm hu (getExtension_of_canon_eq h' h hc)
    · have hids : getExtensionIDs h = [] := by
        simpa [finalWfH, hwf, hm, Res.isErr] using hw
      have hv : view h = [] := List.map_eq_nil_iff.mp ((ids_view h).symm.trans hids)
      simp only [finalOk, modelFinal, hm, Res.coarse, hids, hv, List.isEmpty_nil, Bool.true_or, Bool.true_and,
        Spec.OrderedMap.keys, List.map_nil, beq_iff_eq]
      split <;> rfl

end Rtp.Proofs.HeaderExt
