/-
  Rtp/Proofs/AV1PaySim.lean — the byte-level model of AV1Payloader (Rtp/Model/AV1PayBytes.lean, a
  statement-by-statement transcription of the Go code) and the record-based model
  (Rtp/Model/AV1Pay.lean)
  compute the same payloads: a simulation along the loop invariant `PInv`.
-/
import Rtp.Model.AV1PayBytes
import Rtp.Proofs.AV1PayTop
import Rtp.Proofs.Lib.UInt
namespace Rtp.Model.AV1B
open Rtp Rtp.Model Rtp.Model.AV1 Rtp.Spec.Av1Rtp
open Rtp.Model.ObuLemmas

/-! header byte identities, by kernel evaluation over the finitely many field values (`hdr_setY`
    after reducing W mod 4) -/

theorem hdr_fresh : ∀ n : Bool, aggHeader false false 0 n = (if n then 0x08 else 0) := by decide +kernel

theorem hdr_setW_fin : ∀ (z y n : Bool) (c : Fin 3),
    aggHeader z y 0 n ||| (((c.val + 1) <<< 4).toUInt8 &&& 0x30) = aggHeader z y (c.val + 1) n := by
  decide +kernel

theorem aggHeader_mod (z y n : Bool) (w : Nat) : aggHeader z y w n = aggHeader z y (w % 4) n := by
  simp [aggHeader]

theorem hdr_setY (z y n : Bool) (w : Nat) : aggHeader z y w n ||| 0x40 = aggHeader z true w n := by
  have fin : ∀ (z y n : Bool) (w : Fin 4), aggHeader z y w.val n ||| 0x40 = aggHeader z true w.val n := by
    decide +kernel
  rw [aggHeader_mod z y n w, aggHeader_mod z true n w]
  exact fin z y n ⟨w % 4, Nat.mod_lt _ (by omega)⟩

theorem hdr_frag : ∀ z : Bool,
    aggHeader z false 1 false = ((if z then 0x80 else 0 : UInt8) ||| 0x10) ∧
    aggHeader z false 0 false = (if z then 0x80 else 0 : UInt8) := by decide +kernel

theorem encode_setLast (p : Pk) (x : Bytes) (c : Nat) (hl : p.last = none) (hw : p.w = 0) (hc : c < 3) :
    Pk.encode { p with w := c + 1, last := some x } =
      orHdr (((c + 1) <<< 4).toUInt8 &&& 0x30) p.encode ++ x := by
  have := hdr_setW_fin p.z p.y p.n ⟨c, hc⟩
  simp only at this
  simp only [Pk.encode, Pk.body, hl, hw, Option.getD_none, List.append_nil, Option.getD_some, orHdr,
    List.cons_append, this]

theorem encode_snoc (p : Pk) (x : Bytes) (hl : p.last = none) :
    Pk.encode { p with pre := p.pre ++ [x] } = p.encode ++ writeLeb x.length ++ x := by
  simp [Pk.encode, Pk.body, hl, List.flatMap_append, lenPrefixed]

theorem encode_setY (p : Pk) : Pk.encode { p with y := true } = orHdr 0x40 p.encode := by
  simp only [Pk.encode, Pk.body, orHdr, hdr_setY]

theorem setYB_map (ps : List Pk) : setYB (ps.map Pk.encode) = (setY ps).map Pk.encode := by
  cases ps with
  | nil => rfl
  | cons p ps => simp only [List.map_cons, setYB, setY, encode_setY]

theorem fragLoopB_sim (mtu : Nat) (isLast : Bool) (fuel : Nat) (rem : Bytes) (wrote : Nat)
    (ps : List Pk) (cnt : Nat) :
    fragLoopB mtu isLast fuel rem wrote (ps.map Pk.encode) cnt =
      ((fragLoop mtu isLast fuel rem wrote ps cnt).1.map Pk.encode,
       (fragLoop mtu isLast fuel rem wrote ps cnt).2) := by
  induction fuel generalizing rem wrote ps cnt with
  | zero => simp [fragLoopB, fragLoop]
  | succ f ih =>
    by_cases hr : rem.isEmpty = true
    · simp [fragLoopB, fragLoop, hr]
    · have hr' : rem.isEmpty = false := by simpa using hr
      simp only [fragLoopB, fragLoop, hr', Bool.false_eq_true, if_false]
      have hps : (if (wrote != 0) = true then setYB (ps.map Pk.encode) else ps.map Pk.encode) =
          (if (wrote != 0) = true then setY ps else ps).map Pk.encode := by
        split
        · exact setYB_map ps
        · rfl
      rw [hps]
      obtain ⟨f1, f0⟩ := hdr_frag (wrote != 0)
      by_cases hc : (isLast || decide (rem.length ≥ mtu - 1)) = true
      · simp only [hc, if_true]
        have henc : (((if (wrote != 0) = true then (0x80 : UInt8) else 0) ||| 0x10) ::
              rem.take (min rem.length (mtu - 1))) =
            Pk.encode { z := wrote != 0, w := 1, last := some (rem.take (min rem.length (mtu - 1))) } := by
          simp [Pk.encode, Pk.body, f1]
        rw [henc, ← List.map_cons, ih]
      · simp only [hc, Bool.false_eq_true, if_false]
        have hk := computeWriteSize_le (min rem.length (mtu - 1)) (mtu - 1)
        generalize computeWriteSize (min rem.length (mtu - 1)) (mtu - 1) = k at hk ⊢
        have hlen : (rem.take k).length = k := by simp only [List.length_take]; omega
        have henc : ((if (wrote != 0) = true then (0x80 : UInt8) else 0) :: (writeLeb k ++ rem.take k)) =
            Pk.encode { z := wrote != 0, pre := [rem.take k] } := by
          simp [Pk.encode, Pk.body, f0, lenPrefixed, hlen]
        rw [henc, ← List.map_cons, ih]

/-- the invariant is needed for the packet written to: `|=` of the W bits sets W only if W was 0,
    and appending an element is `snoc` only if there is no last element yet -/
theorem appendObuB_sim (out : List Pk) (obu : Bytes) (newSeq isLast startNew : Bool) (mtu count : Nat)
    (promise : Bool) (hm : 2 ≤ mtu) (hinv : OutInv out) (hhead : HeadSt mtu out count promise)
    (hprom : promise = true → startNew = true) :
    appendObuB (out.map Pk.encode) obu newSeq isLast startNew mtu count =
      ((appendObu out obu newSeq isLast startNew mtu count).1.map Pk.encode,
       (appendObu out obu newSeq isLast startNew mtu count).2) := by
  obtain ⟨hb1, _⟩ := basePk_facts out newSeq startNew mtu count promise hm hinv hhead hprom
  rw [appendObu_eq]
  have hbase : basePkB (out.map Pk.encode) newSeq startNew mtu count =
      ((basePk out newSeq startNew mtu count).1.encode,
       (basePk out newSeq startNew mtu count).2.1.map Pk.encode,
       (basePk out newSeq startNew mtu count).2.2) := by
    have hfresh : ([if newSeq then 0x08 else 0] : Bytes) = Pk.encode { n := newSeq } := by
      simp [Pk.encode, Pk.body, hdr_fresh]
    unfold basePk basePkB
    cases out with
    | nil => simp [hfresh]
    | cons q qs =>
      simp only [List.map_cons, Pk.encode_length]
      split <;> simp [hfresh]
  unfold appendObuB
  rw [hbase]
  generalize basePk out newSeq startNew mtu count = b at *
  obtain ⟨p, T, c⟩ := b
  dsimp only at *
  unfold firstWrite
  simp only [Pk.encode_length]
  by_cases hc1 : ((isLast || decide (min obu.length (mtu - p.size) ≥ mtu - p.size)) && decide (c < 3)) = true
  · simp only [hc1, if_true]
    have hc3 : c < 3 := by
      simp only [Bool.and_eq_true, decide_eq_true_eq] at hc1; exact hc1.2
    rw [← encode_setLast p _ c hb1.1 hb1.2.1 hc3, ← List.map_cons, fragLoopB_sim]
  · simp only [hc1, Bool.false_eq_true, if_false]
    by_cases hc2 : mtu - p.size ≥ 2
    · simp only [hc2, if_true]
      have hk := computeWriteSize_le (min obu.length (mtu - p.size)) (mtu - p.size)
      generalize computeWriteSize (min obu.length (mtu - p.size)) (mtu - p.size) = k at hk ⊢
      have := encode_snoc p (obu.take k) hb1.1
      rw [List.length_take, Nat.min_eq_left (by omega)] at this
      rw [← this, ← List.map_cons, fragLoopB_sim]
    · simp only [hc2, if_false]
      rw [← List.map_cons, fragLoopB_sim, List.drop_zero]

def toB (s : PSt) : PStB :=
  { out := s.out.map Pk.encode, count := s.count, pending := s.pending, cur := s.cur,
    newSeq := s.newSeq, startNew := s.startNew }

theorem stepB_sim (mtu : Nat) (hm : 2 ≤ mtu) (s : PSt) (us : List OUnit) (done : List Bytes)
    (hinv : PInv mtu s us done) (hb : ObuHeader × Bytes) :
    stepB mtu (toB s) hb = toB (step mtu s hb) := by
  have hsim := appendObuB_sim s.out s.pending s.newSeq (needNew s.cur hb.1) s.startNew mtu s.count
    s.startNew hm hinv.out hinv.head id
  have hflush : stepFlushB mtu (toB s) hb.1 = toB (stepFlush mtu s hb.1) := by
    unfold stepFlushB stepFlush
    simp only [toB, hsim]
    by_cases hp : s.pending.isEmpty = true <;> by_cases hn : needNew s.cur hb.1 = true <;>
      simp only [hp, hn, if_true, Bool.false_eq_true, if_false]
  have hrest : ∀ s : PSt, stepRestB (toB s) hb = toB (stepRest s hb) := fun s => by
    unfold stepRestB stepRest
    dsimp only [toB]
    cases hb.1.ext <;> (dsimp only; split <;> rfl)
  rw [stepB_eq, step_eq, hflush, hrest]

theorem foldlB_sim (mtu : Nat) (hm : 2 ≤ mtu) (hs : mtu ≤ 65535) (l : List (ObuHeader × Bytes))
    (hwf : ∀ hb ∈ l, hdrWF hb.1 = true) (s : PSt) (us : List OUnit) (done : List Bytes)
    (hinv : PInv mtu s us done) :
    l.foldl (stepB mtu) (toB s) = toB (l.foldl (step mtu) s) := by
  induction l generalizing s us done with
  | nil => rfl
  | cons hb l ih =>
    obtain ⟨us1, h1⟩ := step_spec mtu hm hs s us done hb (hwf hb (by simp)) hinv
    simp only [List.foldl_cons]
    rw [stepB_sim mtu hm s us done hinv hb]
    exact ih (fun x hx => hwf x (by simp [hx])) _ _ _ h1

theorem finishB_sim (mtu : Nat) (hm : 2 ≤ mtu) (s : PSt) (us : List OUnit) (done : List Bytes)
    (hinv : PInv mtu s us done) : finishB mtu (toB s) = (finish mtu s).map Pk.encode := by
  have hsim := appendObuB_sim s.out s.pending s.newSeq true s.startNew mtu s.count
    s.startNew hm hinv.out hinv.head id
  unfold finishB finish
  simp only [toB]
  by_cases hp : s.pending.isEmpty = true
  · simp only [hp, if_true]
  · simp only [hp, Bool.false_eq_true, if_false, hsim]

theorem payloadB_eq (mtu : UInt16) (data : Bytes) : payloadB mtu data = AV1.payload mtu data := by
  unfold payloadB AV1.payload
  split
  · rfl
  · rename_i hc
    simp only [Bool.or_eq_true, decide_eq_true_eq, not_or, Nat.not_le] at hc
    have hm : 2 ≤ mtu.toNat := by omega
    have hs := u16_toNat_le mtu
    obtain ⟨us1, h1⟩ := foldl_spec mtu.toNat hm hs (walk data.length data) (walk_wf _ _) {} [] []
      (PInv_init mtu.toNat)
    have h0 : ({} : PStB) = toB {} := rfl
    rw [h0, foldlB_sim mtu.toNat hm hs _ (walk_wf _ _) {} [] [] (PInv_init mtu.toNat),
      finishB_sim mtu.toNat hm _ us1 _ h1]
    simp [payloadPks]

end Rtp.Model.AV1B
