/-
  Rtp/Proofs/WireAgree.lean — Header's public accessors on the header decoded from a description
  (`accessors_hdrOf`); a two-byte block with non-zero appbits has the same bytes as an RFC 3550 block
  with that profile (`asLegacy_encode`).
-/
import Rtp.Proofs.WireViewPred
import Rtp.Proofs.WireCanonical
namespace Rtp.Proofs.Wire
open Rtp Rtp.Model Rtp.Spec.Wire Rtp.Pred.C03

theorem hdrGetsOK_map (ext : Option ExtBlock) (h : Header) (qs : List UInt8)
    (H : ∀ q v, expectHdrGet ext q = some v → getExtension h q = v) :
    hdrGetsOK ext qs (qs.map (getExtension h)) = true := by
  induction qs with
  | nil => rfl
  | cons q r ih =>
    simp only [List.map_cons, hdrGetsOK, Bool.and_eq_true, ih, and_true]
    cases he : expectHdrGet ext q with
    | none => rfl
    | some v => simp [H q v he]

/-- the public accessors on the header decoded from a description (reserved id or not) -/
theorem accessors_hdrOf (w : Wire) (r : Header) (qs : List UInt8) :
    getExtensionIDs (hdrOf r w) = (match w.ext with | some b => b.ids | none => []) ∧
    hdrGetsOK w.ext qs (qs.map (getExtension (hdrOf r w))) = true := by
  cases hx : w.ext with
  | none =>
    refine ⟨by simp [getExtensionIDs, hdrOf, Wire.toPacket, hx], ?_⟩
    apply hdrGetsOK_map
    intro q v he
    simp only [expectHdrGet] at he
    cases he
    simp [getExtension, hdrOf, Wire.toPacket, hx]
  | some b =>
    have hxx : (hdrOf r w).extension = true := by simp [hdrOf, Wire.toPacket, hx]
    have he : (hdrOf r w).exts = b.elements := by simp [hdrOf, Wire.toPacket, hx]
    refine ⟨by simp [getExtensionIDs, hxx, he, ExtBlock.ids], ?_⟩
    apply hdrGetsOK_map
    intro q v hq
    simp only [expectHdrGet] at hq
    simp only [getExtension, hxx, he, Bool.not_true, Bool.false_eq_true, ↓reduceIte]
    split at hq
    · cases hq; rfl
    · split at hq
      · rename_i hm
        cases hq
        have hnone : (b.elements.find? (·.id == q)) = none := by
          rw [List.find?_eq_none]
          intro x hx'
          simp only [Bool.not_eq_true'] at hm
          have hsub : (b.elements.any (·.id == q)) = false := by
            cases b with
            | oneByte items stop =>
              simp only [ExtBlock.mentions, Bool.or_eq_false_iff] at hm
              simpa [ExtBlock.elements] using hm.2
            | twoByte a items => simpa [ExtBlock.mentions, ExtBlock.elements] using hm
            | legacy p ws =>
              have : q ≠ 0 := by simpa [ExtBlock.mentions] using hm
              simp [ExtBlock.elements, Ne.symm this]
          have := List.any_eq_false.mp hsub x hx'
          simpa using this
        simp [hnone]
      · cases hq

theorem appbits_profile : ∀ a : Fin 16, a.val ≠ 0 →
    (0x1000 + a.val).toUInt16 ≠ 0xBEDE ∧ (0x1000 + a.val).toUInt16 ≠ 0x1000 := by
  decide +kernel

/-- how the library reads a two-byte block with non-zero appbits: as this legacy block -/
def asLegacy (a : UInt8) (items : List Item) : ExtBlock :=
  .legacy (0x1000 + a.toNat).toUInt16 (body2 items ++ rep (padTo4 (body2 items).length) 0)

theorem asLegacy_encode (a : UInt8) (items : List Item) :
    (asLegacy a items).encode = (ExtBlock.twoByte a items).encode := by
  obtain ⟨hm, _⟩ := padTo4_facts (body2 items).length
  have hl : (body2 items ++ rep (padTo4 (body2 items).length) 0).length = (body2 items).length + padTo4 (body2 items).length := by
    simp [rep]
  have hp : padTo4 ((body2 items).length + padTo4 (body2 items).length) = 0 := by
    unfold padTo4 at hm ⊢; omega
  simp only [asLegacy, ExtBlock.encode, ExtBlock.body, ExtBlock.profile, hl, hp, Nat.add_zero, List.append_assoc]
  simp [rep]

theorem elems_ne_legacy (items : List Item) (h : items.all Item.wf2 = true) (ws : Bytes) :
    elems items ≠ [{ id := 0, payload := ws }] := by
  intro he
  induction items with
  | nil => simp [elems] at he
  | cons it r ih =>
    simp only [List.all_cons, Bool.and_eq_true] at h
    cases it with
    | pad => exact ih h.2 (by simpa [elems] using he)
    | elem id d =>
      simp only [elems, List.cons.injEq, Ext.mk.injEq] at he
      have := h.1
      simp only [Item.wf2, Bool.and_eq_true, decide_eq_true_eq] at this
      rw [he.1.1] at this
      simp at this

end Rtp.Proofs.Wire
