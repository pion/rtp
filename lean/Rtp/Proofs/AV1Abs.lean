/-
  Rtp/Proofs/AV1Abs.lean — packets as records (`Pk`, what the payloader model builds) against
  packets as bytes.  First the specification `Rtp.Spec.Av1Rtp`: `parsePacket (encode p) =
  some (toPacket p)` for every packet that has the shape its W announces.  Then the vocabulary of the
  receive side (AV1DepackRT, AV1FramesRT): `PkGood`, `goodUnit`, `sizedOf`, the body of a packet as
  `encElems`, and what a packet train contributes OBU by OBU (`pktUnits`, `feedUnits`), which
  `feedUnits_units` identifies with the units the specification joins.
-/
import Rtp.Proofs.Leb128Go
import Rtp.Model.AV1Obs
import Rtp.Proofs.Lib.Lists
namespace Rtp.Model.AV1
open Rtp Rtp.Model Rtp.Spec.Av1Rtp

def Pk.elems (p : Pk) : List Bytes := p.pre ++ p.last.toList

/-- the packet has the shape its W field announces: W = 0 and every element length-prefixed, or
    W = number of elements ≤ 3 and exactly the last one without length field -/
def Pk.shapeOK (p : Pk) : Prop :=
  (p.last = none ∧ p.w = 0) ∨ (p.last.isSome = true ∧ p.w = p.pre.length + 1 ∧ p.w ≤ 3)

def Pk.toPacket (p : Pk) : Packet := { hdr := ⟨p.z, p.y, p.w, p.n⟩, elems := p.elems }

/-- the fields of the aggregation header byte as its three readers take them out: the
    specification by division, AV1Depacketizer by mask, AV1Packet by mask and shift into a `uint8` -/
theorem aggHeader_bits (z y n : Bool) (w : Nat) (hw : w ≤ 3) :
    aggOf (aggHeader z y w n) = ⟨z, y, w, n⟩ ∧
    ((aggHeader z y w n &&& 0x80 != 0) = z ∧ (aggHeader z y w n &&& 0x40 != 0) = y ∧
      ((aggHeader z y w n &&& 0x30) >>> 4).toNat = w ∧ (aggHeader z y w n &&& 0x08 != 0) = n) ∧
    (((aggHeader z y w n &&& 0x80) >>> 7 != 0) = z ∧ ((aggHeader z y w n &&& 0x40) >>> 6 != 0) = y ∧
      ((aggHeader z y w n &&& 0x08) >>> 3 != 0) = n ∧ (aggHeader z y w n &&& 0x30) >>> 4 = w.toUInt8) := by
  obtain ⟨w', rfl⟩ : ∃ w' : Fin 4, w = w'.val := ⟨⟨w, by omega⟩, rfl⟩
  clear hw
  revert z y n w'
  decide +kernel

/-- W as the `uint8` AV1Packet keeps -/
theorem toUInt8_w (w : Nat) (hw : w ≤ 3) : w.toUInt8.toNat = w ∧ (w.toUInt8 != 0) = (w != 0) := by
  obtain ⟨w', rfl⟩ : ∃ w' : Fin 4, w = w'.val := ⟨⟨w, by omega⟩, rfl⟩
  clear hw
  revert w'
  decide

theorem Pk.encode_length (p : Pk) : p.encode.length = p.size := by
  simp [Pk.encode, Pk.size]; omega

theorem lenPrefixed_length (e : Bytes) : (lenPrefixed e).length = (writeLeb e.length).length + e.length := by
  simp [lenPrefixed]

theorem lenPrefixed_ne_nil (e : Bytes) : lenPrefixed e ≠ [] := by
  simp [lenPrefixed, writeLeb_ne_nil]

theorem isEmpty_lenPrefixed_append (e x : Bytes) : (lenPrefixed e ++ x).isEmpty = false := by
  rw [List.isEmpty_eq_false_iff]
  exact List.append_ne_nil_of_left_ne_nil (lenPrefixed_ne_nil e) x

theorem takePrefixed_lenPrefixed (e rest : Bytes) :
    takePrefixed (lenPrefixed e ++ rest) = some (e, rest) := by
  unfold takePrefixed lenPrefixed
  rw [List.append_assoc, readLebSpec_writeLeb]
  simp

theorem elemsAll_flatMap (pre : List Bytes) (fuel : Nat)
    (hf : (pre.flatMap lenPrefixed).length ≤ fuel) :
    elemsAll fuel (pre.flatMap lenPrefixed) = some pre := by
  induction pre generalizing fuel with
  | nil => cases fuel <;> simp [elemsAll]
  | cons e es ih =>
    have h1 : 0 < (lenPrefixed e).length := List.length_pos_iff.mpr (lenPrefixed_ne_nil e)
    simp only [List.flatMap_cons, List.length_append] at hf
    obtain ⟨f, rfl⟩ : ∃ f, fuel = f + 1 := ⟨fuel - 1, by omega⟩
    simp [elemsAll, takePrefixed_lenPrefixed, isEmpty_lenPrefixed_append, ih f (by omega)]

theorem elemsW_flatMap (pre : List Bytes) (l : Bytes) :
    elemsW pre.length (pre.flatMap lenPrefixed ++ l) = some (pre ++ [l]) := by
  induction pre with
  | nil => simp [elemsW]
  | cons e es ih =>
    simp only [List.length_cons, elemsW, List.flatMap_cons, List.append_assoc,
      takePrefixed_lenPrefixed, ih]
    simp

theorem parsePacket_encode (p : Pk) (h : p.shapeOK) : parsePacket p.encode = some p.toPacket := by
  obtain ⟨z, y, n, w, pre, last⟩ := p
  unfold Pk.shapeOK at h
  simp only at h
  rcases h with ⟨hl, hw⟩ | ⟨hl, hw, hw3⟩
  · subst hl; subst hw
    simp only [Pk.encode, parsePacket, (aggHeader_bits z y n 0 (by omega)).1, Pk.body, Option.getD_none,
      List.append_nil, elements, if_true, elemsAll_flatMap pre _ (Nat.le_refl _)]
    simp [Pk.toPacket, Pk.elems]
  · match last, hl with
    | some l, _ =>
      have hw0 : w ≠ 0 := by omega
      have hw1 : w - 1 = pre.length := by omega
      simp only [Pk.encode, parsePacket, (aggHeader_bits z y n w hw3).1, Pk.body, Option.getD_some,
        elements, hw0, if_false, hw1, elemsW_flatMap]
      simp [Pk.toPacket, Pk.elems]

theorem parseAll_encode (pks : List Pk) (h : ∀ p ∈ pks, p.shapeOK) :
    parseAll (pks.map Pk.encode) = some (pks.map Pk.toPacket) := by
  unfold parseAll
  induction pks with
  | nil => rfl
  | cons p ps ih =>
    have hp := parsePacket_encode p (h p (by simp))
    have ih' := ih (fun q hq => h q (by simp [hq]))
    simp only [List.map_cons, List.mapM_cons, hp, ih']
    rfl

theorem denote_encode (pks : List Pk) (h : ∀ p ∈ pks, p.shapeOK) :
    denote (pks.map Pk.encode) = some ((units (pks.map Pk.toPacket)).map (·.bytes)) := by
  simp [denote, parseAll_encode pks h]

/-- what the receive-side theorems ask of one packet.  `nonempty`: the depacketizer's loop skips an
    empty element; `small`: 2^56 is what the 64-bit accumulator of ReadLeb128 reads back exactly;
    `nz`: AV1Packet.Unmarshal refuses Z together with N, and N makes the depacketizer drop its
    buffer. -/
structure PkGood (p : Pk) : Prop where
  shape : p.shapeOK
  ne : p.elems ≠ []
  nonempty : ∀ e ∈ p.elems, e ≠ []
  small : ∀ e ∈ p.elems, e.length < 2 ^ 56
  nz : ¬ (p.n = true ∧ p.z = true)

/-- a complete transmitted OBU the depacketizer passes on: header readable, no size field,
    neither temporal delimiter nor tile list -/
def goodUnit (u : Bytes) : Prop :=
  ∃ h : ObuHeader, parseObuHeader u = .ok h ∧ h.hasSize = false ∧
    h.type ≠ obuTemporalDelimiter ∧ h.type ≠ obuTileList

/-- the OBU with its size field put back: header with the flag set, LEB128 of the payload length,
    payload -/
def sizedOf (u : Bytes) : Bytes :=
  match parseObuHeader u with
  | .ok h => ({ h with hasSize := true }).marshal ++ writeLeb (u.length - h.size) ++ u.drop h.size
  | _ => []

/-- joining, one packet's worth of elements at a time: the OBUs completed and the one left open -/
def joinPkt : Option OUnit → List Elem → List OUnit × Option OUnit
  | op, [] => ([], op)
  | op, e :: es =>
    if e.contNext then joinPkt (some (extend op e)) es
    else ((extend op e) :: (joinPkt none es).1, (joinPkt none es).2)

theorem joinPkt_append (op : Option OUnit) (a b : List Elem) :
    joinPkt op (a ++ b) =
      ((joinPkt op a).1 ++ (joinPkt (joinPkt op a).2 b).1, (joinPkt (joinPkt op a).2 b).2) := by
  induction a generalizing op with
  | nil => simp [joinPkt]
  | cons e es ih =>
    simp only [List.cons_append, joinPkt]
    split <;> simp [ih]

theorem joinElems_append (op : Option OUnit) (a b : List Elem) :
    joinElems op (a ++ b) = (joinPkt op a).1 ++ joinElems (joinPkt op a).2 b := by
  induction a generalizing op with
  | nil => simp [joinPkt]
  | cons e es ih =>
    simp only [List.cons_append, joinElems, joinPkt]
    split <;> simp [ih]

theorem Pk.shapeOK.w_le {p : Pk} (h : p.shapeOK) : p.w ≤ 3 := by
  rcases h with ⟨_, h⟩ | ⟨_, _, h⟩
  · omega
  · exact h

theorem Pk.shapeOK.w_eq {p : Pk} (h : p.shapeOK) : p.w = 0 ∨ p.w = p.elems.length := by
  rcases h with ⟨_, h⟩ | ⟨hl, h, _⟩
  · exact Or.inl h
  · obtain ⟨l, hl⟩ := Option.isSome_iff_exists.mp hl
    exact Or.inr (by simp [Pk.elems, hl, h])

theorem readLebGo_lenPrefixed (e rest : Bytes) (h : e.length < 2 ^ 56) :
    readLebGo (lenPrefixed e ++ rest) = some (e.length.toUInt64, (writeLeb e.length).length) := by
  rw [lenPrefixed, List.append_assoc]
  exact readLebGo_writeLeb _ _ h

theorem drop_lenPrefixed (e rest : Bytes) :
    (lenPrefixed e ++ rest).drop (writeLeb e.length).length = e ++ rest := by
  rw [lenPrefixed, List.append_assoc]
  exact List.drop_left' rfl

/-- the body of a packet from its elements: every element length-prefixed, except that the last one
    is bare when `bare` (W ≠ 0) -/
def encElems (bare : Bool) : List Bytes → Bytes
  | [] => []
  | [e] => if bare then e else lenPrefixed e
  | e :: es => lenPrefixed e ++ encElems bare es

theorem encElems_cons_cons (bare : Bool) (e e' : Bytes) (es : List Bytes) :
    encElems bare (e :: e' :: es) = lenPrefixed e ++ encElems bare (e' :: es) := rfl

theorem encElems_false (es : List Bytes) : encElems false es = es.flatMap lenPrefixed := by
  induction es with
  | nil => rfl
  | cons e es ih =>
    cases es with
    | nil => simp [encElems]
    | cons e' es => rw [encElems_cons_cons, ih, List.flatMap_cons (x := e)]

theorem encElems_true (pre : List Bytes) (l : Bytes) :
    encElems true (pre ++ [l]) = pre.flatMap lenPrefixed ++ l := by
  induction pre with
  | nil => rfl
  | cons e es ih =>
    rw [List.flatMap_cons, List.append_assoc, ← ih]
    cases es <;> rfl

theorem Pk.body_eq {p : Pk} (h : p.shapeOK) : p.body = encElems (p.w != 0) p.elems := by
  obtain ⟨z, y, n, w, pre, last⟩ := p
  rcases h with ⟨hl, hw⟩ | ⟨hl, hw, _⟩
  · simp only at hl hw
    subst hl hw
    simp [Pk.body, Pk.elems, encElems_false]
  · simp only at hl hw
    obtain ⟨l, rfl⟩ := Option.isSome_iff_exists.mp hl
    have : (w != 0) = true := by simp; omega
    simp [Pk.body, Pk.elems, this, encElems_true]

theorem encElems_length (bare : Bool) (es : List Bytes) (h : ∀ e ∈ es, e ≠ []) :
    es.length ≤ (encElems bare es).length := by
  induction es with
  | nil => exact Nat.le_refl _
  | cons e es ih =>
    have he : 0 < e.length := List.length_pos_iff.mpr (h e (by simp))
    have hp := lenPrefixed_length e
    cases es with
    | nil =>
      simp only [encElems]
      split <;> simp only [List.length_cons, List.length_nil] <;> omega
    | cons e' es =>
      have := ih (fun x hx => h x (List.mem_cons_of_mem _ hx))
      rw [encElems_cons_cons, List.length_append]
      simp only [List.length_cons] at this ⊢
      omega

theorem encElems_isEmpty (bare : Bool) (e : Bytes) (es : List Bytes) (he : e ≠ []) :
    (encElems bare (e :: es)).isEmpty = false := by
  cases es with
  | nil =>
    simp only [encElems]
    split
    · exact List.isEmpty_eq_false_iff.mpr he
    · exact List.isEmpty_eq_false_iff.mpr (lenPrefixed_ne_nil e)
  | cons e' es => exact isEmpty_lenPrefixed_append e _

theorem Pk.body_ne_nil {p : Pk} (h : PkGood p) : p.body ≠ [] := by
  rw [Pk.body_eq h.shape]
  cases hel : p.elems with
  | nil => exact absurd hel h.ne
  | cons e es =>
    exact List.isEmpty_eq_false_iff.mp (encElems_isEmpty _ e es (h.nonempty e (by simp [hel])))


/-! ### what one packet contributes on the receive side, on bytes

    Both receive paths keep of an open OBU only its bytes (`d.buffer`, `obuBuffer`), empty when
    none is open. -/

/-- the bytes an element with `contPrev = z` is appended to -/
def pfx (z : Bool) (op : Option OUnit) : Bytes := ((if z then op else none).map (·.bytes)).getD []

theorem extend_bytes (op : Option OUnit) (e : Bytes) (z c : Bool) (k : Nat) :
    (extend op ⟨e, z, c, k⟩).bytes = pfx z op ++ e := by
  unfold extend pfx
  cases z <;> cases op <;> simp

/-- the elements of one packet, the first already joined to the open fragment: the OBUs completed
    and the bytes left open (the last element, under Y) -/
def rfSpec (y : Bool) (l : List Bytes) : List Bytes × Bytes :=
  if y then (l.dropLast, l.getLast?.getD []) else (l, [])

theorem rfSpec_single (y : Bool) (a : Bytes) : rfSpec y [a] = if y then ([], a) else ([a], []) := by
  cases y <;> rfl

theorem rfSpec_cons_cons (y : Bool) (a b : Bytes) (l : List Bytes) :
    rfSpec y (a :: b :: l) = (a :: (rfSpec y (b :: l)).1, (rfSpec y (b :: l)).2) := by
  cases y <;> simp [rfSpec]

theorem rfSpec_open (y : Bool) (a : Bytes) (l : List Bytes) (h : ∀ x ∈ a :: l, x ≠ []) :
    (!(rfSpec y (a :: l)).2.isEmpty) = y := by
  cases y
  · rfl
  · have := h _ (List.getLast_mem (List.cons_ne_nil a l))
    simp [rfSpec, List.getLast?_eq_some_getLast, this]

/-- one packet, `buf` the bytes of the OBU left open before it -/
def pktUnits (buf : Bytes) (p : Pk) : List Bytes × Bytes :=
  match p.elems with
  | [] => ([], buf)
  | e :: es => rfSpec p.y ((buf ++ e) :: es)

/-- a packet train: the OBUs completed, one list per packet -/
def feedUnits : Bytes → List Pk → List (List Bytes)
  | _, [] => []
  | buf, p :: ps => (pktUnits buf p).1 :: feedUnits (pktUnits buf p).2 ps

theorem pktUnits_cons {buf : Bytes} {p : Pk} {e : Bytes} {es : List Bytes} (h : p.elems = e :: es) :
    pktUnits buf p = rfSpec p.y ((buf ++ e) :: es) := by
  rw [pktUnits, h]

theorem pktUnits_open (buf : Bytes) {p : Pk} (h : PkGood p) : (!(pktUnits buf p).2.isEmpty) = p.y := by
  unfold pktUnits
  cases hel : p.elems with
  | nil => exact absurd hel h.ne
  | cons e es =>
    refine rfSpec_open p.y _ es fun x hx => ?_
    have hne := h.nonempty
    rw [hel] at hne
    rcases List.mem_cons.mp hx with rfl | hx
    · exact List.append_ne_nil_of_right_ne_nil _ (hne e (by simp))
    · exact hne x (List.mem_cons_of_mem _ hx)

/-- joining by the flags, read on bytes: the completed units and the open one are `rfSpec` of the
    elements; the open unit exists iff Y, and is not empty.  Only the first element can be joined
    to `op`: the later ones have `contPrev = false`. -/
theorem joinPkt_flagElems (op : Option OUnit) (z y : Bool) (k : Nat) (e : Bytes) (es : List Bytes)
    (hne : ∀ x ∈ e :: es, x ≠ []) :
    (joinPkt op (flagElems z y k (e :: es))).1.map (·.bytes) = (rfSpec y ((pfx z op ++ e) :: es)).1 ∧
    ((joinPkt op (flagElems z y k (e :: es))).2.map (·.bytes)).getD [] =
      (rfSpec y ((pfx z op ++ e) :: es)).2 ∧
    (joinPkt op (flagElems z y k (e :: es))).2.isSome = y ∧
    (∀ u, (joinPkt op (flagElems z y k (e :: es))).2 = some u → u.bytes ≠ []) := by
  induction es generalizing op z e with
  | nil =>
    have he : e ≠ [] := hne e (by simp)
    cases y
    · simp [flagElems, joinPkt, rfSpec, extend_bytes]
    · simp [flagElems, joinPkt, rfSpec, extend_bytes, he]
  | cons e' es ih =>
    obtain ⟨h1, h2, h3, h4⟩ := ih none false e' (fun x hx => hne x (List.mem_cons_of_mem _ hx))
    have hp : pfx false none = [] := rfl
    rw [hp, List.nil_append] at h1 h2
    have hfl : flagElems z y k (e :: e' :: es) = ⟨e, z, false, k⟩ :: flagElems false y k (e' :: es) :=
      rfl
    rw [hfl]
    simp only [joinPkt, Bool.false_eq_true, if_false, List.map_cons, extend_bytes, rfSpec_cons_cons]
    exact ⟨by rw [h1], h2, h3, h4⟩

/-- the units the specification joins, by packets (the packet numbering `k` plays no part) -/
theorem feedUnits_units (pks : List Pk) (hgood : ∀ p ∈ pks, PkGood p) (k : Nat) (op : Option OUnit)
    (hop : ∀ u, op = some u → u.bytes ≠ [])
    (hchain : zyChain op.isSome (pks.map Pk.toPacket) = true) :
    (feedUnits (pfx true op) pks).flatten =
      (joinElems op (allElems k (pks.map Pk.toPacket))).map (·.bytes) := by
  induction pks generalizing k op with
  | nil => rfl
  | cons p ps ih =>
    have hg := hgood p (by simp)
    simp only [List.map_cons, zyChain, Bool.and_eq_true, beq_iff_eq] at hchain
    obtain ⟨hz, hrest⟩ := hchain
    change p.z = op.isSome at hz
    cases hel : p.elems with
    | nil => exact absurd hel hg.ne
    | cons e es =>
      have hne : ∀ x ∈ e :: es, x ≠ [] := by rw [← hel]; exact hg.nonempty
      obtain ⟨j1, j2, j3, j4⟩ := joinPkt_flagElems op p.z p.y k e es hne
      have hp : pfx p.z op = pfx true op := by rw [hz]; cases op <;> rfl
      rw [hp] at j1 j2
      have hih := ih (fun q hq => hgood q (List.mem_cons_of_mem _ hq)) (k + 1)
        (joinPkt op (flagElems p.z p.y k (e :: es))).2 j4 (by rw [j3]; exact hrest)
      simp only [feedUnits, pktUnits, hel, List.flatten_cons, List.map_cons, allElems, Pk.toPacket,
        joinElems_append, List.map_append]
      rw [← j1, ← j2]
      exact congrArg _ hih

end Rtp.Model.AV1
