/-
  Rtp/Proofs/VLABuf.lean — `marshalGo` (index writes into a zeroed buffer of `requiredLen` bytes,
  statement by statement) computes what `marshal` (sections appended, then `fit`) computes, on
  every input.  Every stage lemma has the shape "the buffer is `A`, then as many zero bytes as the
  stage writes, then `k` more; the stage at offset `A.length` leaves `A`, its bytes, `k` zeros".
-/
import Rtp.Proofs.VLAMarshal
import Rtp.Proofs.Lib.Bytes
namespace Rtp.Model.Vla
open Rtp Rtp.Spec.VlaSpec

theorem setAt_append (A : Bytes) (c x : UInt8) (rest : Bytes) (n : Nat) (hn : n = A.length) :
    setAt (A ++ c :: rest) n x = some (A ++ x :: rest) := by
  subst hn
  simp [setAt]

theorem orAt_append (A : Bytes) (c x : UInt8) (rest : Bytes) (n : Nat) (hn : n = A.length) :
    orAt (A ++ c :: rest) n x = some (A ++ (c ||| x) :: rest) := by
  subst hn
  simp [orAt, List.getD_eq_getElem?_getD]

theorem copyAt_mid (A X R e : Bytes) (n : Nat) (hn : n = A.length) (h : e.length = X.length) :
    copyAt (A ++ (X ++ R)) n e = some (A ++ (e ++ R)) := by
  rw [copyAt, if_pos (by rw [hn, List.length_append]; exact Nat.le_add_right _ _), writeAt_mid A X R e n hn h]

theorem put16At_append (A : Bytes) (c d : UInt8) (x : UInt16) (rest : Bytes) (n : Nat) (hn : n = A.length) :
    put16At (A ++ c :: d :: rest) n x = some (A ++ (be16 x ++ rest)) := by
  subst hn
  have h1 : A.length + 2 ≤ (A ++ c :: d :: rest).length := by simp
  rw [put16At, if_pos h1, List.set_append_right _ _ (Nat.le_refl _), Nat.sub_self, List.set_cons_zero,
    List.set_append_right _ _ (Nat.le_add_right _ _), Nat.add_sub_cancel_left]
  rfl

/-- after the loop Go adds `(count - 1) / 2` to `offset` and then steps past the last mask byte -/
theorem maskBytes_length_go (ms : List UInt8) (h : 1 ≤ ms.length) :
    (ms.length - 1) / 2 + 1 = (maskBytes ms).length := by
  obtain ⟨m, hm⟩ : ∃ m, ms.length = m + 1 := ⟨_, (Nat.sub_add_cancel h).symm⟩
  rw [maskBytes_length, hm, Nat.add_sub_cancel]
  exact (Nat.add_div_right m (by decide)).symm

theorem writeMasks_even (a : UInt8) (ms : List UInt8) (A rest : Bytes) (off j : Nat) (ho : off + j = A.length) :
    writeMasks (A ++ 0 :: rest) off (a :: ms) (2 * j) = writeMasks (A ++ (a <<< 4) :: rest) off ms (2 * j + 1) := by
  rw [writeMasks, Nat.mul_mod_right, if_pos (show ((0 : Nat) == 0) = true from rfl),
    Nat.mul_div_cancel_left j (by decide), orAt_append A 0 _ _ _ ho, UInt8.zero_or]

theorem writeMasks_odd (b : UInt8) (ms : List UInt8) (A : Bytes) (c : UInt8) (rest : Bytes) (off j : Nat)
    (ho : off + j = A.length) :
    writeMasks (A ++ c :: rest) off (b :: ms) (2 * j + 1) = writeMasks (A ++ (c ||| b) :: rest) off ms (2 * (j + 1)) := by
  have hodd : ((2 * j + 1) % 2 == 0) = false := by rw [Nat.mul_add_mod]; rfl
  have hdiv : off + (2 * j + 1) / 2 = A.length := by rw [Nat.mul_add_div (by decide)]; exact ho
  rw [writeMasks, hodd, if_neg Bool.false_ne_true, orAt_append A _ _ _ _ hdiv]
  rfl

theorem writeMasks_eq (ms : List UInt8) : ∀ (A : Bytes) (k off j : Nat), off + j = A.length →
    writeMasks (A ++ rep ((maskBytes ms).length + k) 0) off ms (2 * j) = some (A ++ maskBytes ms ++ rep k 0) := by
  induction ms using maskBytes.induct with
  | case1 => intro A k off j _; rw [writeMasks, maskBytes, List.length_nil, Nat.zero_add, List.append_nil]
  | case2 a =>
    intro A k off j ho
    rw [maskBytes, List.length_singleton, Nat.add_comm, rep_succ, writeMasks_even a [] A _ off j ho, writeMasks,
      List.append_assoc]
    rfl
  | case3 a b r ih =>
    intro A k off j ho
    rw [maskBytes, List.length_cons, Nat.add_right_comm, rep_succ, writeMasks_even a _ A _ off j ho,
      writeMasks_odd b r A _ _ off j ho, List.append_cons,
      ih (A ++ [(a <<< 4) ||| b]) k off (j + 1) (by rw [List.length_append, ← ho]; rfl), List.append_assoc A]
    rfl

theorem tlLoop_done (L : List Layer) : ∀ (idx : Nat) (cur : UInt8) (done : Bytes),
    tlLoop L idx cur done = done ++ tlLoop L idx cur [] := by
  induction L with
  | nil => intro _ _ _; rw [tlLoop, tlLoop, List.nil_append]
  | cons l rest ih =>
    intro idx cur done
    rw [tlLoop, tlLoop]
    by_cases h4 : idx ≥ 4
    · simp only [if_pos h4]
      rw [ih 1 _ (done ++ [cur]), ih 1 _ ([] ++ [cur]), List.nil_append, List.append_assoc]
    · simp only [if_neg h4]
      exact ih _ _ _

/-- how often the #tl loop steps on to a fresh byte (`offset++`) -/
def tlExtra : List Layer → Nat → Nat
  | [], _ => 0
  | _ :: rest, idx => if idx ≥ 4 then tlExtra rest 1 + 1 else tlExtra rest (idx + 1)

theorem tlLoop_length_extra (L : List Layer) : ∀ (idx : Nat) (cur : UInt8) (done : Bytes),
    (tlLoop L idx cur done).length = done.length + tlExtra L idx + 1 := by
  induction L with
  | nil => intro _ _ _; rw [tlLoop, tlExtra, List.length_append]; rfl
  | cons l rest ih =>
    intro idx cur done
    rw [tlLoop, tlExtra]
    by_cases h4 : idx ≥ 4
    · simp only [if_pos h4]
      rw [ih, List.length_append, List.length_singleton, Nat.add_right_comm done.length 1]
      rfl
    · simp only [if_neg h4]
      exact ih _ _ _

theorem writeTl_eq (L : List Layer) : ∀ (idx : Nat) (cur : UInt8) (A : Bytes) (k n : Nat), n = A.length →
    writeTl (A ++ cur :: rep (tlExtra L idx + k) 0) L idx n =
      some (tlLoop L idx cur A ++ rep k 0, n + tlExtra L idx) := by
  induction L with
  | nil => intro _ _ _ _ _ _; rw [writeTl, tlLoop, tlExtra, Nat.zero_add, List.append_assoc]; rfl
  | cons l rest ih =>
    intro idx cur A k n hn
    rw [writeTl, tlLoop, tlExtra]
    by_cases h4 : idx ≥ 4
    · simp only [if_pos h4]
      rw [Nat.add_right_comm, rep_succ, List.append_cons A cur,
        orAt_append (A ++ [cur]) 0 _ _ (n + 1) (by rw [hn, List.length_append]; rfl), UInt8.zero_or]
      simp only
      rw [ih 1 _ (A ++ [cur]) k (n + 1) (by rw [hn, List.length_append]; rfl), Nat.add_right_comm]
      rfl
    · simp only [if_neg h4]
      rw [orAt_append A _ _ _ n hn]
      exact ih (idx + 1) _ A k n hn

theorem writeRates_eq (es : List Bytes) : ∀ (A : Bytes) (k n : Nat), n = A.length →
    writeRates (A ++ rep (es.flatten.length + k) 0) es n =
      some (A ++ es.flatten ++ rep k 0, n + es.flatten.length) := by
  induction es with
  | nil =>
    intro _ _ _ _
    rw [writeRates, List.flatten_nil, List.length_nil, Nat.zero_add, List.append_nil]; rfl
  | cons e es ih =>
    intro A k n hn
    rw [List.flatten_cons, List.length_append, Nat.add_assoc, rep_add, writeRates,
      copyAt_mid A _ _ e n hn (rep_length _ _).symm]
    simp only
    rw [← List.append_assoc, ih (A ++ e) k (n + e.length) (by rw [hn, List.length_append]),
      List.append_assoc A e, Nat.add_assoc]

theorem writeRes_cons (l : Layer) (rest : List Layer) (A R : Bytes) (c0 c1 c2 c3 c4 : UInt8) (n : Nat)
    (hn : n = A.length) :
    writeRes (A ++ c0 :: c1 :: c2 :: c3 :: c4 :: R) (l :: rest) n =
      writeRes (A ++ resBytes l ++ R) rest (n + 5) := by
  rw [writeRes, put16At_append A c0 c1 _ _ n hn]
  simp only
  rw [← List.append_assoc, put16At_append (A ++ be16 _) c2 c3 _ _ (n + 2) (by rw [hn, List.length_append]; rfl)]
  simp only
  rw [← List.append_assoc, setAt_append (A ++ be16 _ ++ be16 _) c4 _ R (n + 4)
    (by rw [hn, List.length_append, List.length_append]; rfl)]
  simp only
  rw [resBytes, List.append_cons, List.append_assoc A, List.append_assoc A]

theorem writeRes_eq (L : List Layer) : ∀ (A : Bytes) (k n : Nat), n = A.length →
    writeRes (A ++ rep ((L.flatMap resBytes).length + k) 0) L n = some (A ++ L.flatMap resBytes ++ rep k 0) := by
  induction L with
  | nil => intro _ _ _ _; rw [writeRes, List.flatMap_nil, List.length_nil, Nat.zero_add, List.append_nil]
  | cons l rest ih =>
    intro A k n hn
    rw [List.flatMap_cons, List.length_append, resBytes_length, Nat.add_assoc, Nat.add_comm 5]
    rw [show rep ((rest.flatMap resBytes).length + k + 5) 0 =
        0 :: 0 :: 0 :: 0 :: 0 :: rep ((rest.flatMap resBytes).length + k) 0 from rfl,
      writeRes_cons l rest A _ 0 0 0 0 0 n hn,
      ih (A ++ resBytes l) k (n + 5) (by rw [hn, List.length_append, resBytes_length]),
      List.append_assoc A]

/-- from the #tl bytes on: the buffer is `A1` followed by exactly as many zero bytes as remain -/
theorem fillTail_eq (v : VLA) (tbl : List Layer) (enc : List Bytes) (A1 : Bytes) (off : Nat)
    (ho : off + 1 = A1.length) :
    fillTail v tbl enc (A1 ++ rep ((tlLoop tbl 0 0 []).length + (enc.flatten.length +
        (if v.hasRes = true then List.flatMap resBytes v.layers else []).length)) 0) off =
      some (A1 ++ tlLoop tbl 0 0 [] ++ enc.flatten ++
        (if v.hasRes = true then List.flatMap resBytes v.layers else [])) := by
  rw [fillTail, tlLoop_length_extra, List.length_nil, Nat.zero_add, Nat.add_right_comm, rep_succ,
    writeTl_eq tbl 0 0 A1 _ (off + 1) ho]
  simp only
  -- `writeTl` returns the offset of the last #tl byte; the `offset++` after it is the end of that section
  rw [writeRates_eq enc (tlLoop tbl 0 0 A1) _ _ (by rw [tlLoop_length_extra, ho])]
  simp only
  rw [← tlLoop_done tbl 0 0 A1]
  cases v.hasRes with
  | false => simp
  | true =>
    have := writeRes_eq v.layers (tlLoop tbl 0 0 A1 ++ enc.flatten) 0
      (off + 1 + tlExtra tbl 0 + 1 + enc.flatten.length) (by rw [List.length_append, tlLoop_length_extra, ho])
    rw [Nat.add_zero, rep_zero, List.append_nil] at this
    rw [if_pos rfl, if_pos rfl, this]

/-- filling the buffer writes exactly the sections of `marshalBody`, whenever the buffer has the
    length of the body -/
theorem fillPayload_eq (v : VLA) (hc : 1 ≤ v.count ∧ v.count ≤ 4) :
    fillPayload v ((List.range v.count.toNat).map (slMB v.layers))
      (commonSLBM ((List.range v.count.toNat).map (slMB v.layers)))
      (tableOrder v.count.toNat v.layers) (encodedRates (tableOrder v.count.toNat v.layers))
      (marshalBody v).length = some (marshalBody v) := by
  rw [fillPayload, marshalBody]
  generalize hmasks : (List.range v.count.toNat).map (slMB v.layers) = masks
  have hml : v.count.toNat = masks.length := by rw [← hmasks, List.length_map, List.length_range]
  have h1 : 1 ≤ masks.length := by rw [← hml]; omega
  generalize tableOrder v.count.toNat v.layers = tbl
  generalize (byteOfInt (v.rid * 64) ||| (byteOfInt (v.count - 1) <<< 4) ||| commonSLBM masks) = b0
  rw [List.length_cons, ← rep, rep_succ, show setAt (0 :: rep _ 0) 0 b0 = _ from setAt_append [] 0 b0 _ 0 rfl,
    List.nil_append]
  simp only
  cases hcm : (commonSLBM masks == 0) with
  | true =>
    -- the zero run as a right-nested sum, one summand per stage
    rw [if_pos rfl, if_pos rfl, List.length_append, List.length_append, List.length_append,
      Nat.add_assoc, Nat.add_assoc,
      show writeMasks (b0 :: rep _ 0) 1 masks 0 = _ from writeMasks_eq masks [b0] _ 1 0 rfl]
    simp only
    exact fillTail_eq v tbl _ (b0 :: maskBytes masks) (1 + (v.count.toNat - 1) / 2)
      (by rw [List.length_cons, ← maskBytes_length_go masks h1, hml, Nat.add_comm 1])
  | false =>
    rw [if_neg Bool.false_ne_true, if_neg Bool.false_ne_true, List.nil_append, List.length_append,
      List.length_append, Nat.add_assoc]
    exact fillTail_eq v tbl _ [b0] 0 rfl

theorem marshalGo_eq_marshal (v : VLA) : marshalGo v = marshal v := by
  rw [marshal_eq]
  refine (validated_eq v _).trans (validated_congr v fun hc _ hp => ?_)
  dsimp only
  rw [requiredLen_eq_body v hc hp, fillPayload_eq v hc]

end Rtp.Model.Vla
