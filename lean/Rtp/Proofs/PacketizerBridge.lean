/-
  Rtp/Proofs/PacketizerBridge.lean — ties the packetizer model to the general packet model
  (Rtp/Model/Packet.lean).  For EVERY history of Packetize / SkipSamples / GeneratePadding /
  EnableAbsSendTime calls, every payloader, every clock (`Packetizer.run`):

    run_faithful   : every packet q of the history, seen as a `Model.Packet` (`toPacket q`), satisfies
                     pktMarshal (toPacket q) = q.marshal  ∧  pktMarshalSize (toPacket q) = q.marshalSize
                     — i.e. `marshalSimple` IS the general `pktMarshal` on the packets the packetizer
                     builds, so c06_mtu / c06_wire / c06_padding are statements about the general model;
    run_roundtrip  : with a 7-bit payload type every packet parses back equal with the general
                     `pktUnmarshal`, into any receiver (a packet without extension keeps the receiver's
                     unobservable stale ExtensionProfile) — the statement the constant `roundtrip` flag
                     of `PktObs` stands for.  Its hypotheses `AbsValid` and `opWf` are not needed: an
                     extension id outside 1–14 makes `Packetize` return no packet (`allPkts_origin`).

  Both are C01 (`PacketRt.pktMarshal_ser`, `PacketRt.pktUnmarshal_wire`) once `marshalSimple` is seen
  to be the serialised form `PacketRt.pktWire` of the packet it describes (`pktWire_simple`).
  `toNtpTime_eq`, `absSendTimeBytes_eq`: the model's clock conversion and element value are the shared
  `Ntp.toNtpTime` / `ExtCodecs.absSendMarshal`, by `rfl`.
-/
import Rtp.Model.Packet
import Rtp.Model.Ntp
import Rtp.Model.ExtCodecs
import Rtp.Proofs.Packetizer
import Rtp.Proofs.PacketRtHeader
namespace Rtp.Proofs.PacketizerBridge
open Rtp Rtp.Model Rtp.Model.Packetizer Rtp.Proofs.Packetizer

/-- the `*rtp.Packet` an observation describes (one-byte profile when it has an extension) -/
def toPacket (q : PktObs) : Packet :=
  { header := { version := q.version.toUInt8, padding := q.padding, extension := q.extension,
                marker := q.marker, payloadType := q.pt, seq := q.seq, ts := q.ts, ssrc := q.ssrc,
                csrc := [], extProfile := if q.extension then profileOneByte else 0,
                exts := q.exts.map fun e => { id := e.1, payload := e.2 } },
    payload := q.payload, paddingSize := q.paddingSize.toUInt8 }

/-- the general model's packet with the fields `marshalSimple` takes: version 2, no CSRC, at most
    one element, of the one-byte profile -/
def simplePkt (padding marker : Bool) (pt : UInt8) (seq : UInt16) (ts ssrc : UInt32)
    (ext : Option (UInt8 × Bytes)) (payload : Bytes) (padSize : Nat) : Packet :=
  { header := { version := 2, padding := padding, extension := ext.isSome, marker := marker, payloadType := pt,
                seq := seq, ts := ts, ssrc := ssrc, csrc := [],
                extProfile := if ext.isSome then profileOneByte else 0,
                exts := (match ext with | none => [] | some e => [e]).map fun (e : UInt8 × Bytes) => { id := e.1, payload := e.2 } },
    payload := payload, paddingSize := padSize.toUInt8 }

theorem toPacket_mkPkt (p : Packetizer) (v : UInt16) (m : Bool) (ext : Option (UInt8 × Bytes)) (f : Bytes) :
    toPacket (mkPkt p v m ext f) = simplePkt false m p.pt v p.ts p.ssrc ext f 0 := rfl

theorem toPacket_mkPad (p : Packetizer) (v : UInt16) :
    toPacket (mkPad p v) = simplePkt true false p.pt v p.ts p.ssrc none [] 255 := rfl

theorem fixedBytes_simple (padding marker x : Bool) (pt : UInt8) (seq : UInt16) (ts ssrc : UInt32) (prof : UInt16)
    (exts : List Ext) :
    fixedBytes { version := 2, padding := padding, extension := x, marker := marker, payloadType := pt,
                 seq := seq, ts := ts, ssrc := ssrc, csrc := [], extProfile := prof, exts := exts } =
      [0x80 ||| (if padding then 0x20 else 0) ||| (if x then 0x10 else 0), pt ||| (if marker then 0x80 else 0)] ++
        be16 seq ++ be32 ts ++ be32 ssrc := by
  have c0 : (0 : Nat).toUInt8 = 0 := rfl
  have c1 : (2 : UInt8) <<< 6 = 128 := by decide
  have c2 : (1 : UInt8) <<< 5 = 32 := by decide
  have c3 : (1 : UInt8) <<< 4 = 16 := by decide
  have c4 : (1 : UInt8) <<< 7 = 128 := by decide
  cases padding <;> cases x <;> cases marker <;> simp [fixedBytes, c0, c1, c2, c3, c4]

/-- **`marshalSimple` is the serialised form of the packet it describes** (3-byte element) -/
theorem pktWire_simple (padding marker : Bool) (pt : UInt8) (seq : UInt16) (ts ssrc : UInt32)
    (ext : Option (UInt8 × Bytes)) (h3 : Ext3 ext) (payload : Bytes) (padSize : Nat) (hps : padSize < 256) :
    PacketRt.pktWire (simplePkt padding marker pt seq ts ssrc ext payload padSize) =
      marshalSimple padding marker pt seq ts ssrc ext payload padSize := by
  have hp : padSize.toUInt8.toNat = padSize := toNat_toUInt8_of_lt hps
  cases ext with
  | none =>
    simp [PacketRt.pktWire, PacketRt.hdrWire, PacketRt.hdrBytes, PacketRt.padBytes, fixedBytes_simple, simplePkt,
        marshalSimple, hp]
  | some e =>
    obtain ⟨id, val⟩ := e
    have hl : val.length = 3 := h3 _ rfl
    have hb : PacketRt.wireBody (simplePkt padding marker pt seq ts ssrc (some (id, val)) payload padSize).header =
        oneByteHdr id 3 :: val := by
      simp [PacketRt.wireBody, extBodyBytes, simplePkt, hl]
    have c5 : be16 profileOneByte = [0xBE, 0xDE] := by decide
    rw [PacketRt.pktWire, PacketRt.hdrWire, hb]
    simp [PacketRt.hdrBytes, PacketRt.extPart, PacketRt.padBytes, fixedBytes_simple, simplePkt, marshalSimple,
        oneByteHdr, round4, hl, hp, c5]
theorem simplePkt_ser (padding marker : Bool) (pt : UInt8) (seq : UInt16) (ts ssrc : UInt32)
    (ext : Option (UInt8 × Bytes)) (payload : Bytes) (padSize : Nat) :
    PacketRt.Ser (simplePkt padding marker pt seq ts ssrc ext payload padSize).header := by
  intro hx
  cases ext with
  | none => cases hx
  | some e => simp [PacketRt.wireBody, extBodyBytes, simplePkt]

theorem simplePkt_size (padding marker : Bool) (pt : UInt8) (seq : UInt16) (ts ssrc : UInt32)
    (ext : Option (UInt8 × Bytes)) (h3 : Ext3 ext) (payload : Bytes) (padSize : Nat) (hps : padSize < 256) :
    pktMarshalSize (simplePkt padding marker pt seq ts ssrc ext payload padSize) =
      12 + (if ext.isSome then 8 else 0) + payload.length + padSize := by
  cases ext with
  | none => simp [pktMarshalSize, hdrMarshalSize, simplePkt, toNat_toUInt8_of_lt hps]
  | some e =>
    simp [pktMarshalSize, hdrMarshalSize, extBodySize, simplePkt, toNat_toUInt8_of_lt hps, h3 e rfl, round4]

/-- the element is legal for the one-byte header form: id 1–14, 3 bytes -/
def ExtLegal (ext : Option (UInt8 × Bytes)) : Prop := ∀ e, ext = some e → 1 ≤ e.1 ∧ e.1 ≤ 14 ∧ e.2.length = 3

theorem extLegal_none : ExtLegal none := fun _ h => by cases h

theorem ExtLegal.ext3 {ext : Option (UInt8 × Bytes)} (h : ExtLegal ext) : Ext3 ext := fun e he => (h e he).2.2

theorem ExtLegal.of_mem {ext e : Option (UInt8 × Bytes)} (h : ExtLegal ext) (he : e = none ∨ e = ext) : ExtLegal e := by
  rcases he with rfl | rfl
  · intro _ h'; cases h'
  · exact h

theorem extOf_legal (p : Packetizer) (hv : AbsValid p) (now : Int64) : ExtLegal (extOf p now) := by
  intro e he
  rcases hv with h0 | hv
  · rw [extOf_disabled h0] at he; cases he
  · have h8 := absId8_valid p hv
    rw [extOf_enabled hv, ← h8.2] at he
    cases he
    simp only [Bool.and_eq_true, decide_eq_true_eq] at h8
    exact ⟨h8.1.1, h8.1.2, rfl⟩

theorem simplePkt_wf (padding marker : Bool) (pt : UInt8) (hpt : pt < 128) (seq : UInt16) (ts ssrc : UInt32)
    (ext : Option (UInt8 × Bytes)) (hx : ExtLegal ext) (payload : Bytes) (padSize : Nat) (hps : padSize < 256)
    (hpad : padding = decide (1 ≤ padSize)) :
    Pred.C01.wfP (simplePkt padding marker pt seq ts ssrc ext payload padSize) = true := by
  have hpt' : pt.toNat < 128 := UInt8.lt_iff_toNat_lt.mp hpt
  rw [PacketRt.wfP_iff]
  refine ⟨?_, by simp [simplePkt, toNat_toUInt8_of_lt hps, hpad]⟩
  cases ext with
  | none => simp [Pred.C01.wfH, Pred.C01.extsLegal, extBodySize, simplePkt, hpt']
  | some e =>
    obtain ⟨h1, h2, hl⟩ := hx e rfl
    rw [UInt8.le_iff_toNat_le] at h1 h2
    simp [Pred.C01.wfH, Pred.C01.extsLegal, extBodySize, simplePkt, hpt', hl]
    exact ⟨h1, h2⟩

theorem simplePkt_padOK (padding marker : Bool) (pt : UInt8) (seq : UInt16) (ts ssrc : UInt32)
    (ext : Option (UInt8 × Bytes)) (payload : Bytes) (padSize : Nat) (hps : padSize < 256)
    (hpad : padding = decide (1 ≤ padSize)) :
    PacketRt.PadOK (simplePkt padding marker pt seq ts ssrc ext payload padSize) := by
  rw [PacketRt.PadOK, hpad]; simp only [simplePkt, toNat_toUInt8_of_lt hps]

/-- what the model's observation says of a packet is what the general packet model says of it -/
def Faithful (q : PktObs) : Prop :=
  pktMarshal (toPacket q) = q.marshal ∧ pktMarshalSize (toPacket q) = q.marshalSize

/-- C01's `Marshal` on the packet `marshalSimple` describes -/
theorem simplePkt_marshal (padding marker : Bool) (pt : UInt8) (seq : UInt16) (ts ssrc : UInt32)
    (ext : Option (UInt8 × Bytes)) (h3 : Ext3 ext) (payload : Bytes) (padSize : Nat) (hps : padSize < 256)
    (hpad : padding = decide (1 ≤ padSize)) :
    pktMarshal (simplePkt padding marker pt seq ts ssrc ext payload padSize) =
      .ok (marshalSimple padding marker pt seq ts ssrc ext payload padSize) ∧
    pktMarshalSize (simplePkt padding marker pt seq ts ssrc ext payload padSize) =
      12 + (if ext.isSome then 8 else 0) + payload.length + padSize := by
  rw [PacketRt.pktMarshal_ser _ (simplePkt_ser _ _ _ _ _ _ _ _ _) (simplePkt_padOK _ _ _ _ _ _ _ _ _ hps hpad),
    pktWire_simple _ _ _ _ _ _ _ h3 _ _ hps, simplePkt_size _ _ _ _ _ _ _ h3 _ _ hps]
  exact ⟨rfl, rfl⟩

theorem mkPkt_faithful (p : Packetizer) (v : UInt16) (m : Bool) (ext : Option (UInt8 × Bytes)) (h3 : Ext3 ext)
    (f : Bytes) : Faithful (mkPkt p v m ext f) := by
  rw [Faithful, toPacket_mkPkt]; exact simplePkt_marshal _ _ _ _ _ _ _ h3 _ 0 (by decide) rfl

theorem mkPad_faithful (p : Packetizer) (v : UInt16) : Faithful (mkPad p v) := by
  rw [Faithful, toPacket_mkPad]; exact simplePkt_marshal _ _ _ _ _ _ _ ext3_none _ 255 (by decide) rfl

/-- where the packets of a history come from, for ANY history: each is a padding packet or a `mkPkt`
    of a packetizer with the initial configuration, with no extension element or a legal one — when
    the abs-send-time id is not in 1–14, `Packetize` returns no packets at all -/
theorem allPkts_origin (cfg p : Packetizer) (hc : SameCfg cfg p) (ops : List PkOp) :
    ∀ q ∈ Rtp.Pred.C06.allPkts (p.run ops), ∃ p' v, SameCfg cfg p' ∧
      (q = mkPad p' v ∨ ∃ m e f, q = mkPkt p' v m e f ∧ ExtLegal e) := by
  induction ops generalizing p with
  | nil => intro q hq; cases hq
  | cons op ops ih =>
    intro q hq
    rw [Packetizer.run, Rtp.Pred.C06.allPkts, List.flatMap_cons, List.mem_append] at hq
    rcases hq with hq | hq
    · cases op with
      | packetize pay payload samples now =>
        simp only [Packetizer.step, packetize, Rtp.Pred.C06.pktsOf] at hq
        split at hq
        · cases hq
        · split at hq
          · cases hq
          · rename_i hid
            obtain ⟨v, m, e, f, rfl, he, _⟩ := mkPkts_mem hq
            refine ⟨p, v, hc, .inr ⟨m, e, f, rfl, fun x hx => ?_⟩⟩
            rcases he with rfl | rfl
            · cases hx
            · split at hx
              · rename_i hen
                cases hx
                -- `hid`: the call got past `Packetize`'s guard, so the enabled id is in 1–14
                simp only [hen, Bool.true_and, Bool.not_eq_true', Bool.not_eq_false, Bool.and_eq_true,
                  decide_eq_true_eq] at hid
                exact ⟨hid.1, hid.2, rfl⟩
              · cases hx
      | skip n => cases hq
      | padding n =>
        obtain ⟨v, rfl⟩ := mkPads_mem (show q ∈ (mkPads p p.seq n.toNat).1 from hq)
        exact ⟨p, v, hc, .inl rfl⟩
      | enableAbs id => cases hq
    · exact ih _ (step_sameCfg cfg p hc op) q hq

theorem run_faithful (p : Packetizer) (ops : List PkOp) :
    ∀ q ∈ Rtp.Pred.C06.allPkts (p.run ops), Faithful q := by
  intro q hq
  obtain ⟨p', v, _, rfl | ⟨m, e, f, rfl, hx⟩⟩ := allPkts_origin p p ⟨rfl, rfl, rfl⟩ ops q hq
  · exact mkPad_faithful p' v
  · exact mkPkt_faithful p' v m e hx.ext3 f

def RoundTrips (q : PktObs) : Prop :=
  ∀ r : Packet, ∃ b prof, q.marshal = .ok b ∧
    pktUnmarshal r b = .ok { toPacket q with header := { (toPacket q).header with extProfile := prof } } ∧
    (q.extension = true → prof = profileOneByte)

theorem roundTrips_of {q : PktObs} {b : Bytes} (hm : q.marshal = .ok b)
    (hw : PacketRt.pktWire (toPacket q) = b) (hwf : Pred.C01.wfP (toPacket q) = true) : RoundTrips q := by
  intro r
  refine ⟨b, (PacketParse.withProfile r.header.extProfile (toPacket q).header).extProfile, hm, ?_, ?_⟩
  · rw [← hw, PacketRt.pktUnmarshal_wire _ hwf]
    unfold PacketParse.withProfile; split <;> rfl
  · intro hx
    have : (toPacket q).header.extension = true := hx
    rw [PacketParse.withProfile, if_pos this]
    exact if_pos hx

theorem mkPkt_roundtrip (p : Packetizer) (hpt : p.pt < 128) (v : UInt16) (m : Bool)
    (ext : Option (UInt8 × Bytes)) (hx : ExtLegal ext) (f : Bytes) : RoundTrips (mkPkt p v m ext f) :=
  roundTrips_of rfl
    (by rw [toPacket_mkPkt]; exact pktWire_simple _ _ _ _ _ _ _ hx.ext3 _ 0 (by decide))
    (by rw [toPacket_mkPkt]; exact simplePkt_wf _ _ _ hpt _ _ _ _ hx _ 0 (by decide) rfl)

theorem mkPad_roundtrip (p : Packetizer) (hpt : p.pt < 128) (v : UInt16) : RoundTrips (mkPad p v) :=
  roundTrips_of rfl
    (by rw [toPacket_mkPad]; exact pktWire_simple _ _ _ _ _ _ _ ext3_none _ 255 (by decide))
    (by rw [toPacket_mkPad]; exact simplePkt_wf _ _ _ hpt _ _ _ _ extLegal_none _ 255 (by decide) rfl)

theorem run_roundtrip (cfg p : Packetizer) (hc : SameCfg cfg p) (hv : AbsValid p) (hpt : cfg.pt < 128)
    (ops : List PkOp) (hops : ops.all Rtp.Pred.C06.opWf = true) :
    ∀ q ∈ Rtp.Pred.C06.allPkts (p.run ops), RoundTrips q := by
  intro q hq
  obtain ⟨p', v, hc', rfl | ⟨m, e, f, rfl, hx⟩⟩ := allPkts_origin cfg p hc ops q hq
  · exact mkPad_roundtrip p' (by rw [hc'.2.1]; exact hpt) v
  · exact mkPkt_roundtrip p' (by rw [hc'.2.1]; exact hpt) v m e hx f

theorem toNtpTime_eq (now : Int64) : Packetizer.toNtpTime now = Ntp.toNtpTime now.toUInt64 := rfl

theorem absSendTimeBytes_eq (now : Int64) :
    ExtCodecs.absSendMarshal { ts := Ntp.newAbsSendTime now.toUInt64 } = .ok (absSendTimeBytes now) := rfl

end Rtp.Proofs.PacketizerBridge
