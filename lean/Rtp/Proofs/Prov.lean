/-
  Rtp/Proofs/Prov.lean — the provenance layer (Rtp/Model/Prov.lean): what each operation does to
  the contents and to the origin, and `pEmitNalus` = `emitNalus` with the argument's origin on
  every emitted slice.
-/
import Rtp.Model.Prov
import Rtp.Proofs.AnnexB
namespace Rtp.Proofs.Prov
open Rtp Rtp.Model Rtp.Model.Prov

@[simp] theorem bytes_ofInput (i : Nat) (b : Bytes) : (PBytes.ofInput i b).bytes = b := rfl
@[simp] theorem bytes_make (c : Bytes) : (PBytes.make c).bytes = c := rfl
@[simp] theorem bytes_nil : PBytes.nil.bytes = [] := rfl
@[simp] theorem bytes_take (x : PBytes) (n : Nat) : (x.take n).bytes = x.bytes.take n := rfl
@[simp] theorem bytes_drop (x : PBytes) (n : Nat) : (x.drop n).bytes = x.bytes.drop n := rfl
@[simp] theorem bytes_sub (x : PBytes) (a b : Nat) : (x.sub a b).bytes = slice x.bytes a b := rfl
@[simp] theorem bytes_copy (x : PBytes) : x.copy.bytes = x.bytes := rfl
@[simp] theorem bytes_append (x : PBytes) (y : Bytes) : (x.append y).bytes = x.bytes ++ y := rfl

@[simp] theorem origin_ofInput (i : Nat) (b : Bytes) : (PBytes.ofInput i b).origin = .input i := rfl
@[simp] theorem origin_make (c : Bytes) : (PBytes.make c).origin = .fresh := rfl
@[simp] theorem origin_nil : PBytes.nil.origin = .fresh := rfl
@[simp] theorem origin_take (x : PBytes) (n : Nat) : (x.take n).origin = x.origin := rfl
@[simp] theorem origin_drop (x : PBytes) (n : Nat) : (x.drop n).origin = x.origin := rfl
@[simp] theorem origin_sub (x : PBytes) (a b : Nat) : (x.sub a b).origin = x.origin := rfl
@[simp] theorem origin_copy (x : PBytes) : x.copy.origin = .fresh := rfl
@[simp] theorem origin_append (x : PBytes) (y : Bytes) : (x.append y).origin = x.origin := rfl

@[simp] theorem forgetAll_nil : forgetAll [] = [] := rfl
@[simp] theorem forgetAll_cons (x : PBytes) (l : List PBytes) :
    forgetAll (x :: l) = x.bytes :: forgetAll l := rfl
@[simp] theorem forgetAll_append (a b : List PBytes) :
    forgetAll (a ++ b) = forgetAll a ++ forgetAll b := by simp [forgetAll]

@[simp] theorem allOwned_nil : AllOwned [] := by simp [AllOwned]
@[simp] theorem allOwned_cons (x : PBytes) (l : List PBytes) :
    AllOwned (x :: l) ↔ x.origin = .fresh ∧ AllOwned l := by simp [AllOwned]
@[simp] theorem allOwned_append (a b : List PBytes) :
    AllOwned (a ++ b) ↔ AllOwned a ∧ AllOwned b := by
  simp only [AllOwned, List.mem_append]
  exact ⟨fun h => ⟨fun x hx => h x (Or.inl hx), fun x hx => h x (Or.inr hx)⟩,
         fun h x hx => hx.elim (h.1 x) (h.2 x)⟩

theorem forgetAll_map_make (l : List Bytes) : forgetAll (l.map PBytes.make) = l := by
  rw [forgetAll, List.map_map]; exact List.map_id l

theorem allOwned_map_make (l : List Bytes) : AllOwned (l.map PBytes.make) := by
  intro x hx
  obtain ⟨_, _, rfl⟩ := List.mem_map.mp hx
  rfl

theorem map_bytes_map_make (r : Res Bytes) : (r.map PBytes.make).map PBytes.bytes = r := by
  cases r <;> rfl

theorem owned_of_map_make {r : Res Bytes} {x : PBytes} (h : r.map PBytes.make = .ok x) : x.Owned := by
  cases r <;> cases h; rfl

@[simp] theorem optOwned_none : OptOwned none := trivial
@[simp] theorem optOwned_some (x : PBytes) : OptOwned (some x) ↔ x.origin = .fresh := Iff.rfl

theorem pSplitRest_eq (rest : PBytes) :
    pSplitRest rest = (splitRest rest.bytes).map (fun b => ⟨b, rest.origin⟩) := by
  fun_induction pSplitRest rest with
  | case1 rest h => simp [splitRest_none _ h]
  | case2 rest e h four ih =>
    rw [splitRest_some _ e h, ih]
    simp [PBytes.take, PBytes.drop, four]

theorem pEmitNalus_eq (nals : PBytes) :
    pEmitNalus nals = (emitNalus nals.bytes).map (fun b => ⟨b, nals.origin⟩) := by
  unfold pEmitNalus emitNalus
  split <;> simp_all [pSplitRest_eq]

theorem forgetAll_pEmitNalus (nals : PBytes) : forgetAll (pEmitNalus nals) = emitNalus nals.bytes := by
  simp [pEmitNalus_eq, forgetAll, Function.comp_def]

theorem origin_of_mem_pEmitNalus {nals x : PBytes} (h : x ∈ pEmitNalus nals) :
    x.origin = nals.origin := by
  rw [pEmitNalus_eq] at h
  simp at h
  obtain ⟨_, _, rfl⟩ := h
  rfl

end Rtp.Proofs.Prov
