/-
  Rtp/Proofs/Leb128.lean — WriteToLeb128 and the LEB128 specification: the two equations of each,
  and read ∘ write = id.
-/
import Rtp.Model.Leb128
import Rtp.Proofs.Lib.UInt
namespace Rtp.Model
open Rtp

theorem writeLeb_lt (n : Nat) (h : n < 128) : writeLeb n = [n.toUInt8] := by
  rw [writeLeb, dif_pos h]

theorem writeLeb_ge (n : Nat) (h : 128 ≤ n) :
    writeLeb n = (n % 128 + 128).toUInt8 :: writeLeb (n / 128) := by
  rw [writeLeb, dif_neg (Nat.not_lt.mpr h)]

theorem writeLeb_ne_nil (n : Nat) : writeLeb n ≠ [] := by
  by_cases h : n < 128
  · rw [writeLeb_lt n h]; exact List.cons_ne_nil _ _
  · rw [writeLeb_ge n (Nat.le_of_not_lt h)]; exact List.cons_ne_nil _ _

theorem readLebSpec_cons_lt (b : UInt8) (rest : Bytes) (h : b.toNat < 128) :
    readLebSpec (b :: rest) = some (b.toNat, 1) := by
  rw [readLebSpec, if_pos h]

theorem readLebSpec_cons_ge (b : UInt8) (rest : Bytes) (h : 128 ≤ b.toNat) :
    readLebSpec (b :: rest) =
      (readLebSpec rest).map fun p => (b.toNat % 128 + 128 * p.1, p.2 + 1) := by
  rw [readLebSpec, if_neg (Nat.not_lt.mpr h)]
  cases readLebSpec rest <;> rfl

/-- a continuation byte carrying the group `x`, as WriteToLeb128 (and any padded encoder) emits it -/
theorem readLebSpec_group (x : Nat) (hx : x < 128) (l : Bytes) :
    readLebSpec ((x + 128).toUInt8 :: l) = (readLebSpec l).map fun p => (x + 128 * p.1, p.2 + 1) := by
  have hb : (x + 128).toUInt8.toNat = x + 128 := toNat_toUInt8_of_lt (by omega)
  rw [readLebSpec_cons_ge _ _ (by omega), hb, Nat.add_mod_right, Nat.mod_eq_of_lt hx]

theorem readLebSpec_writeLeb (n : Nat) (rest : Bytes) :
    readLebSpec (writeLeb n ++ rest) = some (n, (writeLeb n).length) := by
  induction n using Nat.strongRecOn with
  | _ n ih =>
    by_cases h : n < 128
    · rw [writeLeb_lt n h, List.singleton_append, readLebSpec_cons_lt _ _ (by simp; omega),
        toNat_toUInt8_of_lt (by omega)]
      rfl
    · rw [writeLeb_ge n (by omega), List.cons_append, readLebSpec_group _ (Nat.mod_lt _ (by decide)),
        ih (n / 128) (by omega), Option.map_some, List.length_cons, Nat.mod_add_div]

end Rtp.Model
