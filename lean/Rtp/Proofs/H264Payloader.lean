/-
  Rtp/Proofs/H264Payloader.lean — the payloader model, unit by unit, IS the RFC 6184 encoder of
  Spec/Rfc6184.lean applied to an explicit packetisation plan (towards c10_shape / c10_roundtrip).
-/
import Rtp.Proofs.H264Decoder
import Rtp.Proofs.H264Split
namespace Rtp.Proofs.H264
open Rtp Rtp.Model Rtp.Model.H264 Rtp.Spec.Rfc6184

/-- `l` cut into pieces of `k` bytes, the last possibly shorter -/
def chunks (k : Nat) (l : Bytes) : List Bytes :=
  if h : l.length = 0 ∨ k = 0 then [] else l.take k :: chunks k (l.drop k)
termination_by l.length
decreasing_by simp [List.length_drop]; omega

theorem chunks_flatten (k : Nat) (hk : 0 < k) (l : Bytes) : (chunks k l).flatten = l := by
  fun_induction chunks k l with
  | case1 l h =>
    rcases h with h | h
    · simp [List.length_eq_zero_iff.mp h]
    · omega
  | case2 l h ih => simp [ih]

theorem chunks_eq_nil (k : Nat) (l : Bytes) (h : l.length = 0) : chunks k l = [] := by
  rw [chunks]; simp [h]

theorem chunks_ne_nil (k : Nat) (hk : 0 < k) (l : Bytes) (h : 0 < l.length) : chunks k l ≠ [] := by
  rw [chunks]; rw [dif_neg (by omega)]; simp

theorem chunks_length_ge_two (k : Nat) (hk : 0 < k) (l : Bytes) (h : k < l.length) :
    2 ≤ (chunks k l).length := by
  rw [chunks, dif_neg (by omega)]
  have : chunks k (l.drop k) ≠ [] := chunks_ne_nil k hk _ (by simp [List.length_drop]; omega)
  have := List.length_pos_iff.mpr this
  simp; omega

/-- the octets the Go code ORs together are the spec's FU indicator (F left out) and FU headers -/
theorem fu_octets : ∀ h : UInt8,
    fuaNALUType ||| (h &&& naluRefIdcBitmask) = mkHdr 0 (hNri h) 28 ∧
    (h &&& naluTypeBitmask) ||| 0x80 = fuHdr true false (hType h) ∧
    (h &&& naluTypeBitmask) ||| 0x40 = fuHdr false true (hType h) ∧
    (h &&& naluTypeBitmask) = fuHdr false false (hType h) := by
  apply Rtp.Bits.forall_u8; decide +kernel

theorem fuaLoop_eq (k : Nat) (hk : 0 < k) (ind h : UInt8) (first : Bool) (rem : Bytes)
    (hfirst : first = true → k < rem.length) :
    fuaLoop k ind (h &&& naluTypeBitmask) first rem = encFu ind (hType h) first (chunks k rem) := by
  obtain ⟨_, hS, hE, hM⟩ := fu_octets h
  generalize h &&& naluTypeBitmask = typ at hS hE hM ⊢
  fun_induction fuaLoop k ind typ first rem with
  | case1 first rem h =>
    rcases h with h | h
    · simp [chunks_eq_nil k rem h, encFu]
    · omega
  | case2 first rem h hdr ih =>
    have hpos : 0 < rem.length := by omega
    rw [chunks, dif_neg h]
    by_cases hlast : rem.length ≤ k
    · have hf : first = false := by
        cases first with
        | false => rfl
        | true => have := hfirst rfl; omega
      subst hf
      have hd : (rem.drop k).length = 0 := by simp [List.length_drop]; omega
      have e1 : fuaLoop k ind typ false (rem.drop k) = [] := by rw [fuaLoop]; simp [hd]
      rw [e1, chunks_eq_nil k _ hd]
      simp [encFu, hdr, hlast, hE]
    · have hd : 0 < (rem.drop k).length := by simp [List.length_drop]; omega
      rw [encFu_cons_cons _ _ _ _ _ (chunks_ne_nil k hk _ hd), ih (by simp)]
      congr 2
      cases first with
      | true => simp [hdr, hS]
      | false => simp [hdr, hlast, hM]

/-- whatever the unit and the MTU (no hypothesis on type, F bit or content): nothing (an FU-A needs
    two header bytes and a payload byte; at MTU ≤ 2 the code drops the unit silently), the unit itself,
    or at least two FU-A fragments of `mtu - 2` payload bytes (the last possibly shorter) with the
    unit's NRI in the indicator, its type in the header, S on the first only and E on the last only
    (that is `encFu`).  The Go code builds the indicator without the F bit, the spec's `Item.encode`
    copies it: the two agree when `hF h = 0` (`singleOrFua_eq`). -/
theorem singleOrFua_cases (mtu : Nat) (h : UInt8) (body : Bytes) :
    singleOrFua mtu (h :: body) = [] ∧ mtu ≤ 2 ∧ mtu < (h :: body).length
    ∨ singleOrFua mtu (h :: body) = [h :: body] ∧ (h :: body).length ≤ mtu
    ∨ singleOrFua mtu (h :: body) = encFu (mkHdr 0 (hNri h) 28) (hType h) true (chunks (mtu - 2) body) ∧
        2 ≤ (chunks (mtu - 2) body).length ∧ 3 ≤ mtu ∧ mtu < (h :: body).length := by
  rw [singleOrFua]
  split
  · exact .inr (.inl ⟨rfl, ‹_›⟩)
  · rename_i hfit
    rw [List.length_cons] at hfit ⊢
    dsimp only
    split
    · exact .inl ⟨rfl, by omega, by omega⟩
    · rename_i hmin
      have h3 : 3 ≤ mtu := by omega
      clear hmin
      have hk : ((mtu : Int) - 2).toNat = mtu - 2 := by omega
      rw [hk, (fu_octets h).1]
      exact .inr (.inr ⟨fuaLoop_eq (mtu - 2) (by omega) _ h true body (by intro _; omega),
        chunks_length_ge_two (mtu - 2) (by omega) body (by omega), by omega, by omega⟩)

/-- how the payloader sends one unit at a given MTU -/
def itemOf (mtu : Nat) (n : Bytes) : Item :=
  match n with
  | [] => .single []
  | h :: body => if n.length ≤ mtu then .single n else .fuA h (chunks (mtu - 2) body)

/-- the part of `nalWF` the payloader proofs use -/
def unitOk (n : Bytes) : Prop :=
  ∃ h body, n = h :: body ∧ 1 ≤ hType h ∧ hType h ≤ 23 ∧ hF h = 0 ∧ 1 ≤ body.length

theorem unitOk_of_wf (n : Bytes) (h : nalWF n = true) : unitOk n := by
  cases n with
  | nil => simp [nalWF] at h
  | cons a t =>
    simp only [nalWF, Bool.and_eq_true, decide_eq_true_eq] at h
    refine ⟨a, t, rfl, h.1.1.1.1.1, h.1.1.1.1.2, h.1.1.1.2, ?_⟩
    have := h.1.1.2
    simp at this; omega

theorem singleOrFua_eq (mtu : Nat) (hm : 3 ≤ mtu) (n : Bytes) (hn : unitOk n) :
    singleOrFua mtu n = (itemOf mtu n).encode := by
  obtain ⟨h, body, rfl, _, _, hF0, _⟩ := hn
  rcases singleOrFua_cases mtu h body with ⟨_, h2, _⟩ | ⟨e, hfit⟩ | ⟨e, _, _, hbig⟩
  · omega
  · rw [e, itemOf, if_pos hfit]; rfl
  · rw [e, itemOf, if_neg (by omega), Item.encode, hF0]

theorem itemOf_wf (mtu : Nat) (hm : 3 ≤ mtu) (n : Bytes) (hn : unitOk n) :
    (itemOf mtu n).wf = true ∧ Rtp.Pred.C10.headsApply (itemOf mtu n) = true ∧
    (itemOf mtu n).nals = [n] := by
  obtain ⟨h, body, rfl, h1, h2, hF0, hb⟩ := hn
  simp only [itemOf]
  split
  · simp [Item.wf, typeOf, Rtp.Pred.C10.headsApply, Item.nals, h1, h2]; omega
  · rename_i hlen
    simp only [List.length_cons] at hlen
    have := chunks_length_ge_two (mtu - 2) (by omega) body (by omega)
    simp [Item.wf, Rtp.Pred.C10.headsApply, Item.nals, hF0, this, chunks_flatten (mtu - 2) (by omega)]

end Rtp.Proofs.H264
