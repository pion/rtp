/-
  Rtp/Proofs/VP9HeaderSafe.lean — vp9.Header.Unmarshal never panics: every unchecked read
  (`readBitsUnsafe`, `readFlagUnsafe`) is preceded by a `hasSpace` that covers it.
-/
import Rtp.Proofs.VP9Bits
namespace Rtp.Proofs.VP9Bits
open Rtp Rtp.Model

/-- `NP r`: `r` is a value or an error, not a panic -/
def NP {α} (r : Res α) : Prop := r ≠ .panic

theorem np_err {α} (e : Err) : NP (Res.err e : Res α) := fun h => nomatch h
theorem np_ok {α} (a : α) : NP (Res.ok a) := fun h => nomatch h

theorem np_bind {α β} {r : Res α} {f : α → Res β} (hr : NP r) (hf : ∀ a, NP (f a)) : NP (r >>= f) := by
  cases r with
  | ok a => exact hf a
  | err e => exact np_err e
  | panic => exact absurd rfl hr

theorem np_ite {α} {c : Prop} [Decidable c] {a b : Res α} (ha : NP a) (hb : NP b) : NP (if c then a else b) := by
  split
  · exact ha
  · exact hb

/-! Each way the parser reads: under a `hasSpace` the reads it covers succeed (whatever the value
    read, the continuation is entered with the position advanced); the checked readers either
    return an error or do the same.  `hn`, `h64` are the side conditions of `readBitsUnsafe_eq`, closed by `decide` at every call.
    In the traversals below each `np_guard` covers the unchecked reads up to the next check:
    32 = 16 + 16 (frame size), 24 = 8 + 8 + 8 (sync code), 4 = 2 + 1 + 1 (marker, profile bits),
    3 = three flags (in the colour configuration: two flags and a skipped bit). -/

theorem np_guard {α} {buf : Bytes} {pos n : Nat} {body : Res α} {e : Err}
    (h : pos + n ≤ 8 * buf.length → NP body) : NP (if vp9HasSpace buf pos n then body else .err e) := by
  by_cases hs : vp9HasSpace buf pos n = true
  · rw [if_pos hs]; exact h ((space_iff buf pos n).mp hs)
  · rw [if_neg hs]; exact np_err e

theorem np_flagU {α} {buf : Bytes} {pos : Nat} {k : Bool × Nat → Res α} (h : pos < 8 * buf.length)
    (hk : ∀ v, NP (k (v, pos + 1))) : NP (vp9ReadFlagUnsafe buf pos >>= k) := by
  rw [readFlagUnsafe_eq buf pos h]; exact hk _

theorem np_bitsU {α} {buf : Bytes} {pos : Nat} (n : Nat) {k : Nat × Nat → Res α}
    (h : pos + n ≤ 8 * buf.length) (hk : ∀ v, NP (k (v, pos + n)))
    (hn : 0 < n := by decide) (h64 : n ≤ 64 := by decide) : NP (vp9ReadBitsUnsafe buf pos n >>= k) := by
  rw [readBitsUnsafe_eq buf pos n hn h64 h]; exact hk _

theorem np_flag {α} {buf : Bytes} {pos : Nat} {k : Bool × Nat → Res α}
    (hk : ∀ v, NP (k (v, pos + 1))) : NP (vp9ReadFlag buf pos >>= k) := by
  rw [readFlag_eq]; split
  · exact hk _
  · exact np_err _

theorem np_bits {α} {buf : Bytes} {pos : Nat} (n : Nat) {k : Nat × Nat → Res α}
    (hk : ∀ v, NP (k (v, pos + n))) (hn : 0 < n := by decide) (h64 : n ≤ 64 := by decide) :
    NP (vp9ReadBits buf pos n >>= k) := by
  rw [readBits_eq buf pos n hn h64]; split
  · exact hk _
  · exact np_err _

theorem np_colorConfig (profile : UInt8) (buf : Bytes) (pos : Nat) :
    NP (vp9ColorConfigUnmarshal profile buf pos) := by
  unfold vp9ColorConfigUnmarshal
  refine np_bind (np_ite (np_flag fun f => np_ok _) (np_ok _)) fun ⟨c, pos⟩ => ?_
  refine np_bits 3 fun tmp => np_ite ?_ ?_
  · refine np_flag fun cr => np_ite (np_guard fun hs => ?_) (np_ok _)
    exact np_flagU (by omega) fun sx => np_flagU (by omega) fun sy => np_ok _
  · exact np_ite (np_guard fun _ => np_ok _) (np_ok _)

theorem np_frameSize (buf : Bytes) (pos : Nat) : NP (vp9FrameSizeUnmarshal buf pos) := by
  unfold vp9FrameSizeUnmarshal
  refine np_guard fun hs => ?_
  exact np_bitsU 16 (by omega) fun w =>
    np_bitsU 16 (by omega) fun h => np_ok _

theorem np_keyPart (h : Vp9Header) (buf : Bytes) (pos : Nat) : NP (vp9HeaderKeyPart h buf pos) := by
  unfold vp9HeaderKeyPart
  refine np_guard fun hs => ?_
  refine np_bitsU 8 (by omega) fun s0 => np_ite (np_err _) ?_
  refine np_bitsU 8 (by omega) fun s1 => np_ite (np_err _) ?_
  refine np_bitsU 8 (by omega) fun s2 => np_ite (np_err _) ?_
  exact np_bind (np_colorConfig _ _ _) fun ⟨cc, pos⟩ => np_bind (np_frameSize _ _) fun ⟨fs, _⟩ => np_ok _

theorem header_nopanic (buf : Bytes) : vp9HeaderUnmarshal buf ≠ .panic := by
  show NP (vp9HeaderUnmarshal buf)
  unfold vp9HeaderUnmarshal
  refine np_guard fun hs => ?_
  refine np_bitsU 2 (by omega) fun fm => np_ite (np_err _) ?_
  refine np_bitsU 1 (by omega) fun lo => ?_
  refine np_bitsU 1 (by omega) fun hi => ?_
  refine np_bind (np_ite (np_guard fun _ => np_ok _) (np_ok _)) fun pos => ?_
  refine np_flag fun sef => np_ite (np_bits 3 fun tmp => np_ok _) (np_guard fun hs => ?_)
  refine np_flagU (by omega) fun nk => np_flagU (by omega) fun sf => np_flagU (by omega) fun er => ?_
  exact np_ite (np_keyPart _ _ _) (np_ok _)

end Rtp.Proofs.VP9Bits
