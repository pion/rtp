/-
  Rtp/Proofs/H264Obs.lean — the observation records of Model/H264Obs.lean in terms of `run`,
  `isPartitionHead`; coarse results.
-/
import Rtp.Proofs.H264Decoder
import Rtp.Model.H264Obs
import Rtp.Proofs.Lib.Res
namespace Rtp.Proofs.H264
open Rtp Rtp.Model Rtp.Model.H264 Rtp.Model.H264.Obs Rtp.Spec.Rfc6184 Rtp.Pred

theorem coarse_resBytes (r : Res Bytes) : C10.resBytes r.coarse = C10.resBytes r := by cases r <;> rfl

theorem observePkts_payload (avc : Bool) (buf : Bytes) (ps : List Bytes) :
    (observePkts avc buf ps).1.map (·.payload) = ps := by
  induction ps generalizing buf with
  | nil => rfl
  | cons p ps ih => simp [observePkts, ih]

theorem observePkts_head (avc : Bool) (buf : Bytes) (ps : List Bytes) :
    (observePkts avc buf ps).1.map (·.head) = ps.map isPartitionHead := by
  induction ps generalizing buf with
  | nil => rfl
  | cons p ps ih => simp [observePkts, ih]

theorem observePkts_res (avc : Bool) (buf : Bytes) (ps : List Bytes) :
    (observePkts avc buf ps).1.map (·.res) = (run avc buf ps).1.map Res.coarse ∧
    (observePkts avc buf ps).2 = (run avc buf ps).2 := by
  induction ps generalizing buf with
  | nil => exact ⟨rfl, rfl⟩
  | cons p ps ih =>
    have := ih (unmarshal avc buf p).2
    simp [observePkts, run, this.1, this.2]

theorem observePkts_append (avc : Bool) (buf : Bytes) (a b : List Bytes) :
    observePkts avc buf (a ++ b) =
      ((observePkts avc buf a).1 ++ (observePkts avc (observePkts avc buf a).2 b).1,
       (observePkts avc (observePkts avc buf a).2 b).2) := by
  induction a generalizing buf with
  | nil => simp [observePkts]
  | cons p ps ih => simp [observePkts, ih]

theorem decodeOk_of_run (avc : Bool) (expected : List Bytes) (pkts : List C10.PktObs)
    (rs : List (Res Bytes)) (hr : pkts.map (·.res) = rs.map Res.coarse)
    (h1 : ∀ r ∈ rs, r.isOk = true) (h2 : rs.flatMap C10.resBytes = frame avc expected) :
    C10.decodeOk avc expected pkts = true := by
  have a : pkts.all (·.res.isOk) = rs.all Res.isOk := by
    have : pkts.all (·.res.isOk) = (pkts.map (·.res)).all Res.isOk := by
      simp [List.all_map, Function.comp_def]
    rw [this, hr]; simp [List.all_map, Function.comp_def, Res.isOk_coarse]
  have b : pkts.flatMap (fun p => C10.resBytes p.res) = rs.flatMap C10.resBytes := by
    have : pkts.flatMap (fun p => C10.resBytes p.res) = (pkts.map (·.res)).flatMap C10.resBytes := by
      simp [List.flatMap_map]
    rw [this, hr]; simp [List.flatMap_map, coarse_resBytes]
  simp [C10.decodeOk, a, b, h2, List.all_eq_true.mpr h1]

end Rtp.Proofs.H264
