/-
  Rtp/Proofs/AV1PacketIdx.lean — the index-based, slice-checked models of AV1Packet.Unmarshal /
  parseBody and frame.AV1.ReadFrames never fail a check and compute what the list models compute.
-/
import Rtp.Model.AV1PacketIdx
import Rtp.Proofs.AV1DepackIdx
import Rtp.Proofs.AV1Packet
namespace Rtp.Model.AV1
open Rtp Rtp.Model

theorem parseBodyLoopC_eq (payload : Bytes) (w : UInt8) (fuel i cur : Nat) (acc : List Bytes)
    (hc : cur ≤ payload.length) :
    parseBodyLoopC payload w fuel i cur acc = some (parseBodyLoop w fuel i (payload.drop cur) acc) := by
  induction fuel generalizing i cur acc with
  | zero => simp [parseBodyLoopC, parseBodyLoop]
  | succ f ih =>
    rw [parseBodyLoopC, parseBodyLoop]
    by_cases heq : cur = payload.length
    · subst heq; simp
    · have hlt : cur < payload.length := by omega
      have hne := isEmpty_drop_of_lt payload cur hlt
      have hb : (cur == payload.length) = false := by simpa using heq
      simp only [hb, Bool.false_eq_true, if_false, hne]
      by_cases hw : (w != 0 && i == w.toNat) = true
      · have h3 : cur + (payload.length - cur) = payload.length := by omega
        simp only [hw, if_true]
        rw [sliceC_rest payload cur hc]
        simp only [h3, Nat.lt_irrefl, if_false, ih _ _ _ (Nat.le_refl _), List.drop_length]
      · simp only [hw, Bool.false_eq_true, if_false]
        simp only [fromC_ok payload cur hc]
        cases hr : readLebGo (payload.drop cur) with
        | none => rfl
        | some vk =>
          obtain ⟨v, k⟩ := vk
          obtain ⟨hk1, hk2⟩ := readLebGo_le_length _ v k hr
          simp only [List.length_drop] at hk2
          have hok : cur + k ≤ payload.length := by omega
          have hdd : (payload.drop cur).drop k = payload.drop (cur + k) := by rw [List.drop_drop]
          have hlen : (payload.drop (cur + k)).length = payload.length - (cur + k) := by simp
          simp only [hdd, hlen]
          by_cases hs : payload.length < cur + k + v.toNat
          · have : payload.length - (cur + k) < v.toNat := by omega
            simp only [hs, if_true, this]
          · have hs' : ¬ payload.length - (cur + k) < v.toNat := by omega
            have hle : cur + k + v.toNat ≤ payload.length := by omega
            simp only [hs, if_false, hs', sliceC_ok payload (cur + k) _ hle, ih _ _ _ hle, List.drop_drop]

theorem pktUnmarshalC_eq (p : PktSt) (payload : Option Bytes) :
    pktUnmarshalC p payload = some (pktUnmarshal p payload) := by
  unfold pktUnmarshalC pktUnmarshal
  match payload with
  | none => rfl
  | some [] => rfl
  | some [b] => rfl
  | some (b0 :: b1 :: rest) =>
    have hlen : ¬ (b0 :: b1 :: rest).length < 2 := by simp
    have hfrom : fromC (b0 :: b1 :: rest) 1 = some (b1 :: rest) := by simp [fromC]
    have hloop := parseBodyLoopC_eq (b1 :: rest) ((b0 &&& 0x30) >>> 4) ((b1 :: rest).length + 1) 1 0 []
      (by simp)
    simp only [List.drop_zero] at hloop
    simp only [hlen, if_false, hfrom]
    by_cases hzn : ((b0 &&& 0x80) >>> 7 != 0 && (b0 &&& 0x08) >>> 3 != 0) = true
    · simp only [hzn, if_true]
    · simp only [hzn, Bool.false_eq_true, if_false]
      cases he : p.elems with
      | some es => rfl
      | none =>
        simp only [hloop]
        cases hr : parseBodyLoop ((b0 &&& 0x30) >>> 4) ((b1 :: rest).length + 1) 1 (b1 :: rest) [] with
        | ok es => rfl
        | err e => rfl
        | panic => exact absurd hr (parseBodyLoop_ne_panic _ _ _ _ _)

/-- the one checked expression is the last OBU of a list that was just found non-empty -/
theorem readFramesC_eq (buf : Bytes) (z y : Bool) (elems : List Bytes) :
    readFramesC buf z y elems = some (readFrames buf z y elems) := by
  unfold readFramesC readFrames
  generalize (if z = true then
      match elems with
      | [] => (([] : List Bytes), buf)
      | e :: es => if buf.isEmpty = true then (es, buf) else ((buf ++ e) :: es, [])
      else (elems, buf)) = ob
  obtain ⟨obus, b⟩ := ob
  dsimp only
  cases obus with
  | nil => simp
  | cons a as =>
    have hl : (a :: as).getLast? = some ((a :: as).getLast (by simp)) := List.getLast?_eq_some_getLast _
    by_cases hy : y = true
    · simp [hy, hl]
    · simp [hy]

theorem pktUnmarshalX_eq (p : PktSt) (payload : Option Bytes) :
    pktUnmarshalX p payload = pktUnmarshal p payload := by
  simp [pktUnmarshalX, pktUnmarshalC_eq]

end Rtp.Model.AV1
