/-
  Rtp/Proofs/AnnexB.lean — the Annex-B splitter of Rtp/Model/AnnexB.lean: the equations of `indexSC`
  and `splitRest`, and what the splitter does with a unit that has no inner start code and no
  trailing zero when a 3- or 4-byte start code follows it.  "No inner start code" is
  `indexSC n = none` throughout.
-/
import Rtp.Model.AnnexB
namespace Rtp.Model
open Rtp

theorem indexSC_sc (r : Bytes) : indexSC (0 :: 0 :: 1 :: r) = some 0 := by
  rw [indexSC]

theorem indexSC_cons_of_not (a : UInt8) (t : Bytes) (h : ∀ r, a :: t ≠ 0 :: 0 :: 1 :: r) :
    indexSC (a :: t) = (indexSC t).map (· + 1) := by
  conv => lhs; unfold indexSC
  split
  · rename_i r heq
    exact absurd heq (h r)
  · rename_i heq
    cases heq
    rfl
  · rename_i heq; cases heq

theorem indexSC_cons_none {a : UInt8} {t : Bytes} (h : indexSC (a :: t) = none) :
    (∀ r, a :: t ≠ 0 :: 0 :: 1 :: r) ∧ indexSC t = none := by
  have hp : ∀ r, a :: t ≠ 0 :: 0 :: 1 :: r := by
    intro r e; rw [e, indexSC_sc] at h; cases h
  rw [indexSC_cons_of_not a t hp] at h
  exact ⟨hp, Option.map_eq_none_iff.mp h⟩

/-- behind a unit without start code that does not end in zero, the first start code is the first
    one of what follows: the zero that a start code could borrow from the unit is not there -/
theorem indexSC_append (n y : Bytes) (h : indexSC n = none) (hl : n.getLast? ≠ some 0) :
    indexSC (n ++ y) = (indexSC y).map (· + n.length) := by
  induction n with
  | nil => simp
  | cons a t ih =>
    obtain ⟨hp, ht⟩ := indexSC_cons_none h
    have hp2 : ∀ r, a :: (t ++ y) ≠ 0 :: 0 :: 1 :: r := by
      intro r e
      match t, hl, hp with
      | [], hl, _ => simp only [List.cons.injEq] at e; exact hl (by rw [e.1]; rfl)
      | [b], hl, _ => simp only [List.cons_append, List.cons.injEq] at e; exact hl (by rw [e.2.1]; rfl)
      | b :: c :: t'', _, hp =>
        simp only [List.cons_append, List.cons.injEq] at e
        exact hp t'' (by rw [e.1, e.2.1, e.2.2.1])
    rw [List.cons_append, indexSC_cons_of_not a _ hp2]
    match t, hl, ih with
    | [], _, _ => rfl
    | b :: t', hl, ih =>
      rw [ih ht (by simpa using hl), Option.map_map]
      cases indexSC y <;> simp only [Option.map_none, Option.map_some, Function.comp, List.length_cons, Nat.add_assoc]

theorem indexSC_take (l : Bytes) (e k : Nat) (h : indexSC l = some e) (hk : k ≤ e) :
    indexSC (l.take k) = none := by
  induction l generalizing e k with
  | nil => cases h
  | cons a t ih =>
    cases k with
    | zero => rfl
    | succ k =>
      by_cases hp : ∃ r, a :: t = 0 :: 0 :: 1 :: r
      · obtain ⟨r, e'⟩ := hp
        rw [e', indexSC_sc] at h
        cases h; omega
      · have hp' : ∀ r, a :: t ≠ 0 :: 0 :: 1 :: r := fun r e => hp ⟨r, e⟩
        rw [indexSC_cons_of_not a t hp'] at h
        obtain ⟨e', he', rfl⟩ := Option.map_eq_some_iff.mp h
        have hq : ∀ r, a :: t.take k ≠ 0 :: 0 :: 1 :: r := by
          intro r eq
          obtain ⟨s, hs⟩ := List.take_prefix k t
          simp only [List.cons.injEq] at eq
          rw [eq.2] at hs
          exact hp' (r ++ s) (by rw [eq.1, ← hs]; rfl)
        rw [List.take_succ_cons, indexSC_cons_of_not a _ hq, ih e' k he' (by omega)]
        rfl

theorem splitRest_none (rest : Bytes) (h : indexSC rest = none) : splitRest rest = [rest] := by
  rw [splitRest]
  split
  · rfl
  · rename_i e he; rw [h] at he; cases he

theorem splitRest_some (rest : Bytes) (e : Nat) (h : indexSC rest = some e) :
    splitRest rest =
      rest.take (if (decide (0 < e) && (rest.getD (e - 1) 1 == 0)) then e - 1 else e) ::
        splitRest (rest.drop (e + 3)) := by
  rw [splitRest]
  split
  · rename_i he; rw [h] at he; cases he
  · rename_i e' he
    rw [h] at he
    cases he
    rfl

theorem emitNalus_none (l : Bytes) (h : indexSC l = none) : emitNalus l = [l] := by
  rw [emitNalus, h]

theorem emitNalus_sc3 (rest : Bytes) : emitNalus (0 :: 0 :: 1 :: rest) = splitRest rest := by
  rw [emitNalus, indexSC_sc]; rfl

theorem emitNalus_sc4 (rest : Bytes) : emitNalus (0 :: 0 :: 0 :: 1 :: rest) = splitRest rest := by
  rw [emitNalus, indexSC_cons_of_not 0 _ (by intro r e; cases e), indexSC_sc]; rfl

/-- `emitNalus` takes a start code for a 4-byte one when the octet before it is zero (and then leaves
    that octet out of the unit); the last octet of a unit that does not end in zero is not taken so -/
theorem not_four_of_last_ne (u t : Bytes) (hl : u.getLast? ≠ some 0) :
    (decide (0 < u.length) && ((u ++ t).getD (u.length - 1) 1 == 0)) = false := by
  match u, hl with
  | [], _ => rfl
  | a :: u', hl =>
    rw [List.getD_eq_getElem?_getD, List.getElem?_append_left (by simp), ← List.getLast?_eq_getElem?]
    cases h : (a :: u').getLast? with
    | none => simp at h
    | some x =>
      rw [h] at hl
      simp only [Option.getD_some, Bool.and_eq_false_imp, beq_eq_false_iff_ne, ne_eq]
      intro _ hx; subst hx; exact hl rfl

theorem splitRest_unit3 (n rest : Bytes) (h : indexSC n = none) (hl : n.getLast? ≠ some 0) :
    splitRest (n ++ 0 :: 0 :: 1 :: rest) = n :: splitRest rest := by
  have hidx : indexSC (n ++ 0 :: 0 :: 1 :: rest) = some n.length := by
    rw [indexSC_append n _ h hl, indexSC_sc, Option.map_some, Nat.zero_add]
  rw [splitRest_some _ _ hidx, not_four_of_last_ne n _ hl, if_neg Bool.false_ne_true,
    List.take_left' rfl, ← List.drop_drop, List.drop_left]
  rfl

theorem splitRest_unit4 (n rest : Bytes) (h : indexSC n = none) (hl : n.getLast? ≠ some 0) :
    splitRest (n ++ 0 :: 0 :: 0 :: 1 :: rest) = n :: splitRest rest := by
  have hidx : indexSC (n ++ 0 :: 0 :: 0 :: 1 :: rest) = some (n.length + 1) := by
    rw [indexSC_append n _ h hl, indexSC_cons_of_not 0 _ (by intro r e; cases e), indexSC_sc]
    simp only [Option.map_some, Nat.zero_add, Nat.add_comm]
  have hz : ((n ++ 0 :: 0 :: 0 :: 1 :: rest).getD (n.length + 1 - 1) 1 == 0) = true := by
    rw [Nat.add_sub_cancel, List.getD_eq_getElem?_getD, List.getElem?_append_right (Nat.le_refl _), Nat.sub_self]
    rfl
  rw [splitRest_some _ _ hidx, hz, Bool.and_true, if_pos (by simp), Nat.add_sub_cancel, List.take_left' rfl,
    Nat.add_assoc, ← List.drop_drop, List.drop_left]
  rfl

end Rtp.Model
