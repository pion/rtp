/-
  Rtp/Proofs/VP8Pay.lean — lemmas about VP8Payloader: its descriptors are RFC 7741 encodings, the
  picture id is a 15-bit counter, and the round trip through VP8Packet (the predicate `C11.rt`).
-/
import Rtp.Proofs.VP8
namespace Rtp.Proofs.VP8
open Rtp Rtp.Model Rtp.Bits Rtp.Pred Rtp.Proofs.Vpx
open Rtp.Spec.Rfc7741

/-- the state of a payloader that has packetized `k` frames (`p.pictureID++; p.pictureID &= 0x7FFF`,
    vp8_packet.go:92-93) -/
def payState (enable : Bool) (k : Nat) : VP8Pay :=
  { enablePictureID := enable, pictureID := (k % 32768).toUInt16 }

theorem picId_toNat (k : Nat) : ((k % 32768).toUInt16).toNat = k % 32768 :=
  toNat_toUInt16_of_lt (Nat.lt_trans (Nat.mod_lt _ (by decide)) (by decide))

theorem picId_lt (k : Nat) : (k % 32768).toUInt16 < 32768 := by
  rw [UInt16.lt_iff_toNat_lt, picId_toNat]
  exact Nat.mod_lt _ (by decide)

theorem picId_lt128 (k : Nat) : ((k % 32768).toUInt16 < 128) = (k % 32768 < 128) := by
  rw [UInt16.lt_iff_toNat_lt, picId_toNat]
  rfl

theorem picId_succ (k : Nat) : ((k % 32768).toUInt16 + 1) &&& 0x7FFF = ((k + 1) % 32768).toUInt16 := by
  rw [eq_toUInt16_iff, u16_and_mask _ 0x7FFF 15 rfl, UInt16.toNat_add, picId_toNat]
  show (k % 32768 + 1) % 65536 % 32768 = (k + 1) % 32768 % 65536
  rw [Nat.mod_mod_of_dvd _ (by decide : 32768 ∣ 65536), Nat.mod_add_mod,
    Nat.mod_eq_of_lt (Nat.lt_trans (Nat.mod_lt _ (by decide)) (by decide))]

theorem hdrSize_eq (enable : Bool) (k : Nat) : vp8HdrSize (payState enable k) = C11.hdrLen enable k := by
  simp only [vp8HdrSize, payState, C11.hdrLen, picId_lt128]

/-- the descriptor VP8Payloader puts on a packet of the frame with running id `k` -/
def payDesc (enable : Bool) (k : Nat) (first : Bool) : Descriptor :=
  { n := false, s := first, pid := 0, x := enable,
    picId := if enable then some (decide (128 ≤ k % 32768), (k % 32768).toUInt16) else none }

theorem payDesc_wf (enable : Bool) (k : Nat) (first : Bool) : (payDesc enable k first).WF = true := by
  cases enable
  · simp [payDesc, Descriptor.WF]
  · by_cases h : 128 ≤ k % 32768
    · simp only [payDesc, Descriptor.WF, h, decide_true, if_true]
      simp [picId_lt]
    · simp only [payDesc, Descriptor.WF, h, decide_false, if_true]
      have := picId_lt128 k
      simp at this ⊢
      rw [this]; omega

theorem hdr_eq_encode (enable : Bool) (k : Nat) (first : Bool) :
    vp8Hdr (payState enable k) first = (payDesc enable k first).encode := by
  cases enable
  · cases first <;> simp [vp8Hdr, payState, payDesc, Descriptor.encode, bit]
  · by_cases h : 128 ≤ k % 32768
    · have h1 : ¬ ((k % 32768).toUInt16 < 128) := by rw [picId_lt128]; omega
      simp only [vp8Hdr, payState, payDesc, Descriptor.encode, h, h1, decide_true, if_true, if_false,
        encPicId, encTl0, encTK, List.append_nil, Option.isSome_some, Option.isSome_none,
        hi7 _ (picId_lt k), low8]
      cases first <;> simp [bit] <;> decide
    · have h1 : (k % 32768).toUInt16 < 128 := by rw [picId_lt128]; omega
      simp only [vp8Hdr, payState, payDesc, Descriptor.encode, h, h1, decide_false, if_true,
        encPicId, encTl0, encTK, List.append_nil, Option.isSome_some, Option.isSome_none,
        (pic7 _ h1).2.2.2]
      cases first <;> simp [bit] <;> decide

theorem payload_proper (enable : Bool) (k : Nat) (mtu : UInt16) (frame : Bytes)
    (hm : C11.hdrLen enable k < mtu.toNat) (hf : frame ≠ []) :
    vp8Payload (payState enable k) mtu (some frame) =
      (vp8Frags (payState enable k) (vpxChunks (mtu.toNat - C11.hdrLen enable k) frame),
       payState enable (k + 1)) := by
  have h1 : ¬ (mtu.toNat ≤ C11.hdrLen enable k) := by omega
  have h2 : frame.isEmpty = false := by
    cases frame with
    | nil => exact absurd rfl hf
    | cons _ _ => rfl
  simp only [vp8Payload, Option.getD_some, hdrSize_eq, h1, decide_false, h2, Bool.or_self,
    Bool.false_eq_true, if_false]
  simp only [payState, picId_succ]

/-- `h`: the guard under which `C11.rt` judges a call, false -/
theorem payload_improper (enable : Bool) (k : Nat) (mtu : UInt16) (i : Option Bytes)
    (h : (decide (C11.hdrLen enable k < mtu.toNat) && !(i.getD []).isEmpty) = false) :
    vp8Payload (payState enable k) mtu i = ([], payState enable k) := by
  simp only [vp8Payload, hdrSize_eq]
  by_cases h1 : mtu.toNat ≤ C11.hdrLen enable k
  · simp [h1]
  · have : C11.hdrLen enable k < mtu.toNat := by omega
    simp only [this, decide_true, Bool.true_and, Bool.not_eq_false'] at h
    simp [h]

theorem frags_eq (enable : Bool) (k : Nat) (c : Bytes) (cs : List Bytes) :
    vp8Frags (payState enable k) (c :: cs) =
      ((payDesc enable k true).encode ++ c) :: cs.map (fun c => (payDesc enable k false).encode ++ c) := by
  simp only [vp8Frags, hdr_eq_encode]

theorem payload_spec (enable : Bool) (k : Nat) (mtu : UInt16) (frame : Bytes)
    (hm : C11.hdrLen enable k < mtu.toNat) (hf : frame ≠ []) :
    ∃ c cs, vpxChunks (mtu.toNat - C11.hdrLen enable k) frame = c :: cs ∧
      (vp8Payload (payState enable k) mtu (some frame)).1 =
        ((payDesc enable k true).encode ++ c) ::
          cs.map (fun c => (payDesc enable k false).encode ++ c) ∧
      (c :: cs).flatten = frame ∧
      (∀ x ∈ c :: cs, x ≠ [] ∧ x.length ≤ mtu.toNat - C11.hdrLen enable k) ∧
      (vp8Payload (payState enable k) mtu (some frame)).2 = payState enable (k + 1) := by
  have hk : 0 < mtu.toNat - C11.hdrLen enable k := by omega
  rw [payload_proper enable k mtu frame hm hf]
  cases hc : vpxChunks (mtu.toNat - C11.hdrLen enable k) frame with
  | nil => exact absurd hc (chunks_ne_nil _ hk frame hf)
  | cons c cs =>
    refine ⟨c, cs, rfl, frags_eq enable k c cs, ?_, ?_, rfl⟩
    · rw [← hc]; exact chunks_flatten _ hk frame
    · rw [← hc]; exact chunks_mem _ hk frame

/-- what one VP8Packet receiver reports for a packet of frame `k` carrying chunk `c` -/
def fragObsOf (enable : Bool) (k : Nat) (first : Bool) (c : Bytes) : C11.FragObs :=
  { bytes := (payDesc enable k first).encode ++ c, res := .ok c,
    md := C11.expected (payDesc enable k first), head := first }

theorem obsFrags_map (enable : Bool) (k : Nat) (first : Bool) : ∀ (cs : List Bytes) (p : VP8Packet),
    (C11.obsFrags p (cs.map (fun c => (payDesc enable k first).encode ++ c))).1 =
      cs.map (fragObsOf enable k first) := by
  intro cs
  induction cs with
  | nil => intro p; rfl
  | cons c cs ih =>
    intro p
    simp only [List.map_cons, C11.obsFrags, unmarshal_encode _ (payDesc_wf enable k first),
      head_encode _ (payDesc_wf enable k first), ih, Res.coarse]
    rfl

theorem obsFrags_frags (enable : Bool) (k : Nat) (c : Bytes) (cs : List Bytes) (p : VP8Packet) :
    (C11.obsFrags p (vp8Frags (payState enable k) (c :: cs))).1 =
      fragObsOf enable k true c :: cs.map (fragObsOf enable k false) := by
  rw [frags_eq]
  simp only [C11.obsFrags, unmarshal_encode _ (payDesc_wf enable k true),
    head_encode _ (payDesc_wf enable k true), obsFrags_map enable k false cs, Res.coarse]
  rfl

theorem fragPayload_of (enable : Bool) (k : Nat) (first : Bool) (c : Bytes) :
    C11.fragPayload (fragObsOf enable k first c) = c := rfl

theorem fragOk_of (enable : Bool) (k : Nat) (first : Bool) (c : Bytes) :
    C11.fragOk enable k first (fragObsOf enable k first c) = true := by
  cases enable
  · simp [C11.fragOk, fragObsOf, C11.expected, payDesc, Res.isOk]
  · -- the third octet, read off the payloader's own header: M is set from 128 on
    have hb : ((((payDesc true k first).encode ++ c).getD 2 0 &&& 0x80) != 0) = decide (128 ≤ k % 32768) := by
      rw [← hdr_eq_encode]
      by_cases h : 128 ≤ k % 32768
      · have h1 : ¬ ((k % 32768).toUInt16 < 128) := by rw [picId_lt128]; exact Nat.not_lt_of_le h
        simp only [vp8Hdr, payState, h1, if_true, if_false, List.cons_append, List.getD_cons_succ,
          List.getD_cons_zero, h, decide_true, hi7 _ (picId_lt k), (pic15_hi _ (shr8_lt _ (picId_lt k))).1]
        rfl
      · have h1 : (k % 32768).toUInt16 < 128 := by rw [picId_lt128]; exact Nat.lt_of_not_le h
        simp only [vp8Hdr, payState, h1, if_true, List.cons_append, List.getD_cons_succ, List.getD_cons_zero, h,
          decide_false, (pic7 _ h1).2.2.2, (pic7 _ h1).1]
        rfl
    simp only [C11.fragOk, fragObsOf, hb, Res.isOk, beq_self_eq_true, Bool.and_true, Bool.true_and]
    simp [C11.expected, C11.picVal, payDesc, bit]
    exact Nat.lt_trans (Nat.mod_lt _ (by decide)) (by decide)

theorem frameOk_of (enable : Bool) (k : Nat) (frame c : Bytes) (cs : List Bytes)
    (hfl : (c :: cs).flatten = frame) :
    C11.frameOk enable k frame (fragObsOf enable k true c :: cs.map (fragObsOf enable k false)) = true := by
  simp only [C11.frameOk, fragOk_of, Bool.true_and, Bool.and_eq_true, List.all_eq_true, beq_iff_eq]
  constructor
  · intro f hf
    obtain ⟨c', _, rfl⟩ := List.mem_map.mp hf
    exact fragOk_of enable k false c'
  · rw [← hfl]
    simp only [List.map_cons, List.map_map, List.flatten_cons, fragPayload_of]
    congr 1
    have : (C11.fragPayload ∘ fragObsOf enable k false) = id := by
      funext c'; rfl
    rw [this, List.map_id]

/-- `unmarshal_encode` holds from any receiver state, so the one receiver that is threaded through the history
    needs no invariant; the statement is general in `k` and `p` because both change along the history. -/
theorem rt_from (enable : Bool) : ∀ (calls : List (UInt16 × Option Bytes)) (k : Nat) (p : VP8Packet),
    C11.rt enable k calls (C11.obsRtFrom (payState enable k) p calls) = true := by
  intro calls
  induction calls with
  | nil => intro k p; rfl
  | cons call cs ih =>
    intro k p
    obtain ⟨m, i⟩ := call
    simp only [C11.obsRtFrom, C11.rt]
    cases hprop : (decide (C11.hdrLen enable k < m.toNat) && !(i.getD []).isEmpty)
    · rw [payload_improper enable k m i hprop]
      simp only [C11.obsFrags, Bool.false_eq_true, if_false]
      exact ih k p
    · simp only [if_true]
      simp only [Bool.and_eq_true, decide_eq_true_eq, Bool.not_eq_true', List.isEmpty_eq_false_iff] at hprop
      have hsome : i = some (i.getD []) := by
        cases i with
        | none => exact absurd rfl hprop.2
        | some b => rfl
      have hk : 0 < m.toNat - C11.hdrLen enable k := by omega
      rw [hsome, payload_proper enable k m _ hprop.1 hprop.2]
      simp only [Option.getD_some]
      cases hc : vpxChunks (m.toNat - C11.hdrLen enable k) (i.getD []) with
      | nil => exact absurd hc (chunks_ne_nil _ hk _ hprop.2)
      | cons c cs' =>
        have hfl : (c :: cs').flatten = i.getD [] := by rw [← hc]; exact chunks_flatten _ hk _
        have hobs := obsFrags_frags enable k c cs' p
        generalize hgen : C11.obsFrags p (vp8Frags (payState enable k) (c :: cs')) = r at hobs
        obtain ⟨os, p'⟩ := r
        simp only at hobs
        subst hobs
        simp only [frameOk_of enable k _ c cs' hfl, Bool.true_and]
        exact ih (k + 1) p'

/-- `C11.warmUp` sends one-byte frames at MTU 10, which exceeds every descriptor length (at most 4) -/
theorem warmUp_eq (enable : Bool) : ∀ (n k : Nat),
    C11.warmUp (payState enable k) n = payState enable (k + n) := by
  intro n
  induction n with
  | zero => intro k; rfl
  | succ n ih =>
    intro k
    have hm : C11.hdrLen enable k < (10 : UInt16).toNat := by
      simp only [C11.hdrLen, UInt16.reduceToNat]
      split <;> (try split) <;> omega
    simp only [C11.warmUp, payload_proper enable k 10 [0] hm (by simp), ih]
    congr 1; omega

/-- the running id counts frames in whichever mode they were sent: `flipAt ≤ warm` earlier frames
    sent with the option at the other value, the field then set by hand -/
theorem rt_obsRtFlip (enable : Bool) (warm flipAt : Nat) (h : flipAt ≤ warm)
    (calls : List (UInt16 × Option Bytes)) :
    C11.rt enable warm calls (C11.obsRtFlip enable warm flipAt calls) = true := by
  have h0 : ({ enablePictureID := !enable } : VP8Pay) = payState (!enable) 0 := by
    simp [payState]
  have h1 : ({ payState (!enable) flipAt with enablePictureID := enable } : VP8Pay) = payState enable flipAt := by
    simp [payState]
  unfold C11.obsRtFlip
  rw [h0, warmUp_eq (!enable) flipAt 0, Nat.zero_add, h1, warmUp_eq enable (warm - flipAt) flipAt]
  have h2 : flipAt + (warm - flipAt) = warm := by omega
  rw [h2]
  exact rt_from enable calls warm {}

theorem rt_obsRt (enable : Bool) (warm : Nat) (calls : List (UInt16 × Option Bytes)) :
    C11.rt enable warm calls (C11.obsRt enable warm calls) = true :=
  rt_obsRtFlip enable warm 0 (Nat.zero_le _) calls

end Rtp.Proofs.VP8
