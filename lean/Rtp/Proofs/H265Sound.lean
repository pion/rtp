/-
  Rtp/Proofs/H265Sound.lean — the converse of c14_decoder: whatever `H265Packet.Unmarshal` accepts is
  the RFC 7798 encoding of the fields it reports (nothing invented, nothing dropped).
-/
import Rtp.Proofs.H265Parse
namespace Rtp.Model.H265
open Rtp Rtp.Bits Rtp.Spec.Rfc7798 Rtp.Pred

theorem SingleOf.sound {donl : Bool} {p : Option Bytes} {k : Pkt} (h : SingleOf donl p k) :
    ∃ b, p = some b ∧ encode k.view.pkt = b ∧ k.view.sizesOk = true := by
  obtain ⟨a, b, d, q, rfl, _, _, _, _, rfl⟩ := h
  exact ⟨_, rfl, by simp [Pkt.view, encode, hdrView_bytes], rfl⟩

theorem FuOf.sound {donl : Bool} {p : Option Bytes} {k : Pkt} (h : FuOf donl p k) :
    ∃ b, p = some b ∧ encode k.view.pkt = b ∧ k.view.sizesOk = true := by
  obtain ⟨a, b, c, d, q, rfl, _, _, _, _, rfl⟩ := h
  exact ⟨_, rfl, by simp [Pkt.view, encode, hdrView_bytes, u8_fuByte], rfl⟩

theorem PaciOf.sound {p : Option Bytes} {k : Pkt} (h : PaciOf p k) :
    ∃ b, p = some b ∧ encode k.view.pkt = b ∧ k.view.sizesOk = true := by
  obtain ⟨a, b, c, d, r, rfl, _, _, _, rfl⟩ := h
  refine ⟨_, rfl, ?_, rfl⟩
  simp only [Pkt.view, encode, hdrView_bytes, paciWord_fields, u16be_rd16, List.append_assoc,
    List.take_append_drop]
  rfl

/-- a round of the unit loop that finds a unit: DOND (iff expected), size, that many octets -/
theorem parseAggRest_round (dd : Option UInt8) (s0 s1 : UInt8) (rest : Bytes)
    (us : List (Option UInt8 × UInt16 × Bytes)) (hlt : ¬ rest.length < (rd16 s0 s1).toNat)
    (ih : (∃ t, rest.drop (rd16 s0 s1).toNat =
        ((us.map fun u => (u.1, u.2.2)).map unitBytes).flatten ++ t) ∧
      us.all (fun u => u.2.1.toNat == u.2.2.length) = true) :
    (∃ t, dondBytes dd ++ s0 :: s1 :: rest =
      ((((dd, rd16 s0 s1, rest.take (rd16 s0 s1).toNat) :: us).map fun u => (u.1, u.2.2)).map
        unitBytes).flatten ++ t) ∧
    ((dd, rd16 s0 s1, rest.take (rd16 s0 s1).toNat) :: us).all
      (fun u => u.2.1.toNat == u.2.2.length) = true := by
  obtain ⟨⟨t, ht⟩, hall⟩ := ih
  have hlen : (rest.take (rd16 s0 s1).toNat).length = (rd16 s0 s1).toNat := by
    rw [List.length_take]; omega
  refine ⟨⟨t, ?_⟩, ?_⟩
  · simp only [List.map_cons, List.flatten_cons, unitBytes, hlen, u16be_rd16, List.append_assoc,
      List.cons_append, List.nil_append]
    rw [← ht, List.take_append_drop]
  · simp only [List.all_cons, hlen, beq_self_eq_true, Bool.true_and]; exact hall

/-- the unit loop consumes exactly the encoding of the units it returns, and stops -/
theorem parseAggRest_sound (mode : Bool) (fuel : Nat) (l : Bytes) :
    (∃ t, l = (((parseAggRest mode fuel l).map fun u => (u.1, u.2.2)).map unitBytes).flatten ++ t) ∧
    (parseAggRest mode fuel l).all (fun u => u.2.1.toNat == u.2.2.length) = true := by
  -- along the loop's own recursion: it stops (nothing returned, everything left over) or does a round
  fun_induction parseAggRest mode fuel l
  case case3 d s0 s1 rest _ hlt ih => exact parseAggRest_round (some d) s0 s1 rest _ hlt ih
  case case6 s0 s1 rest _ hlt ih => exact parseAggRest_round none s0 s1 rest _ hlt ih
  all_goals exact ⟨⟨_, rfl⟩, rfl⟩

theorem AggOf.sound {donl : Bool} {p : Option Bytes} {k : Pkt} (h : AggOf donl p k) :
    ∃ b t, p = some b ∧ b = encode k.view.pkt ++ t ∧ k.view.sizesOk = true := by
  obtain ⟨a, b, d, s0, s1, r, rfl, _, hle, _, _, _, rfl⟩ := h
  obtain ⟨⟨t, ht⟩, hall⟩ := parseAggRest_sound donl r.length (r.drop (rd16 s0 s1).toNat)
  have hlen : (r.take (rd16 s0 s1).toNat).length = (rd16 s0 s1).toNat := by
    rw [List.length_take]; omega
  refine ⟨_, t, rfl, ?_, ?_⟩
  · simp only [Pkt.view, encode, hdrView_bytes, hlen, u16be_rd16, List.append_assoc, List.cons_append,
      List.nil_append]
    rw [← ht, List.take_append_drop]
  · simp only [Pkt.view, hlen, beq_self_eq_true, Bool.true_and]; exact hall

/-- Soundness of `H265Packet.Unmarshal` + accessors: whenever a payload is accepted, the reported
    fields re-encode (RFC 7798 grammar) to the payload itself — for an aggregation packet: to a
    prefix of it, the remainder being octets after the last complete unit; and every NALUSize()
    equals the length of its NalUnit(). -/
theorem unmarshal_sound (donl : Bool) (p : Option Bytes) (k : Pkt) (h : unmarshal donl p = .ok k) :
    ∃ b t, p = some b ∧ b = encode k.view.pkt ++ t ∧ k.view.sizesOk = true ∧
      ((∀ hh d f r, k.view.pkt ≠ .ap hh d f r) → t = []) := by
  have whole : (∃ b, p = some b ∧ encode k.view.pkt = b ∧ k.view.sizesOk = true) →
      ∃ b t, p = some b ∧ b = encode k.view.pkt ++ t ∧ k.view.sizesOk = true ∧
        ((∀ hh d f r, k.view.pkt ≠ .ap hh d f r) → t = []) :=
    fun ⟨b, hb, he, hs⟩ => ⟨b, [], hb, by rw [he, List.append_nil], hs, fun _ => rfl⟩
  rcases (unmarshal_cases donl p).of_ok h with hk | hk | hk | hk
  · exact whole hk.sound
  · exact whole hk.sound
  · obtain ⟨b, t, hb, he, hs⟩ := hk.sound
    refine ⟨b, t, hb, he, hs, fun hne => ?_⟩
    obtain ⟨_, _, _, _, _, _, _, _, _, _, _, _, rfl⟩ := hk
    exact absurd rfl (hne _ _ _ _)
  · exact whole hk.sound

theorem decode_sound (mode : Bool) (p : Option Bytes) (v : Parsed) (h : decode mode p = .ok v) :
    ∃ b t, p = some b ∧ b = encode v.pkt ++ t ∧ v.sizesOk = true ∧
      ((∀ hh d f r, v.pkt ≠ .ap hh d f r) → t = []) := by
  obtain ⟨k, hk, rfl⟩ := decode_eq_ok.mp h
  exact unmarshal_sound mode p k hk

end Rtp.Model.H265
