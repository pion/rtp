/-
  Rtp/Proofs/AV1PayIdx.lean — the checked model of AV1Payloader.Payload never fails an index or
  slice check and computes what the byte-level transcription `payloadB` computes.
-/
import Rtp.Model.AV1PayIdx
import Rtp.Proofs.AV1DepackIdx
import Rtp.Proofs.AV1Pay
namespace Rtp.Model.AV1B
open Rtp Rtp.Model Rtp.Model.AV1
open Rtp.Model.ObuLemmas

/-- every payload in the list has its byte 0 -/
def AllNe (ps : List Bytes) : Prop := ∀ p ∈ ps, p ≠ []

theorem AllNe.cons {x : Bytes} {ps : List Bytes} (hx : x ≠ []) (h : AllNe ps) : AllNe (x :: ps) := by
  intro q hq
  rcases List.mem_cons.mp hq with rfl | hq
  · exact hx
  · exact h q hq

theorem takeC_ok (l : Bytes) (k : Nat) (h : k ≤ l.length) : takeC l k = some (l.take k) := by
  simp [takeC, h]

theorem orHdrC_ok (m : UInt8) (p : Bytes) (h : p ≠ []) : orHdrC m p = some (orHdr m p) := by
  cases p with
  | nil => exact absurd rfl h
  | cons b r => rfl

theorem orHdr_ne (m : UInt8) (p : Bytes) (h : p ≠ []) : orHdr m p ≠ [] := by
  cases p with
  | nil => exact absurd rfl h
  | cons b r => simp [orHdr]

theorem setYC_ok (ps : List Bytes) (h : AllNe ps) (hne : ps ≠ []) :
    setYC ps = some (setYB ps) ∧ AllNe (setYB ps) ∧ setYB ps ≠ [] := by
  cases ps with
  | nil => exact absurd rfl hne
  | cons p r =>
    have hp : p ≠ [] := h p (by simp)
    exact ⟨by simp [setYC, setYB, orHdrC_ok _ p hp],
      AllNe.cons (orHdr_ne _ p hp) fun q hq => h q (List.mem_cons_of_mem _ hq), by simp [setYB]⟩

/-- `hne`: the Y bit is stored into `payloads[cur-1][0]` only after something was written, and then
    that payload exists -/
theorem fragLoopC_eq (mtu : Nat) (isLast : Bool) (fuel : Nat) (rem : Bytes) (wrote : Nat)
    (ps : List Bytes) (cnt : Nat) (hall : AllNe ps) (hne : wrote ≠ 0 → ps ≠ []) :
    fragLoopC mtu isLast fuel rem wrote ps cnt = some (fragLoopB mtu isLast fuel rem wrote ps cnt) ∧
    AllNe (fragLoopB mtu isLast fuel rem wrote ps cnt).1 := by
  induction fuel generalizing rem wrote ps cnt with
  | zero => exact ⟨rfl, hall⟩
  | succ f ih =>
    rw [fragLoopC, fragLoopB]
    by_cases hr : rem.isEmpty = true
    · simp only [hr, if_true]; exact ⟨trivial, hall⟩
    · simp only [hr, Bool.false_eq_true, if_false]
      have hy : (if (wrote != 0) = true then setYC ps else some ps) =
            some (if (wrote != 0) = true then setYB ps else ps) ∧
          AllNe (if (wrote != 0) = true then setYB ps else ps) := by
        by_cases hw : (wrote != 0) = true
        · have hw' : wrote ≠ 0 := by simpa using hw
          obtain ⟨a, b, _⟩ := setYC_ok ps hall (hne hw')
          simp only [hw, if_true]; exact ⟨a, b⟩
        · simp only [hw, Bool.false_eq_true, if_false]; exact ⟨trivial, hall⟩
      rw [hy.1]
      dsimp only
      have hk := computeWriteSize_le (min rem.length (mtu - 1)) (mtu - 1)
      by_cases hc : (isLast || decide (rem.length ≥ mtu - 1)) = true
      · simp only [hc, if_true]
        rw [takeC_ok rem _ (Nat.min_le_left _ _), fromC_ok rem _ (Nat.min_le_left _ _)]
        dsimp only
        exact ih _ _ _ _ (AllNe.cons (List.cons_ne_nil _ _) hy.2) (fun _ => List.cons_ne_nil _ _)
      · simp only [hc, Bool.false_eq_true, if_false]
        have hle : computeWriteSize (min rem.length (mtu - 1)) (mtu - 1) ≤ rem.length := by
          have := Nat.min_le_left rem.length (mtu - 1); omega
        rw [takeC_ok rem _ hle, fromC_ok rem _ hle]
        dsimp only
        exact ih _ _ _ _ (AllNe.cons (List.cons_ne_nil _ _) hy.2) (fun _ => List.cons_ne_nil _ _)

theorem basePkB_ne (ps : List Bytes) (newSeq startNew : Bool) (mtu count : Nat) (hall : AllNe ps) :
    (basePkB ps newSeq startNew mtu count).1 ≠ [] ∧ AllNe (basePkB ps newSeq startNew mtu count).2.1 := by
  unfold basePkB
  cases ps with
  | nil => exact ⟨by simp, by intro q hq; simp at hq⟩
  | cons q qs =>
    dsimp only
    split
    · exact ⟨by simp, hall⟩
    · exact ⟨hall q (by simp), fun x hx => hall x (by simp [hx])⟩

theorem appendObuC_eq (ps : List Bytes) (obu : Bytes) (newSeq isLast startNew : Bool) (mtu count : Nat)
    (hall : AllNe ps) :
    appendObuC ps obu newSeq isLast startNew mtu count =
      some (appendObuB ps obu newSeq isLast startNew mtu count) ∧
    AllNe (appendObuB ps obu newSeq isLast startNew mtu count).1 := by
  obtain ⟨hp, hrest⟩ := basePkB_ne ps newSeq startNew mtu count hall
  unfold appendObuC appendObuB
  generalize basePkB ps newSeq startNew mtu count = b at *
  obtain ⟨p, rest, c⟩ := b
  dsimp only at *
  have cons_all : ∀ x : Bytes, x ≠ [] → AllNe (x :: rest) := fun x hx => AllNe.cons hx hrest
  by_cases hc1 : ((isLast || decide (min obu.length (mtu - p.length) ≥ mtu - p.length)) && decide (c < 3)) = true
  · simp only [hc1, if_true]
    rw [orHdrC_ok _ p hp, takeC_ok obu _ (Nat.min_le_left _ _), fromC_ok obu _ (Nat.min_le_left _ _)]
    dsimp only
    exact fragLoopC_eq _ _ _ _ _ _ _ (cons_all _ (by
      have := orHdr_ne (((c + 1) <<< 4).toUInt8 &&& 0x30) p hp
      intro h; exact this (List.append_eq_nil_iff.mp h).1)) (fun _ => by simp)
  · simp only [hc1, Bool.false_eq_true, if_false]
    by_cases hc2 : mtu - p.length ≥ 2
    · simp only [hc2, if_true]
      have hk := computeWriteSize_le (min obu.length (mtu - p.length)) (mtu - p.length)
      have hle : computeWriteSize (min obu.length (mtu - p.length)) (mtu - p.length) ≤ obu.length := by
        have := Nat.min_le_left obu.length (mtu - p.length); omega
      rw [takeC_ok obu _ hle, fromC_ok obu _ hle]
      dsimp only
      exact fragLoopC_eq _ _ _ _ _ _ _ (cons_all _ (by
        intro h; exact hp (List.append_eq_nil_iff.mp (List.append_eq_nil_iff.mp h).1).1)) (fun _ => by simp)
    · simp only [hc2, if_false]
      exact fragLoopC_eq _ _ _ _ _ _ _ (cons_all _ hp) (fun h => absurd rfl h)

/-- the scanning loop: every slice of `payload` is in range -/
theorem walkC_eq (payload : Bytes) (fuel offset : Nat) (ho : offset ≤ payload.length) :
    walkC payload fuel offset = some (walk fuel (payload.drop offset)) := by
  induction fuel generalizing offset with
  | zero => rfl
  | succ f ih =>
    rw [walkC, walk]
    by_cases hlt : offset < payload.length
    · simp only [hlt, not_true_eq_false, if_false, fromC_ok payload offset ho]
      cases hp : parseObuHeader (payload.drop offset) with
      | ok h =>
        have hsz := parse_size_le _ h hp
        simp only [List.length_drop] at hsz
        have ho1 : offset + h.size ≤ payload.length := by omega
        have hdd : (payload.drop offset).drop h.size = payload.drop (offset + h.size) := by
          rw [List.drop_drop]
        dsimp only
        rw [hdd]
        by_cases hs : h.hasSize = true
        · simp only [hs, if_true, fromC_ok payload _ ho1]
          cases hr : readLebGo (payload.drop (offset + h.size)) with
          | none => rfl
          | some vk =>
            obtain ⟨v, k⟩ := vk
            obtain ⟨_, hk2⟩ := readLebGo_le_length _ v k hr
            simp only [List.length_drop] at hk2
            have ho2 : offset + h.size + k ≤ payload.length := by omega
            have hdd2 : (payload.drop (offset + h.size)).drop k = payload.drop (offset + h.size + k) := by
              rw [List.drop_drop]
            dsimp only
            rw [hdd2]
            simp only [List.length_drop]
            by_cases hv : v.toNat > payload.length - (offset + h.size + k)
            · simp only [hv, if_true]
            · simp only [hv, if_false]
              have ho3 : offset + h.size + k + v.toNat ≤ payload.length := by omega
              rw [sliceC_ok payload _ _ ho3, ih _ ho3, List.drop_drop]
              rfl
        · simp only [hs, Bool.false_eq_true, if_false]
          rw [sliceC_rest payload _ ho1]
      | err e => rfl
      | panic => rfl
    · have : offset = payload.length := by omega
      subst this
      simp [parseObuHeader]

theorem stepC_eq (mtu : Nat) (s : PStB) (hb : ObuHeader × Bytes) (hall : AllNe s.out) :
    stepC mtu s hb = some (stepB mtu s hb) ∧ AllNe (stepB mtu s hb).out := by
  obtain ⟨ha, hb'⟩ := appendObuC_eq s.out s.pending s.newSeq (needNew s.cur hb.1) s.startNew mtu s.count hall
  rw [stepB_eq, stepRestB_out]
  unfold stepC stepFlushB
  dsimp only
  by_cases hp : s.pending.isEmpty = true
  · simp only [hp, if_true, Option.map_some]
    exact ⟨rfl, by split <;> exact hall⟩
  · simp only [hp, Bool.false_eq_true, if_false, ha, Option.map_some]
    exact ⟨rfl, by split <;> exact hb'⟩

theorem foldC_eq (mtu : Nat) (l : List (ObuHeader × Bytes)) (s : PStB) (hall : AllNe s.out) :
    foldC mtu s l = some (l.foldl (stepB mtu) s) ∧ AllNe (l.foldl (stepB mtu) s).out := by
  induction l generalizing s with
  | nil => exact ⟨rfl, hall⟩
  | cons hb l ih =>
    obtain ⟨h1, h2⟩ := stepC_eq mtu s hb hall
    simp only [foldC, h1, List.foldl_cons]
    exact ih _ h2

theorem payloadC_eq (mtu : UInt16) (data : Bytes) : payloadC mtu data = some (payloadB mtu data) := by
  unfold payloadC payloadB
  split
  · rfl
  · have hw := walkC_eq data data.length 0 (Nat.zero_le _)
    simp only [List.drop_zero] at hw
    obtain ⟨hf, hall⟩ := foldC_eq mtu.toNat (walk data.length data) {} (by intro p hp; simp at hp)
    simp only [hw, hf]
    generalize (walk data.length data).foldl (stepB mtu.toNat) {} = s at hall ⊢
    unfold finishC finishB
    split
    · rfl
    · simp only [(appendObuC_eq s.out s.pending s.newSeq true s.startNew mtu.toNat s.count hall).1,
        Option.map_some]

end Rtp.Model.AV1B
