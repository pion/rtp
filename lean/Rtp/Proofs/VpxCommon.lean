/-
  Rtp/Proofs/VpxCommon.lean — what the VP8 and the VP9 proofs share: the fragment loop of the two
  payloaders, the octets of a 7- or 15-bit picture id, and the calculus of parse steps (a step
  consumes exactly a given stretch of octets; a step's success survives every extension of its
  input; hence an input cut inside that stretch is rejected).
-/
import Rtp.Model.VP8
import Rtp.Pred.C08
import Rtp.Pred.C09
import Rtp.Proofs.Lib.BitField
import Rtp.Proofs.Lib.BigEndian
import Rtp.Proofs.Lib.CallOk
namespace Rtp.Proofs.Vpx
open Rtp Rtp.Model Rtp.Bits Rtp.Pred

theorem chunksAux_flatten (k : Nat) (hk : 0 < k) (fuel : Nat) (l : Bytes) : l.length ≤ fuel →
    (vpxChunksAux k fuel l).flatten = l := by
  fun_induction vpxChunksAux k fuel l with
  | case1 l => intro hl; exact (List.length_eq_zero_iff.mp (Nat.le_zero.mp hl)).symm
  | case2 fuel l he => intro _; exact (List.isEmpty_iff.mp he).symm
  | case3 fuel l he ih =>
    intro hl
    have hpos : 0 < l.length := List.length_pos_iff.mpr (fun h0 => he (List.isEmpty_iff.mpr h0))
    rw [List.flatten_cons, ih (by rw [List.length_drop]; omega), List.take_append_drop]

theorem chunksAux_mem (k : Nat) (hk : 0 < k) (fuel : Nat) (l : Bytes) :
    ∀ c ∈ vpxChunksAux k fuel l, c ≠ [] ∧ c.length ≤ k := by
  fun_induction vpxChunksAux k fuel l with
  | case1 | case2 => intro c hc; cases hc
  | case3 fuel l he ih =>
    intro c hc
    have hpos : 0 < l.length := List.length_pos_iff.mpr (fun h0 => he (List.isEmpty_iff.mpr h0))
    rcases List.mem_cons.mp hc with rfl | hc
    · refine ⟨fun h => ?_, by rw [List.length_take]; omega⟩
      have := congrArg List.length h
      rw [List.length_take, List.length_nil] at this
      omega
    · exact ih c hc

theorem chunks_flatten (k : Nat) (hk : 0 < k) (l : Bytes) : (vpxChunks k l).flatten = l :=
  chunksAux_flatten k hk l.length l (Nat.le_refl _)

theorem chunks_mem (k : Nat) (hk : 0 < k) (l : Bytes) :
    ∀ c ∈ vpxChunks k l, c ≠ [] ∧ c.length ≤ k :=
  chunksAux_mem k hk l.length l

theorem chunks_ne_nil (k : Nat) (hk : 0 < k) (l : Bytes) (hl : l ≠ []) : vpxChunks k l ≠ [] := by
  intro h
  have := chunks_flatten k hk l
  rw [h] at this
  exact hl this.symm

/-- a wire `e ++ p` cut at `k`: inside `e`, or `e` and a prefix of `p` -/
theorem take_append_cut (e p : Bytes) (k : Nat) :
    (e ++ p).take k = if e.length ≤ k then e ++ p.take (k - e.length) else e.take k := by
  split
  · rw [List.take_append, List.take_of_length_le ‹_›]
  · rw [List.take_append_of_le_length (Nat.le_of_lt (Nat.lt_of_not_le ‹_›))]

def PicWF : Option (Bool × UInt16) → Prop
  | none => True
  | some (false, v) => v < 128
  | some (true, v) => v < 32768

theorem pic7 (v : UInt16) (hv : v < 128) :
    v.toUInt8 &&& 0x80 = 0 ∧ v.toUInt8 &&& 0x7F = v.toUInt8 ∧ v.toUInt8.toUInt16 = v ∧
    (v &&& 0x7F).toUInt8 = v.toUInt8 :=
  forall_u16_lt 128
    (fun v => v.toUInt8 &&& 0x80 = 0 ∧ v.toUInt8 &&& 0x7F = v.toUInt8 ∧ v.toUInt8.toUInt16 = v ∧
      (v &&& 0x7F).toUInt8 = v.toUInt8)
    (by decide +kernel) v (UInt16.lt_iff_toNat_lt.mp hv)

theorem pic15_hi (h : UInt8) (hh : h.toNat < 128) :
    ((0x80 : UInt8) ||| h) &&& 0x80 = 0x80 ∧ ((0x80 : UInt8) ||| h) &&& 0x7F = h :=
  forall_u8_lt 128 (fun h => ((0x80 : UInt8) ||| h) &&& 0x80 = 0x80 ∧ ((0x80 : UInt8) ||| h) &&& 0x7F = h)
    (by decide +kernel) h hh

theorem hi_lt (v : UInt16) (hv : v < 32768) : v.toNat / 2 ^ 8 < 2 ^ 7 :=
  Nat.div_lt_of_lt_mul (UInt16.lt_iff_toNat_lt.mp hv)

theorem shr8_lt (v : UInt16) (hv : v < 32768) : (v >>> 8).toUInt8.toNat < 128 := by
  rw [u16_shr_toUInt8_toNat v 8 8 rfl]
  exact Nat.lt_of_le_of_lt (Nat.mod_le _ _) (hi_lt v hv)

theorem join16 (w : UInt16) : ((w >>> 8).toUInt8.toUInt16 <<< 8) ||| w.toUInt8.toUInt16 = w := rd16_be16 w

theorem pic15 (v : UInt16) (hv : v < 32768) :
    ((0x80 : UInt8) ||| (v >>> 8).toUInt8) &&& 0x80 = 0x80 ∧
    ((((0x80 : UInt8) ||| (v >>> 8).toUInt8) &&& 0x7F).toUInt16 <<< 8) ||| v.toUInt8.toUInt16 = v := by
  have h := pic15_hi (v >>> 8).toUInt8 (shr8_lt v hv)
  refine ⟨h.1, ?_⟩
  rw [h.2]; exact join16 v

/-- The payloaders mask the halves of the id before narrowing them (`uint8(p.pictureID & 0xFF)`,
    `uint8((p.pictureID>>8) & 0x7F)`, vp8_packet.go:80-81); the masks change nothing (`low8`, `hi7`). -/
theorem low8 (v : UInt16) : (v &&& 0xFF).toUInt8 = v.toUInt8 := by
  rw [← UInt8.toNat_inj, u16_toUInt8_toNat, u16_toUInt8_toNat, u16_and_mask v 0xFF 8 rfl]
  exact Nat.mod_mod_of_dvd _ (by decide)

theorem hi7 (v : UInt16) (hv : v < 32768) : ((v >>> 8) &&& 0x7F).toUInt8 = (v >>> 8).toUInt8 := by
  rw [← UInt8.toNat_inj, u16_toUInt8_toNat, u16_toUInt8_toNat, u16_shr_and v 8 0x7F 8 7 rfl rfl,
    u16_shr v 8 8 rfl, Nat.mod_eq_of_lt (hi_lt v hv)]

variable {σ : Type}

/-- the shape of `VP8Step` and `VP9Step`: the octets left over (`none` = error return) and the receiver -/
abbrev Step (σ : Type) := σ → Bytes → Option Bytes × σ

def seq (f g : Step σ) : Step σ := fun p rest =>
  match f p rest with
  | (none, p') => (none, p')
  | (some r, p') => g p' r

/-- step `f`, started in `p`, consumes exactly the octets `a`, whatever follows, and ends in `p'` -/
def Exact (f : Step σ) (p : σ) (a : Bytes) (p' : σ) : Prop := ∀ t, f p (a ++ t) = (some t, p')

theorem Exact.seq {f g : Step σ} {p p' p'' : σ} {a b : Bytes}
    (hf : Exact f p a p') (hg : Exact g p' b p'') : Exact (seq f g) p (a ++ b) p'' := by
  intro t
  simp only [Vpx.seq, List.append_assoc, hf (b ++ t), hg t]

/-- a success of `f` survives every extension of the input, and the extension is left unread -/
def Stable (f : Step σ) : Prop :=
  ∀ p x y r p', f p x = (some r, p') → f p (x ++ y) = (some (r ++ y), p')

theorem Stable.seq {f g : Step σ} (hf : Stable f) (hg : Stable g) : Stable (seq f g) := by
  intro p x y r p' h
  simp only [Vpx.seq] at h ⊢
  cases hfx : f p x with
  | mk o q =>
    rw [hfx] at h
    cases o with
    | none => cases h
    | some r1 => rw [hf p x y r1 q hfx]; exact hg q r1 y r p' h

/-! Stability follows the text of a step: a step that returns its input (`const`) or fails (`fail`) is
    stable; so is a conditional between stable steps (`ite`), and a step that fails on the empty input and,
    after any first octet, goes on with a stable step (`of_cons`). -/

theorem Stable.const {q : σ → σ} : Stable (fun p x => ((some x : Option Bytes), q p)) := by
  intro p x y r p' h; cases h; rfl

theorem Stable.fail {q : σ → σ} : Stable (fun p (_ : Bytes) => ((none : Option Bytes), q p)) := by
  intro p x y r p' h; cases h

theorem Stable.ite {c : σ → Prop} [∀ p, Decidable (c p)] {f g : Step σ} (hf : Stable f) (hg : Stable g) :
    Stable (fun p x => if c p then f p x else g p x) := by
  intro p x y r p' h
  dsimp only at h ⊢
  by_cases hc : c p
  · rw [if_pos hc] at h ⊢; exact hf p x y r p' h
  · rw [if_neg hc] at h ⊢; exact hg p x y r p' h

theorem Stable.of_cons {f : Step σ} (hnil : ∀ p, (f p []).1 = none)
    (hcons : ∀ p b, Stable (fun (_ : σ) r => f p (b :: r))) : Stable f := by
  intro p x y r p' h
  cases x with
  | nil => have := hnil p; rw [h] at this; cases this
  | cons b x' => exact hcons p b p x' y r p' h

/-- An input cut inside the stretch `f` consumes is rejected: had `f` accepted the shorter input `a'`,
    it would accept `a' ++ c` leaving at least `c` unread, but on `a` it leaves nothing. -/
theorem Exact.cut {f : Step σ} {p p' : σ} {a a' c : Bytes} (hs : Stable f) (he : Exact f p a p')
    (h : a = a' ++ c) (hc : c ≠ []) : (f p a').1 = none := by
  cases hfa : f p a' with
  | mk o q =>
    cases o with
    | none => rfl
    | some r =>
      have h1 := hs p a' c r q hfa
      have h2 := he []
      rw [List.append_nil, h, h1] at h2
      exact absurd (List.append_eq_nil_iff.mp (Option.some.inj (Prod.mk.inj h2).1)).2 hc

end Rtp.Proofs.Vpx
