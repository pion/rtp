/-
  Rtp/Proofs/AV1Pay.lean — lemmas about AV1Payloader: computeWriteSize, the closed form of the
  fragment loop and of appendOBUPayload, sizes of the packets written to, and one iteration of the
  loop of Payload on byte slices split in two halves.
-/
import Rtp.Proofs.AV1Abs
namespace Rtp.Model.AV1
open Rtp Rtp.Model Rtp.Spec.Av1Rtp

theorem lebLen_pos (n : Nat) : 1 ≤ (writeLeb n).length := writeLeb_length_pos n

/-- leb128Size returns the length of the LEB128 encoding, and whether the value is the least one of
    that length (so that one less needs one byte less) -/
theorem leb128Size_spec (n : Nat) (hn : n < 128 ^ 5) :
    (leb128Size n).1 = (writeLeb n).length ∧
    ((leb128Size n).2 = true → 128 ≤ n ∧ (writeLeb (n - 1)).length + 1 = (writeLeb n).length) := by
  -- one size class: `a = 128^(k+1)` is the least value of `k + 2` bytes
  have cls : ∀ k a, a = 128 ^ (k + 1) → a ≤ n → n < a * 128 →
      k + 2 = (writeLeb n).length ∧
      ((n == a) = true → 128 ≤ n ∧ (writeLeb (n - 1)).length + 1 = (writeLeb n).length) := by
    intro k a ha h1 h2
    have hk : 0 < 128 ^ k := Nat.pow_pos (by decide)
    have hl : (writeLeb n).length = k + 2 :=
      (writeLeb_length_eq_iff (k + 1) n (by rw [Nat.pow_succ] at ha; omega)).mpr
        ⟨ha ▸ h1, by rw [Nat.pow_succ, ← ha]; exact h2⟩
    refine ⟨hl.symm, fun he => ?_⟩
    rw [beq_iff_eq] at he
    rw [Nat.pow_succ] at ha
    rw [hl, (writeLeb_length_eq_iff k (n - 1) (by omega)).mpr ⟨by omega, by rw [Nat.pow_succ]; omega⟩]
    omega
  unfold leb128Size
  by_cases h4 : n ≥ 268435456
  · rw [if_pos h4]; exact cls 3 268435456 rfl h4 hn
  rw [if_neg h4]
  by_cases h3 : n ≥ 2097152
  · rw [if_pos h3]; exact cls 2 2097152 rfl h3 (Nat.lt_of_not_le h4)
  rw [if_neg h3]
  by_cases h2 : n ≥ 16384
  · rw [if_pos h2]; exact cls 1 16384 rfl h2 (Nat.lt_of_not_le h3)
  rw [if_neg h2]
  by_cases h1 : n ≥ 128
  · rw [if_pos h1]; exact cls 0 128 rfl h1 (Nat.lt_of_not_le h2)
  rw [if_neg h1]
  exact ⟨(writeLeb_length_one n (Nat.lt_of_not_le h1)).symm, fun hb => by cases hb⟩

theorem computeWriteSize_le (want can : Nat) : computeWriteSize want can ≤ want := by
  unfold computeWriteSize
  split
  split
  · omega
  · split <;> omega

/-- what computeWriteSize returns fits together with its own length field, and is not zero: it is
    `want` if that fits; one less if that saves a byte of length field and then fits; else `want`
    minus the length of its length field, whose own length field is not longer -/
theorem computeWriteSize_fits (want can : Nat) (hw : 1 ≤ want) (hc : 2 ≤ can) (hwc : want ≤ can)
    (hsmall : can < 128 ^ 5) :
    1 ≤ computeWriteSize want can ∧
    computeWriteSize want can + (writeLeb (computeWriteSize want can)).length ≤ can := by
  obtain ⟨hsz, hedge⟩ := leb128Size_spec want (by omega)
  have hmono : (writeLeb (want - (writeLeb want).length)).length ≤ (writeLeb want).length :=
    writeLeb_length_mono (Nat.sub_le _ _)
  have h5 := writeLeb_length_le_of_lt 4 want (by omega)
  have h1 : want < 128 → (writeLeb want).length = 1 := writeLeb_length_one want
  unfold computeWriteSize
  generalize leb128Size want = r at hsz hedge
  obtain ⟨sz, edge⟩ := r
  dsimp only at hsz hedge ⊢
  subst hsz
  split
  · omega
  · split
    · rename_i h
      simp only [Bool.and_eq_true, decide_eq_true_eq] at h
      have := hedge h.1
      omega
    · omega

/-- number of bytes one round of the fragment loop writes -/
def pieceLen (mtu : Nat) (isLast : Bool) (rem : Bytes) : Nat :=
  if isLast || rem.length ≥ mtu - 1 then min rem.length (mtu - 1)
  else computeWriteSize (min rem.length (mtu - 1)) (mtu - 1)

/-- the packet one round of the fragment loop creates, with its final Y flag -/
def fragPk (mtu : Nat) (isLast : Bool) (rem : Bytes) (z y : Bool) : Pk :=
  if isLast || rem.length ≥ mtu - 1 then
    { z := z, y := y, w := 1, last := some (rem.take (pieceLen mtu isLast rem)) }
  else { z := z, y := y, pre := [rem.take (pieceLen mtu isLast rem)] }

/-- the packets the fragment loop creates for `rem`, oldest first -/
def fragPks (mtu : Nat) (isLast : Bool) : Nat → Bytes → Bool → List Pk
  | 0, _, _ => []
  | fuel + 1, rem, z =>
    if rem.isEmpty then []
    else
      let r := rem.drop (pieceLen mtu isLast rem)
      fragPk mtu isLast rem z (!r.isEmpty) :: fragPks mtu isLast fuel r true

theorem pieceLen_pos (mtu : Nat) (isLast : Bool) (rem : Bytes) (hm : 2 ≤ mtu) (hs : mtu ≤ 65535)
    (hr : rem ≠ []) : 1 ≤ pieceLen mtu isLast rem ∧ pieceLen mtu isLast rem ≤ rem.length ∧
      pieceLen mtu isLast rem ≤ mtu - 1 ∧
      ((isLast || decide (rem.length ≥ mtu - 1)) = false →
        pieceLen mtu isLast rem + (writeLeb (pieceLen mtu isLast rem)).length ≤ mtu - 1) := by
  have hl : 1 ≤ rem.length := List.length_pos_iff.mpr hr
  unfold pieceLen
  split
  · rename_i hc
    exact ⟨by omega, by omega, by omega, fun h => by rw [h] at hc; cases hc⟩
  · rename_i hc
    simp only [Bool.or_eq_true, decide_eq_true_eq, not_or] at hc
    have hmin : min rem.length (mtu - 1) = rem.length := by omega
    rw [hmin]
    have := computeWriteSize_fits rem.length (mtu - 1) hl (by omega) (by omega) (by omega)
    have := computeWriteSize_le rem.length (mtu - 1)
    exact ⟨by omega, by omega, by omega, fun _ => by omega⟩

theorem setY_cons (p : Pk) (ps : List Pk) : setY (p :: ps) = { p with y := true } :: ps := rfl

theorem fragPk_setY (mtu : Nat) (isLast : Bool) (rem : Bytes) (z : Bool) :
    ({ fragPk mtu isLast rem z false with y := true } : Pk) = fragPk mtu isLast rem z true := by
  unfold fragPk; split <;> rfl

/-- one round: the new packet is created with Y = 0; the Y of a packet is set one round later, by
    `setY`, when something follows (which is why `fragPks` computes Y by looking ahead) -/
theorem fragLoop_step (mtu : Nat) (isLast : Bool) (f : Nat) (rem : Bytes) (wrote : Nat)
    (ps : List Pk) (cnt : Nat) (hr : rem ≠ []) :
    fragLoop mtu isLast (f + 1) rem wrote ps cnt =
      fragLoop mtu isLast f (rem.drop (pieceLen mtu isLast rem)) (pieceLen mtu isLast rem)
        (fragPk mtu isLast rem (wrote != 0) false :: (if wrote != 0 then setY ps else ps)) 1 := by
  have hne : rem.isEmpty = false := List.isEmpty_eq_false_iff.mpr hr
  by_cases hc : (isLast || decide (rem.length ≥ mtu - 1)) = true
  · simp only [fragLoop, hne, Bool.false_eq_true, if_false, pieceLen, fragPk, hc, if_true]
  · simp only [fragLoop, hne, Bool.false_eq_true, if_false, pieceLen, fragPk, hc]

/-- the fragment loop: what is left of the OBU goes into new packets; the packet written before
    gets its Y bit iff something was written to it -/
theorem fragLoop_eq (mtu : Nat) (isLast : Bool) (hm : 2 ≤ mtu) (hs : mtu ≤ 65535)
    (fuel : Nat) (rem : Bytes) (wrote : Nat) (ps : List Pk) (cnt : Nat) (hf : rem.length ≤ fuel) :
    fragLoop mtu isLast fuel rem wrote ps cnt =
      if rem.isEmpty then (ps, cnt)
      else ((fragPks mtu isLast fuel rem (wrote != 0)).reverse ++ (if wrote != 0 then setY ps else ps), 1) := by
  induction fuel generalizing rem wrote ps cnt with
  | zero =>
    have : rem = [] := List.eq_nil_of_length_eq_zero (Nat.le_zero.mp hf)
    subst this; simp [fragLoop]
  | succ f ih =>
    by_cases hr : rem = []
    · subst hr; simp [fragLoop]
    · have hne : rem.isEmpty = false := List.isEmpty_eq_false_iff.mpr hr
      obtain ⟨hp1, hp2, _⟩ := pieceLen_pos mtu isLast rem hm hs hr
      have hj : (pieceLen mtu isLast rem != 0) = true := by simp; omega
      have hfl : (rem.drop (pieceLen mtu isLast rem)).length ≤ f := by
        simp only [List.length_drop]; omega
      rw [fragLoop_step mtu isLast f rem wrote ps cnt hr, ih _ _ _ _ hfl]
      simp only [hne, Bool.false_eq_true, if_false, fragPks]
      by_cases hr2 : (rem.drop (pieceLen mtu isLast rem)).isEmpty = true
      · have : fragPks mtu isLast f (rem.drop (pieceLen mtu isLast rem)) true = [] := by
          cases f <;> simp [fragPks, hr2]
        simp [hr2, this]
      · simp only [hr2, Bool.false_eq_true, if_false, hj, if_true, setY_cons, Bool.not_false,
          List.reverse_cons, List.append_assoc, List.singleton_append, fragPk_setY]

/-- the packet the first write goes to, the older packets, and the element count it starts with -/
def basePk (ps : List Pk) (newSeq startNew : Bool) (mtu count : Nat) : Pk × List Pk × Nat :=
  match ps with
  | [] => ({ n := newSeq }, [], 0)
  | q :: qs => if mtu ≤ q.size || startNew then ({ n := newSeq }, q :: qs, 0) else (q, qs, count)

/-- the first write: the packet afterwards, the number of OBU bytes written, the element count -/
def firstWrite (p : Pk) (obu : Bytes) (isLast : Bool) (mtu count : Nat) : Pk × Nat × Nat :=
  let free := mtu - p.size
  let want := min obu.length free
  if (isLast || want ≥ free) && count < 3 then
    ({ p with w := count + 1, last := some (obu.take want) }, want, 0)
  else if free ≥ 2 then
    ({ p with pre := p.pre ++ [obu.take (computeWriteSize want free)] }, computeWriteSize want free, count + 1)
  else (p, 0, count)

theorem appendObu_eq (ps : List Pk) (obu : Bytes) (newSeq isLast startNew : Bool) (mtu count : Nat) :
    appendObu ps obu newSeq isLast startNew mtu count =
      let b := basePk ps newSeq startNew mtu count
      let f := firstWrite b.1 obu isLast mtu b.2.2
      fragLoop mtu isLast (obu.length + 1) (obu.drop f.2.1) f.2.1 (f.1 :: b.2.1) f.2.2 := by
  unfold appendObu basePk firstWrite
  cases ps with
  | nil =>
    dsimp only
    split
    · rfl
    · split <;> rfl
  | cons q qs =>
    dsimp only
    split
    · dsimp only
      split
      · rfl
      · split <;> rfl
    · dsimp only
      split
      · rfl
      · split <;> rfl

theorem size_eq (p : Pk) : p.size = 1 + (p.pre.flatMap lenPrefixed).length + (p.last.getD []).length := by
  simp [Pk.size, Pk.body]; omega

theorem size_setLast (p : Pk) (w : Nat) (x : Bytes) (h : p.last = none) :
    Pk.size { p with w := w, last := some x } = p.size + x.length := by
  simp [Pk.size, Pk.body, h]; omega

theorem size_snoc (p : Pk) (x : Bytes) :
    Pk.size { p with pre := p.pre ++ [x] } = p.size + ((writeLeb x.length).length + x.length) := by
  simp [Pk.size, Pk.body, List.flatMap_append, lenPrefixed]; omega

end Rtp.Model.AV1

namespace Rtp.Model.AV1B
open Rtp Rtp.Model Rtp.Model.AV1

/-! One iteration of `stepB` in the same two halves as `step_eq` (AV1PayStep.lean).  They stand here,
    ahead of the loop invariant, because AV1PayIdx and ProvAV1Pay use them without it. -/

def stepFlushB (mtu : Nat) (s : PStB) (h : ObuHeader) : PStB :=
  let need := needNew s.cur h
  if s.pending.isEmpty then
    if need then { s with startNew := true, cur := none } else s
  else
    let r := appendObuB s.out s.pending s.newSeq need s.startNew mtu s.count
    let s := { s with out := r.1, count := r.2, pending := [], startNew := need }
    if need then { s with newSeq := false, cur := none } else s

def stepRestB (s : PStB) (hb : ObuHeader × Bytes) : PStB :=
  let h := hb.1
  let s : PStB := match h.ext with | some e => { s with cur := some e } | none => s
  if dropped h then s
  else { s with pending := obuBytes h hb.2, newSeq := h.type == obuSequenceHeader }

theorem stepB_eq (mtu : Nat) (s : PStB) (hb : ObuHeader × Bytes) :
    stepB mtu s hb = stepRestB (stepFlushB mtu s hb.1) hb := rfl

theorem stepRestB_out (s : PStB) (hb : ObuHeader × Bytes) : (stepRestB s hb).out = s.out := by
  unfold stepRestB
  dsimp only
  cases hb.1.ext <;> (dsimp only; split <;> rfl)

end Rtp.Model.AV1B
