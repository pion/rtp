/-
  Rtp/Proofs/H264Size.lean — size bounds of the H264 payloader model: every fragment is non-empty
  and at most MTU bytes long, whatever the input, the options and the pending state; from there to the
  shared C08 predicate over `PayObs` histories.
-/
import Rtp.Proofs.H264Basic
import Rtp.Model.H264Obs
import Rtp.Proofs.Lib.CallOk
namespace Rtp.Proofs.H264
open Rtp Rtp.Model Rtp.Model.H264 Rtp.Model.H264.Obs Rtp.Pred

def Bounded (mtu : Nat) (fs : List Bytes) : Prop := ∀ f ∈ fs, 1 ≤ f.length ∧ f.length ≤ mtu

theorem Bounded.nil (mtu : Nat) : Bounded mtu [] := by intro f hf; simp at hf

theorem Bounded.append {mtu : Nat} {a b : List Bytes} (ha : Bounded mtu a) (hb : Bounded mtu b) :
    Bounded mtu (a ++ b) := by
  intro f hf
  rcases List.mem_append.mp hf with h | h
  · exact ha f h
  · exact hb f h

theorem Bounded.flatMap {mtu : Nat} {α} (l : List α) (g : α → List Bytes)
    (h : ∀ a ∈ l, Bounded mtu (g a)) : Bounded mtu (l.flatMap g) := by
  intro f hf
  obtain ⟨a, ha, hfa⟩ := List.mem_flatMap.mp hf
  exact h a ha f hfa

theorem fuaLoop_len (k : Nat) (ind typ : UInt8) (first : Bool) (rem : Bytes) :
    ∀ f ∈ fuaLoop k ind typ first rem, 2 ≤ f.length ∧ f.length ≤ k + 2 := by
  fun_induction fuaLoop k ind typ first rem with
  | case1 first rem h => intro f hf; simp at hf
  | case2 first rem h hdr ih =>
    intro f hf
    rcases List.mem_cons.mp hf with rfl | hf
    · simp [List.length_take]; omega
    · exact ih f hf

theorem singleOrFua_bounded (mtu : Nat) (nalu : Bytes) : Bounded mtu (singleOrFua mtu nalu) := by
  unfold singleOrFua
  split
  · exact Bounded.nil _
  · rename_i b body
    split
    · rename_i h
      intro f hf
      simp at hf
      subst hf
      simp at h ⊢
      omega
    · dsimp only
      split
      · exact Bounded.nil _
      · rename_i h1 h2
        intro f hf
        have := fuaLoop_len _ _ _ _ _ f hf
        omega

theorem stepNoStap_bounded (mtu : Nat) (nalu : Bytes) : Bounded mtu (stepNoStap mtu nalu) := by
  unfold stepNoStap
  split
  · exact Bounded.nil _
  · dsimp only
    split
    · exact Bounded.nil _
    · exact singleOrFua_bounded _ _

theorem payloadNoStap_bounded (mtu : Nat) (p : Bytes) : Bounded mtu (payloadNoStap mtu p) := by
  unfold payloadNoStap
  split
  · exact Bounded.nil _
  · exact Bounded.flatMap _ _ (fun a _ => stepNoStap_bounded mtu a)

theorem step_bounded (disable : Bool) (mtu : Nat) (st : PayState) (nalu : Bytes) :
    Bounded mtu (step disable mtu st nalu).1 := by
  fun_cases step disable mtu st nalu
  -- case7: SPS and PPS released in front of the unit; cases 4, 6, 8: the unit alone; otherwise nothing
  case case7 s p _ _ agg pre =>
    refine Bounded.append ?_ (singleOrFua_bounded _ _)
    show Bounded mtu (if (stapA s p).length ≤ mtu then [stapA s p] else _)
    split
    · rename_i h
      intro f hf
      rw [List.mem_singleton.mp hf]
      exact ⟨by simp [stapA], h⟩
    · exact Bounded.append (payloadNoStap_bounded _ _) (payloadNoStap_bounded _ _)
  case case4 | case6 | case8 => exact singleOrFua_bounded mtu (_ :: _)
  all_goals exact Bounded.nil _

theorem steps_bounded (disable : Bool) (mtu : Nat) (st : PayState) (ns : List Bytes) :
    Bounded mtu (steps disable mtu st ns).1 := by
  induction ns generalizing st with
  | nil => exact Bounded.nil _
  | cons n ns ih =>
    simp only [steps]
    exact Bounded.append (step_bounded _ _ _ _) (ih _)

theorem payload_bounded (disable : Bool) (mtu : UInt16) (st : PayState) (input : Bytes) :
    Bounded mtu.toNat (payload disable mtu st input).1 := by
  unfold payload
  split
  · exact Bounded.nil _
  · exact steps_bounded _ _ _ _

theorem callOk_of_bounded (mtu : UInt16) (input : Option Bytes) (frags : List Bytes)
    (h : Bounded mtu.toNat frags) : C08.callOk false mtu input (PayObs.ofFrags frags) = true :=
  C08.callOk_frags mtu input frags fun f hf => ⟨(h f hf).2, List.ne_nil_of_length_pos (h f hf).1⟩

theorem payloadHist_length (st : PayState) (h : List (Bool × UInt16 × Bytes)) :
    (payloadHist st h).length = h.length := by
  induction h generalizing st with
  | nil => rfl
  | cons c cs ih => simp only [payloadHist, List.length_cons, ih]

theorem histOk_hist (st : PayState) (flags : List Bool) (calls : List (UInt16 × Option Bytes)) :
    C08.histOk false calls ((payloadHist st (c08Hist flags calls)).map PayObs.ofFrags) = true := by
  induction calls generalizing st flags with
  | nil => simp [c08Hist, payloadHist, C08.histOk]
  | cons c cs ih =>
    obtain ⟨m, b⟩ := c
    cases flags
    all_goals
      simp only [c08Hist, payloadHist, List.map_cons, C08.histOk, Bool.and_eq_true]
      exact ⟨callOk_of_bounded m b _ (payload_bounded _ m st (b.getD [])), ih _ _⟩

end Rtp.Proofs.H264
