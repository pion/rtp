/-
  Rtp/Proofs/WireDecode.lean — the specification's own decoder (Spec/WireDecode.lean, the oracle of
  kind `c03.mut`) is complete: on every well-formed image it returns the description with the alignment
  pads made explicit (`decode_encode`, `normW`).  Soundness is by construction: `describe` re-encodes and compares.
-/
import Rtp.Proofs.WireAgree
import Rtp.Spec.WireDecode
namespace Rtp.Proofs.Wire
open Rtp Rtp.Model Rtp.Spec.Wire

def padItems (k : Nat) : List Item := List.replicate k .pad

theorem body1_append (a b : List Item) : body1 (a ++ b) = body1 a ++ body1 b := by
  simp [body1]
theorem body2_append (a b : List Item) : body2 (a ++ b) = body2 a ++ body2 b := by
  simp [body2]
theorem body1_padItems (k : Nat) : body1 (padItems k) = rep k 0 := by
  induction k with
  | zero => rfl
  | succ k ih => simp only [padItems, List.replicate_succ, body1_pad, rep] at ih ⊢; rw [ih]
theorem body2_padItems (k : Nat) : body2 (padItems k) = rep k 0 := by
  induction k with
  | zero => rfl
  | succ k ih => simp only [padItems, List.replicate_succ, body2_pad, rep] at ih ⊢; rw [ih]

theorem items1_pads (k fuel : Nat) (hf : k < fuel) : items1 fuel (rep k 0) = some (padItems k, none) := by
  induction k generalizing fuel with
  | zero => cases fuel with
    | zero => omega
    | succ f => simp [rep, items1, padItems]
  | succ k ih =>
    cases fuel with
    | zero => omega
    | succ f =>
      simp only [rep, List.replicate_succ, items1, beq_self_eq_true, ↓reduceIte]
      have := ih f (by omega)
      simp only [rep] at this
      simp [this, padItems, List.replicate_succ]

/-- the specification's reader takes the nibbles with `/ 16`, `% 16` where the model shifts and masks
    (`PacketRt.hdr1_decode`) -/
theorem hdr1_toNat (id l : Nat) (hid : id ≤ 15) (hl : l ≤ 15) :
    (id * 16 + l).toUInt8.toNat / 16 = id ∧ (id * 16 + l).toUInt8.toNat % 16 = l :=
  div_mod_of_eq (toNat_toUInt8_of_lt (by omega)) (Nat.lt_succ_of_le hl)

/-- the specification's one-byte item reader on an encoded item list followed by a tail it reads as `tr` -/
theorem items1_body (items : List Item) (tail : Bytes) (tr : List Item × Option (UInt8 × Bytes))
    (h : items.all Item.ok1 = true) (fuel : Nat) (hf : (body1 items ++ tail).length < fuel)
    (ht : ∀ f, tail.length < f → items1 f tail = some tr) :
    items1 fuel (body1 items ++ tail) = some (items ++ tr.1, tr.2) := by
  induction items generalizing fuel with
  | nil => simpa using ht fuel (by simpa using hf)
  | cons it r ih =>
    simp only [List.all_cons, Bool.and_eq_true] at h
    obtain ⟨hit, hr⟩ := h
    cases fuel with
    | zero => omega
    | succ f =>
      cases it with
      | pad =>
        simp only [body1_pad, List.cons_append, items1, beq_self_eq_true, ↓reduceIte]
        rw [ih hr f (by simp only [body1_pad, List.cons_append, List.length_cons] at hf; omega)]
        rfl
      | elem id d =>
        have fa := (ok1_hdr hit).1
        simp only [Item.ok1, Bool.and_eq_true, decide_eq_true_eq, Bool.not_eq_true'] at hit
        obtain ⟨⟨⟨hid, h1⟩, h16⟩, _⟩ := hit
        obtain ⟨fb, fc⟩ := hdr1_toNat id.toNat (d.length - 1) (by omega) (by omega)
        simp only [body1_elem, List.cons_append, List.append_assoc, items1, fa, Bool.false_eq_true, ↓reduceIte, fb, fc]
        have e15 : (id.toNat == 15) = false := by
          rw [Bool.eq_false_iff]; intro hc; simp at hc; omega
        have elen : d.length - 1 + 1 = d.length := by omega
        simp only [e15, Bool.false_eq_true, ↓reduceIte, elen]
        have hlen : ¬ (d ++ (body1 r ++ tail)).length < d.length := by simp
        simp only [hlen, ↓reduceIte, List.drop_left, List.take_left]
        rw [ih hr f (by simp only [body1_elem, List.cons_append, List.length_cons, List.length_append] at hf ⊢; omega)]
        simp

theorem items2_pads (k fuel : Nat) (hf : k < fuel) : items2 fuel (rep k 0) = some (padItems k) := by
  induction k generalizing fuel with
  | zero => cases fuel with
    | zero => omega
    | succ f => simp [rep, items2, padItems]
  | succ k ih =>
    cases fuel with
    | zero => omega
    | succ f =>
      simp only [rep, List.replicate_succ, items2, beq_self_eq_true, ↓reduceIte]
      have := ih f (by omega)
      simp only [rep] at this
      simp [this, padItems, List.replicate_succ]

theorem items2_body (items : List Item) (k : Nat) (h : items.all Item.ok2 = true) (fuel : Nat)
    (hf : (body2 items ++ rep k 0).length < fuel) :
    items2 fuel (body2 items ++ rep k 0) = some (items ++ padItems k) := by
  induction items generalizing fuel with
  | nil => simpa using items2_pads k fuel (by simpa [rep] using hf)
  | cons it r ih =>
    simp only [List.all_cons, Bool.and_eq_true] at h
    obtain ⟨hit, hr⟩ := h
    cases fuel with
    | zero => omega
    | succ f =>
      cases it with
      | pad =>
        simp only [body2_pad, List.cons_append, items2, beq_self_eq_true, ↓reduceIte]
        rw [ih hr f (by simp only [body2_pad, List.cons_append, List.length_cons] at hf; omega)]
        rfl
      | elem id d =>
        obtain ⟨hid', hl⟩ := ok2_hdr hit
        simp only [body2_elem, List.cons_append, List.append_assoc, items2, hid', Bool.false_eq_true, ↓reduceIte, hl]
        have hlen : ¬ (d ++ (body2 r ++ rep k 0)).length < d.length := by simp
        simp only [hlen, ↓reduceIte, List.drop_left, List.take_left]
        rw [ih hr f (by simp only [body2_elem, List.cons_append, List.length_cons, List.length_append] at hf ⊢; omega)]
        simp

/-- the description the oracle returns: alignment pads made explicit -/
def normBlock : ExtBlock → ExtBlock
  | .oneByte items none => .oneByte (items ++ padItems (padTo4 (body1 items).length)) none
  | .oneByte items (some (n, rest)) =>
    .oneByte items (some (n, rest ++ rep (padTo4 (body1 items ++ stopBytes (some (n, rest))).length) 0))
  | .twoByte a items => .twoByte a (items ++ padItems (padTo4 (body2 items).length))
  | .legacy p ws => .legacy p ws

theorem normBlock_body (b : ExtBlock) (h4 : ∀ p ws, b = .legacy p ws → ws.length % 4 = 0) :
    (normBlock b).body = b.body ++ rep (padTo4 b.body.length) 0 := by
  cases b with
  | oneByte items stop =>
    cases stop with
    | none => simp [normBlock, ExtBlock.body, stopBytes, body1_append, body1_padItems]
    | some st => obtain ⟨n, rest⟩ := st; simp [normBlock, ExtBlock.body, stopBytes]
  | twoByte a items => simp [normBlock, ExtBlock.body, body2_append, body2_padItems]
  | legacy p ws =>
    have := h4 p ws rfl
    have e : padTo4 ws.length = 0 := by unfold padTo4; omega
    simp [normBlock, ExtBlock.body, e, rep]

theorem appbits_range : ∀ k : Fin 16, ((0x1000 + k.val).toUInt16 &&& 0xFFF0) = 0x1000 ∧
    ((0x1000 + k.val).toUInt16 == 0xBEDE) = false ∧ (0x1000 + k.val).toUInt16.toNat / 16 = 0x100 ∧
    (0x1000 + k.val).toUInt16.toNat % 16 = k.val := by
  decide +kernel

theorem legacy_not_twobyte (p : UInt16) (h : ((p &&& 0xFFF0) != 0x1000) = true) : (p.toNat / 16 == 0x100) = false := by
  have hm : (p &&& 0xFFF0).toNat = p.toNat / 2 ^ 4 % 2 ^ 12 * 2 ^ 4 := by
    rw [UInt16.toNat_and]; exact Rtp.Bits.nat_and_shl p.toNat 4 12
  rw [bne_iff_ne, Ne, ← UInt16.toNat_inj, hm] at h
  rw [beq_eq_false_iff_ne]
  intro hc
  apply h
  rw [show p.toNat / 2 ^ 4 = 0x100 from hc]
  rfl

/-- the oracle's block reader finds the (normalised) description of a well-formed block again -/
theorem decodeBlock_encode (b : ExtBlock) (hw : b.WF = true) :
    decodeBlock b.profile (b.body ++ rep (padTo4 b.body.length) 0) = some (normBlock b) := by
  cases b with
  | oneByte items stop =>
    simp only [ExtBlock.WF, Bool.and_eq_true, List.all_eq_true] at hw
    have hok : items.all Item.ok1 = true := by
      rw [List.all_eq_true]; intro x hx; exact ok1_of_wf1 x (hw.1.1 x hx)
    simp only [decodeBlock, ExtBlock.profile, beq_self_eq_true, ↓reduceIte, ExtBlock.body, List.append_assoc]
    cases stop with
    | none =>
      simp only [stopBytes, List.nil_append, List.append_nil]
      rw [items1_body items (rep (padTo4 (body1 items).length) 0) (padItems (padTo4 (body1 items).length), none) hok _
        (Nat.lt_succ_self _) (fun f hf => items1_pads _ f (by simpa [rep] using hf))]
      simp [normBlock]
    | some st =>
      obtain ⟨n, rest⟩ := st
      have hn : n.toNat < 16 := by simpa [stopWF] using hw.1.2
      obtain ⟨sa, _⟩ := stop_facts n.toNat hn
      obtain ⟨sb, sc⟩ := hdr1_toNat 15 n.toNat (Nat.le_refl 15) (Nat.le_of_lt_succ hn)
      rw [items1_body items _ ([], some (n, rest ++ rep (padTo4 (body1 items ++ stopBytes (some (n, rest))).length) 0)) hok _
        (Nat.lt_succ_self _)]
      · simp [normBlock]
      · intro f hf
        cases f with
        | zero => omega
        | succ f =>
          simp only [stopBytes, List.cons_append, items1, sa, Bool.false_eq_true, ↓reduceIte, sb, beq_self_eq_true, sc]
          simp
  | twoByte a items =>
    simp only [ExtBlock.WF, Bool.and_eq_true, List.all_eq_true, decide_eq_true_eq] at hw
    have hok : items.all Item.ok2 = true := by
      rw [List.all_eq_true]; intro x hx; exact ok2_of_wf2 x (hw.1.2 x hx)
    obtain ⟨_, a2, a3, a4⟩ := appbits_range ⟨a.toNat, hw.1.1⟩
    simp only at a2 a3 a4
    simp only [decodeBlock, ExtBlock.profile, a2, Bool.false_eq_true, ↓reduceIte, a3, beq_self_eq_true, a4,
      ExtBlock.body, items2_body items _ hok _ (Nat.lt_succ_self _)]
    simp [normBlock]
  | legacy p ws =>
    simp only [ExtBlock.WF, Bool.and_eq_true, bne_iff_ne, ne_eq, beq_iff_eq, decide_eq_true_eq] at hw
    obtain ⟨⟨⟨h1, h2⟩, h3⟩, _⟩ := hw
    have e1 : (p == 0xBEDE) = false := by simpa using h1
    have e2 := legacy_not_twobyte p (by simpa using h2)
    have e3 : padTo4 ws.length = 0 := by unfold padTo4; omega
    simp [decodeBlock, ExtBlock.profile, e1, e2, ExtBlock.body, e3, rep, normBlock]

def normW (w : Wire) : Wire := { w with ext := w.ext.map normBlock }

theorem csrcs_eq (n : Nat) (l : Bytes) : csrcs n l = readCsrcs n l := by
  fun_induction readCsrcs n l with
  | case1 n a b c d rest ih => simp [csrcs, ih]
  | case2 n l h =>
    unfold csrcs
    split
    · rename_i n' a b c d rest
      exact (h n' a b c d rest rfl rfl).elim
    · rfl

theorem b2n_le (b : Bool) : b2n b ≤ 1 := by cases b <;> simp [b2n]

theorem b2n_beq (b : Bool) : (b2n b == 1) = b := by cases b <;> rfl

theorem body_le (b : ExtBlock) (hw : b.WF = true) : b.body.length ≤ maxBody := by
  cases b <;> (simp only [ExtBlock.WF, Bool.and_eq_true, decide_eq_true_eq] at hw; exact hw.2)

theorem decode_ext (ext : Option ExtBlock) (tail : Bytes)
    (hext : (match ext with | some b => b.WF | none => true) = true) :
    decodeExtPart ext.isSome (encodeExt ext ++ tail) = some (ext.map normBlock, tail) := by
  unfold decodeExtPart
  cases ext with
  | none => simp [encodeExt]
  | some b =>
    simp only at hext
    obtain ⟨hwords, hl, ht, hd⟩ := block_cut b.body tail (body_le b hext)
    simp only [Option.isSome_some, ↓reduceIte, encodeExt, ExtBlock.encode, be16, List.cons_append, List.nil_append,
      List.append_assoc, rd16_be16, hwords, Option.map_some, hl, ht, hd, decodeBlock_encode b hext]

theorem decode_pad (pad : Option Bytes) (payload : Bytes)
    (hpad : (match pad with | some f => decide (f.length ≤ 254) | none => true) = true) :
    decodePadPart pad.isSome (payload ++ encodePad pad) = some (pad, payload) := by
  unfold decodePadPart
  cases pad with
  | none => simp [encodePad]
  | some f =>
    simp only [decide_eq_true_eq] at hpad
    have hc : (f.length + 1).toUInt8.toNat = f.length + 1 := by simp [Nat.toUInt8]; omega
    have hlast : (payload ++ encodePad (some f)).getLast? = some (f.length + 1).toUInt8 := by
      simp only [encodePad]; rw [← List.append_assoc]; simp
    have hlen : (payload ++ encodePad (some f)).length = payload.length + (f.length + 1) := by simp [encodePad]
    simp only [Option.isSome_some, ↓reduceIte, hlast, hc, hlen]
    have h1 : (decide (f.length + 1 < 1) || decide (payload.length + (f.length + 1) < f.length + 1)) = false := by
      simp
    have e1 : payload.length + (f.length + 1) - (f.length + 1) = payload.length := by omega
    simp only [h1, Bool.false_eq_true, ↓reduceIte, e1, List.drop_left, List.take_left, encodePad]
    simp

theorem decode_encode (w : Wire) (hw : w.WF = true) : Wire.decode w.encode = some (normW w) := by
  have hwf := hw
  simp only [Wire.WF, Bool.and_eq_true, decide_eq_true_eq] at hwf
  obtain ⟨⟨⟨⟨hv, hpt⟩, hcc⟩, hext⟩, hpad⟩ := hwf
  obtain ⟨e_v, e_p, e_x, e_cc⟩ := digits_2_2_16 w.version.toNat (b2n w.pad.isSome) (b2n w.ext.isSome) w.csrc.length
    (Nat.lt_succ_of_le (b2n_le _)) (Nat.lt_succ_of_le (b2n_le _)) (Nat.lt_succ_of_le hcc)
  obtain ⟨e_m, e_pt⟩ := div_mod_of_eq (m := 128) (rfl : b2n w.marker * 128 + w.pt.toNat = _) hpt
  have hb0 : (w.version.toNat * 64 + b2n w.pad.isSome * 32 + b2n w.ext.isSome * 16 + w.csrc.length).toUInt8.toNat =
      w.version.toNat * 64 + b2n w.pad.isSome * 32 + b2n w.ext.isSome * 16 + w.csrc.length :=
    toNat_toUInt8_of_lt (packed_2_2_16_lt hv (Nat.lt_succ_of_le (b2n_le _)) (Nat.lt_succ_of_le (b2n_le _))
      (Nat.lt_succ_of_le hcc))
  have hb1 : (b2n w.marker * 128 + w.pt.toNat).toUInt8.toNat = b2n w.marker * 128 + w.pt.toNat :=
    toNat_toUInt8_of_lt (packed_128_lt (Nat.lt_succ_of_le (b2n_le _)) hpt)
  simp only [Wire.encode, be16, be32, List.cons_append, List.nil_append, List.append_assoc, Wire.decode, hb0, hb1]
  simp only [e_cc, e_v, e_p, e_x, e_m, e_pt, b2n_beq, rd16_be16, rd32_be32, UInt8.ofNat_toNat, csrcs_eq, readCsrcs_flatten]
  have hlen : ¬ ((w.csrc.map be32).flatten ++ (encodeExt w.ext ++ (w.payload ++ encodePad w.pad))).length < 4 * w.csrc.length := by
    simp only [List.length_append, flatten_map_be32_length]; omega
  have hdrop : ((w.csrc.map be32).flatten ++ (encodeExt w.ext ++ (w.payload ++ encodePad w.pad))).drop (4 * w.csrc.length) =
      encodeExt w.ext ++ (w.payload ++ encodePad w.pad) := by
    rw [Nat.mul_comm]; exact drop_csrc_bytes _ _
  simp only [hlen, ↓reduceIte, hdrop, decode_ext w.ext _ hext, decode_pad w.pad w.payload hpad]
  rfl

theorem legacy_len (b : ExtBlock) (hw : b.WF = true) : ∀ p ws, b = .legacy p ws → ws.length % 4 = 0 := by
  intro p ws hb
  subst hb
  simp only [ExtBlock.WF, Bool.and_eq_true, beq_iff_eq] at hw
  exact hw.1.2

theorem normBlock_profile (b : ExtBlock) : (normBlock b).profile = b.profile := by
  cases b with
  | oneByte items stop => cases stop with
    | none => rfl
    | some st => obtain ⟨n, r⟩ := st; rfl
  | twoByte a items => rfl
  | legacy p ws => rfl

theorem normBlock_encode (b : ExtBlock) (hw : b.WF = true) : (normBlock b).encode = b.encode := by
  have hb := normBlock_body b (legacy_len b hw)
  obtain ⟨hm, _⟩ := padTo4_facts b.body.length
  have hl : (b.body ++ rep (padTo4 b.body.length) 0).length = b.body.length + padTo4 b.body.length := by simp [rep]
  have hp : padTo4 (b.body.length + padTo4 b.body.length) = 0 := by unfold padTo4 at hm ⊢; omega
  simp only [ExtBlock.encode, hb, normBlock_profile, hl, hp, Nat.add_zero, List.append_assoc]
  simp [rep]

theorem elems_padItems (items : List Item) (k : Nat) : elems (items ++ padItems k) = elems items := by
  induction items with
  | nil =>
    induction k with
    | zero => rfl
    | succ k ih => simpa [padItems, List.replicate_succ, elems] using ih
  | cons it r ih => cases it <;> simp [elems, ih]

theorem all_padItems (f : Item → Bool) (hf : f .pad = true) (items : List Item) (k : Nat) (h : items.all f = true) :
    (items ++ padItems k).all f = true := by
  simp only [List.all_append, h, Bool.true_and, padItems, List.all_replicate, hf]
  split <;> rfl

theorem normBlock_facts (b : ExtBlock) (hw : b.WF = true) :
    (normBlock b).WF = true ∧ (normBlock b).elements = b.elements ∧ (normBlock b).appbits = b.appbits ∧
    (normBlock b).ignored = b.ignored := by
  have hb := normBlock_body b (legacy_len b hw)
  have hle := body_le b hw
  obtain ⟨hm, hlt⟩ := padTo4_facts b.body.length
  have hlen : (normBlock b).body.length ≤ maxBody := by
    rw [hb]; simp only [List.length_append, rep, List.length_replicate, maxBody] at hle ⊢; omega
  have hp : padTo4 (normBlock b).body.length = 0 := by
    rw [hb]; simp only [List.length_append, rep, List.length_replicate]; unfold padTo4 at hm ⊢; omega
  cases b with
  | oneByte items stop =>
    simp only [ExtBlock.WF, Bool.and_eq_true] at hw
    cases stop with
    | none =>
      refine ⟨?_, by simp [normBlock, ExtBlock.elements, elems_padItems], rfl, rfl⟩
      simp only [normBlock, ExtBlock.WF, Bool.and_eq_true, decide_eq_true_eq, stopWF, and_true]
      exact ⟨all_padItems _ rfl _ _ hw.1.1, by simpa [normBlock, ExtBlock.body] using hlen⟩
    | some st =>
      obtain ⟨n, rest⟩ := st
      refine ⟨?_, rfl, rfl, ?_⟩
      · simp only [normBlock, ExtBlock.WF, Bool.and_eq_true, decide_eq_true_eq]
        exact ⟨⟨hw.1.1, hw.1.2⟩, by simpa [normBlock, ExtBlock.body] using hlen⟩
      · simp only [normBlock, ExtBlock.body] at hp
        simp only [normBlock, ExtBlock.ignored]
        rw [hp]
        simp only [List.length_append, rep, List.length_replicate, Nat.add_zero]
  | twoByte a items =>
    simp only [ExtBlock.WF, Bool.and_eq_true] at hw
    refine ⟨?_, by simp [normBlock, ExtBlock.elements, elems_padItems], rfl, rfl⟩
    simp only [normBlock, ExtBlock.WF, Bool.and_eq_true, decide_eq_true_eq]
    exact ⟨⟨by simpa using hw.1.1, all_padItems _ rfl _ _ hw.1.2⟩, by simpa [normBlock, ExtBlock.body] using hlen⟩
  | legacy p ws => exact ⟨hw, rfl, rfl, rfl⟩

/-- soundness of the block oracle is by construction -/
theorem describeBlock_sound (bytes : Bytes) (b : ExtBlock) (h : ExtBlock.describe bytes = some b) :
    b.WF = true ∧ b.encode = bytes := by
  simp only [ExtBlock.describe] at h
  split at h
  · split at h
    · rename_i hc
      cases h
      simpa using hc
    · cases h
  · cases h

end Rtp.Proofs.Wire
