/-
  Rtp/Proofs/CloneMem.lean — lemmas about the heap model of Clone (Rtp/Model/CloneMem.lean):
  reading is local (frame), allocation only appends, every copy made by Clone is fresh, and each of
  the five mutations changes memory only in cells its value reaches or allocates (`Confined`).
-/
import Rtp.Model.CloneMem
namespace Rtp.Proofs.CloneMem
open Rtp Rtp.Model Rtp.Model.Mem

/-- `H'` and `H` hold the same cell at every address of `as` -/
def Same (H H' : Heap) (as : List Nat) : Prop := ∀ a ∈ as, H'[a]? = H[a]?

theorem same_append {H H' : Heap} {as bs : List Nat} :
    Same H H' (as ++ bs) ↔ Same H H' as ∧ Same H H' bs := List.forall_mem_append

/-! ### frame: reading looks only at reachable cells -/

theorem frame_slice {H H' : Heap} (s : Sl) (h : Same H H' s.addrs) :
    readBytes H' s = readBytes H s ∧ readWords H' s = readWords H s ∧ readCells H' s = readCells H s := by
  cases s with
  | nil => exact ⟨rfl, rfl, rfl⟩
  | «at» a => simp only [readBytes, readWords, readCells, h a (List.mem_singleton.mpr rfl), and_self]

theorem frame_header {H H' : Heap} (h : HeaderM) (hs : Same H H' (reachHeader H h)) :
    readHeader H' h = readHeader H h ∧ readCells H' h.exts = readCells H h.exts := by
  unfold reachHeader at hs
  obtain ⟨h12, h3⟩ := same_append.mp hs
  obtain ⟨h1, h2⟩ := same_append.mp h12
  have hc := (frame_slice h.exts h2).2.2
  refine ⟨?_, hc⟩
  simp only [readHeader, readExts, (frame_slice h.csrc h1).2.1, hc]
  congr 1
  exact List.map_congr_left fun c hm => by
    rw [(frame_slice c.payload fun a ha => h3 a (List.mem_flatMap.mpr ⟨c, hm, ha⟩)).1]

theorem frame_packet {H H' : Heap} (p : PacketM) (hs : Same H H' (reachPacket H p)) :
    readPacket H' p = readPacket H p ∧ nilsOf H' p = nilsOf H p ∧ reachPacket H' p = reachPacket H p := by
  unfold reachPacket at hs
  obtain ⟨h1, h2⟩ := same_append.mp hs
  obtain ⟨hh, hc⟩ := frame_header p.header h1
  refine ⟨?_, ?_, ?_⟩
  · simp only [readPacket, hh, (frame_slice p.payload h2).1]
  · simp only [nilsOf, hc]
  · simp only [reachPacket, reachHeader, hc]

/-! ### allocation only appends: what lies below `H.length` reads the same in `H ++ X` -/

theorem get_lt {H : Heap} {a : Nat} {c : Cell} (h : H[a]? = some c) : a < H.length := by
  rcases Nat.lt_or_ge a H.length with hl | hl
  · exact hl
  · rw [List.getElem?_eq_none hl] at h; cases h

theorem get_ext {H : Heap} (X : Heap) {a : Nat} {c : Cell} (h : H[a]? = some c) : (H ++ X)[a]? = some c := by
  rw [List.getElem?_append_left (get_lt h)]; exact h

theorem same_ext (H X : Heap) (as : List Nat) (h : ∀ a ∈ as, a < H.length) : Same H (H ++ X) as :=
  fun a ha => List.getElem?_append_left (h a ha)

theorem readBytes_append {H : Heap} (X : Heap) {s : Sl} (h : ∀ a ∈ s.addrs, a < H.length) :
    readBytes (H ++ X) s = readBytes H s := (frame_slice s (same_ext H X _ h)).1

theorem readPacket_append {H : Heap} (X : Heap) {p : PacketM} (hl : ∀ a ∈ reachPacket H p, a < H.length) :
    readPacket (H ++ X) p = readPacket H p ∧ nilsOf (H ++ X) p = nilsOf H p ∧
      reachPacket (H ++ X) p = reachPacket H p :=
  frame_packet p (same_ext H X _ hl)

/-! ### well-typed values reach only allocated cells -/

theorem okBytes_lt {H : Heap} {s : Sl} (h : okBytes H s) : ∀ a ∈ s.addrs, a < H.length := by
  cases s with
  | nil => intro a ha; cases ha
  | «at» b => obtain ⟨_, hb⟩ := h; intro a ha; cases List.mem_singleton.mp ha; exact get_lt hb

theorem okWords_lt {H : Heap} {s : Sl} (h : okWords H s) : ∀ a ∈ s.addrs, a < H.length := by
  cases s with
  | nil => intro a ha; cases ha
  | «at» b => obtain ⟨_, hb⟩ := h; intro a ha; cases List.mem_singleton.mp ha; exact get_lt hb

theorem okExts_lt {H : Heap} {s : Sl} (h : okExts H s) :
    ∀ a ∈ s.addrs ++ (readCells H s).flatMap (·.payload.addrs), a < H.length := by
  cases s with
  | nil => intro a ha; cases ha
  | «at» b =>
    obtain ⟨cs, hb, hcs⟩ := h
    intro a ha
    simp only [Sl.addrs, readCells, hb, List.cons_append, List.nil_append, List.mem_cons, List.mem_flatMap] at ha
    rcases ha with rfl | ⟨c, hc, hac⟩
    · exact get_lt hb
    · exact okBytes_lt (hcs c hc) a hac

theorem okHeader_lt {H : Heap} {h : HeaderM} (hok : okHeader H h) : ∀ a ∈ reachHeader H h, a < H.length := by
  intro a ha
  simp only [reachHeader, List.append_assoc, List.mem_append] at ha
  rcases ha with ha | ha
  · exact okWords_lt hok.1 a ha
  · exact okExts_lt hok.2 a (List.mem_append.mpr ha)

theorem okPacket_lt {H : Heap} {p : PacketM} (hok : okPacket H p) : ∀ a ∈ reachPacket H p, a < H.length := by
  intro a ha
  rcases List.mem_append.mp ha with ha | ha
  · exact okHeader_lt hok.1 a ha
  · exact okBytes_lt hok.2 a ha

theorem okBytes_ext {H : Heap} (X : Heap) {s : Sl} (h : okBytes H s) : okBytes (H ++ X) s := by
  cases s with
  | nil => trivial
  | «at» b => obtain ⟨v, hb⟩ := h; exact ⟨v, get_ext X hb⟩

/-! ### the copies Clone makes

  Each clone function returns `H ++ X` and a value that reads as the original, is nil where the
  original is, and lives at new addresses only.  A new address lies below the length of the heap
  that holds it, so an earlier copy still reads the same after the later allocations. -/

/-- every address in `as` was allocated on the way from `H` to `H'` -/
def New (H H' : Heap) (as : List Nat) : Prop := ∀ a ∈ as, H.length ≤ a ∧ a < H'.length

theorem New.lt {H H' : Heap} {as : List Nat} (h : New H H' as) : ∀ a ∈ as, a < H'.length :=
  fun a ha => (h a ha).2

theorem New.mono_right {H H' : Heap} {as : List Nat} (h : New H H' as) (Z : Heap) : New H (H' ++ Z) as :=
  fun a ha => ⟨(h a ha).1, by rw [List.length_append]; exact Nat.lt_add_right _ (h a ha).2⟩

theorem New.of_append_left {H X H' : Heap} {as : List Nat} (h : New (H ++ X) H' as) : New H H' as :=
  fun a ha => ⟨Nat.le_trans (by rw [List.length_append]; exact Nat.le_add_right _ _) (h a ha).1, (h a ha).2⟩

theorem New.append {H H' : Heap} {as bs : List Nat} (h1 : New H H' as) (h2 : New H H' bs) :
    New H H' (as ++ bs) := fun a ha => (List.mem_append.mp ha).elim (h1 a) (h2 a)

theorem new_at (H : Heap) (c : Cell) : New H (H ++ [c]) (Sl.at H.length).addrs := by
  intro a ha
  cases List.mem_singleton.mp ha
  exact ⟨Nat.le_refl _, by simp⟩

theorem cloneBytes_spec (H : Heap) (s : Sl) : ∃ X s', cloneBytes H s = (H ++ X, s') ∧
    readBytes (H ++ X) s' = readBytes H s ∧ s'.isNil = s.isNil ∧ New H (H ++ X) s'.addrs := by
  cases s with
  | nil => exact ⟨[], .nil, by rw [List.append_nil]; rfl, by rw [List.append_nil], rfl, fun a ha => by cases ha⟩
  | «at» b =>
    refine ⟨[.bytes (readBytes H (.at b))], .at H.length, rfl, ?_, rfl, ?_⟩
    · simp only [readBytes, List.getElem?_concat_length]
    · exact new_at H _

theorem cloneWords_spec (H : Heap) (s : Sl) : ∃ X s', cloneWords H s = (H ++ X, s') ∧
    readWords (H ++ X) s' = readWords H s ∧ s'.isNil = s.isNil ∧ New H (H ++ X) s'.addrs := by
  cases s with
  | nil => exact ⟨[], .nil, by rw [List.append_nil]; rfl, by rw [List.append_nil], rfl, fun a ha => by cases ha⟩
  | «at» b =>
    refine ⟨[.words (readWords H (.at b))], .at H.length, rfl, ?_, rfl, ?_⟩
    · simp only [readWords, List.getElem?_concat_length]
    · exact new_at H _

/-- the element loop: ids unchanged, payloads copied into new cells -/
theorem cloneCells_spec (H : Heap) (cs : List ExtCell) (hok : ∀ c ∈ cs, okBytes H c.payload) :
    ∃ X cs', cloneCells H cs = (H ++ X, cs') ∧
      (cs'.map fun c => ({ id := c.id, payload := readBytes (H ++ X) c.payload } : Ext)) =
        (cs.map fun c => ({ id := c.id, payload := readBytes H c.payload } : Ext)) ∧
      cs'.map (·.payload.isNil) = cs.map (·.payload.isNil) ∧
      New H (H ++ X) (cs'.flatMap (·.payload.addrs)) := by
  induction cs generalizing H with
  | nil => exact ⟨[], [], by rw [List.append_nil]; rfl, rfl, rfl, fun a ha => by cases ha⟩
  | cons c cs ih =>
    obtain ⟨X1, s1, e1, r1, n1, f1⟩ := cloneBytes_spec H c.payload
    obtain ⟨X2, cs2, e2, r2, n2, f2⟩ :=
      ih (H ++ X1) fun c' hc' => okBytes_ext X1 (hok c' (List.mem_cons_of_mem _ hc'))
    refine ⟨X1 ++ X2, { c with payload := s1 } :: cs2, ?_, ?_, ?_, ?_⟩
    · simp only [cloneCells, e1, e2, List.append_assoc]
    · rw [← List.append_assoc, List.map_cons, List.map_cons, r2, readBytes_append X2 f1.lt, r1]
      congr 1
      exact List.map_congr_left fun c' hc' => by
        rw [readBytes_append X1 (okBytes_lt (hok c' (List.mem_cons_of_mem _ hc')))]
    · simp only [List.map_cons, n1, n2]
    · rw [← List.append_assoc, List.flatMap_cons]
      exact (f1.mono_right X2).append f2.of_append_left

structure CopyHeader (H : Heap) (h : HeaderM) (H' : Heap) (h' : HeaderM) : Prop where
  read : readHeader H' h' = readHeader H h
  nilCsrc : h'.csrc.isNil = h.csrc.isNil
  nilExts : h'.exts.isNil = h.exts.isNil
  nilPl : (readCells H' h'.exts).map (·.payload.isNil) = (readCells H h.exts).map (·.payload.isNil)
  fresh : New H H' (reachHeader H' h')

theorem hdrCloneM_spec (H : Heap) (h : HeaderM) (hok : okHeader H h) :
    ∃ X h', hdrCloneM H h = (H ++ X, h') ∧ CopyHeader H h (H ++ X) h' := by
  obtain ⟨X1, s1, e1, r1, n1, f1⟩ := cloneWords_spec H h.csrc
  cases hE : h.exts with
  | nil =>
    refine ⟨X1, { h with csrc := s1 }, by simp only [hdrCloneM, hE, e1], ?_, n1, by rw [hE], by rw [hE]; rfl, ?_⟩
    · simp only [readHeader, r1, hE, readExts, readCells, List.map_nil]
    · intro a ha
      simp only [reachHeader, hE, Sl.addrs, readCells, List.flatMap_nil, List.append_nil] at ha
      exact f1 a ha
  | «at» b =>
    obtain ⟨cs, hb, hcs⟩ : okExts H (.at b) := hE ▸ hok.2
    have hcells : readCells H (.at b) = cs := by simp only [readCells, hb]
    have hcells1 : readCells (H ++ X1) (.at b) = cs := by simp only [readCells, get_ext X1 hb]
    obtain ⟨X2, cs2, e2, r2, n2, f2⟩ := cloneCells_spec (H ++ X1) cs fun c hc => okBytes_ext X1 (hcs c hc)
    -- three allocations in a row: CSRC, element payloads, the element array itself
    have hnew : readCells (H ++ X1 ++ X2 ++ [.exts cs2]) (.at (H ++ X1 ++ X2).length) = cs2 := by
      simp only [readCells, List.getElem?_concat_length]
    have hH : H ++ (X1 ++ X2 ++ [.exts cs2]) = H ++ X1 ++ X2 ++ [.exts cs2] := by simp only [List.append_assoc]
    refine ⟨X1 ++ X2 ++ [.exts cs2], { h with csrc := s1, exts := .at (H ++ X1 ++ X2).length }, ?_, ?_⟩
    · simp only [hdrCloneM, hE, e1, hcells1, e2, hH]
    rw [hH]
    refine ⟨?_, n1, by rw [hE]; rfl, ?_, ?_⟩
    · simp only [readHeader, readExts, hnew, hE, hcells]
      rw [List.map_congr_left fun c hc => by
            rw [readBytes_append [Cell.exts cs2] fun a ha => f2.lt a (List.mem_flatMap.mpr ⟨c, hc, ha⟩)],
        r2, List.map_congr_left fun c hc => by rw [readBytes_append X1 (okBytes_lt (hcs c hc))],
        List.append_assoc (H ++ X1), (frame_slice s1 (same_ext _ _ _ f1.lt)).2.1, r1]
    · show (readCells (H ++ X1 ++ X2 ++ [.exts cs2]) (.at (H ++ X1 ++ X2).length)).map _ = _
      rw [hnew, hE, hcells, n2]
    · have hre : reachHeader (H ++ X1 ++ X2 ++ [.exts cs2])
            { h with csrc := s1, exts := .at (H ++ X1 ++ X2).length } =
          s1.addrs ++ [(H ++ X1 ++ X2).length] ++ cs2.flatMap (·.payload.addrs) := by
        simp only [reachHeader, hnew]; rfl
      rw [hre]
      exact (((f1.mono_right X2).mono_right _).append (new_at _ _).of_append_left.of_append_left).append
        (f2.of_append_left.mono_right _)

structure CopyPacket (H : Heap) (p : PacketM) (H' : Heap) (p' : PacketM) : Prop where
  read : readPacket H' p' = readPacket H p
  nils : nilsOf H' p' = nilsOf H p
  fresh : New H H' (reachPacket H' p')

theorem pktCloneM_spec (H : Heap) (p : PacketM) (hok : okPacket H p) :
    ∃ X p', pktCloneM H p = (H ++ X, p') ∧ CopyPacket H p (H ++ X) p' := by
  obtain ⟨X1, h1, e1, c1⟩ := hdrCloneM_spec H p.header hok.1
  obtain ⟨X2, s2, e2, r2, n2, f2⟩ := cloneBytes_spec (H ++ X1) p.payload
  -- the cloned header is not disturbed by the payload's allocation
  obtain ⟨hh, hc⟩ := frame_header h1 (same_ext _ X2 _ c1.fresh.lt)
  refine ⟨X1 ++ X2, ⟨h1, s2, p.paddingSize⟩, by simp only [pktCloneM, e1, e2, List.append_assoc], ?_⟩
  rw [← List.append_assoc]
  refine ⟨?_, ?_, ?_⟩
  · simp only [readPacket, hh, c1.read, r2, readBytes_append X1 (okBytes_lt hok.2)]
  · simp only [nilsOf, hc, c1.nilCsrc, c1.nilExts, c1.nilPl, n2]
  · simp only [reachPacket, reachHeader, hc]
    exact (c1.fresh.mono_right X2).append f2.of_append_left

/-- a later heap `H''` differs from `H'` only inside `R` or beyond `H'` -/
def Confined (H' : Heap) (R : List Nat) (H'' : Heap) : Prop :=
  ∀ b, b < H'.length → b ∉ R → H''[b]? = H'[b]?

theorem Confined.refl (H' : Heap) (R : List Nat) : Confined H' R H' := fun _ _ _ => rfl

theorem Confined.set {H' H1 : Heap} {R : List Nat} (h : Confined H' R H1) (a : Nat) (c : Cell)
    (ha : a ∈ R ∨ H'.length ≤ a) : Confined H' R (H1.set a c) := by
  intro b hb hR
  rw [List.getElem?_set_ne (by rcases ha with ha | ha <;> intro e <;> subst e <;> first | exact hR ha | omega)]
  exact h b hb hR

theorem Confined.alloc {H' H1 : Heap} {R : List Nat} (h : Confined H' R H1) (hl : H'.length ≤ H1.length)
    (X : Heap) : Confined H' R (H1 ++ X) := by
  intro b hb hR
  rw [List.getElem?_append_left (by omega)]
  exact h b hb hR

theorem mem_reach_payload {H : Heap} {x : PacketM} {a : Nat} (h : x.payload = .at a) : a ∈ reachPacket H x :=
  List.mem_append_right _ (by rw [h]; exact List.mem_singleton.mpr rfl)

theorem mem_reach_csrc {H : Heap} {x : PacketM} {a : Nat} (h : x.header.csrc = .at a) : a ∈ reachPacket H x :=
  List.mem_append_left _ (List.mem_append_left _ (List.mem_append_left _ (by rw [h]; exact List.mem_singleton.mpr rfl)))

theorem mem_reach_exts {H : Heap} {x : PacketM} {a : Nat} (h : x.header.exts = .at a) : a ∈ reachPacket H x :=
  List.mem_append_left _ (List.mem_append_left _ (List.mem_append_right _ (by rw [h]; exact List.mem_singleton.mpr rfl)))

theorem mem_reach_extPayload {H : Heap} {x : PacketM} {c : ExtCell} {a : Nat}
    (hc : c ∈ readCells H x.header.exts) (h : c.payload = .at a) : a ∈ reachPacket H x :=
  List.mem_append_left _ (List.mem_append_right _
    (List.mem_flatMap.mpr ⟨c, hc, by rw [h]; exact List.mem_singleton.mpr rfl⟩))

/-- every one of the five mutations, applied to a value `x`, changes memory only in cells `x`
    reaches or in cells allocated afterwards: each is a store into an array `x` reaches, or an
    allocation, or an allocation followed by such a store -/
theorem applyMutM_confined (H' : Heap) (x : PacketM) (m : MutM) :
    Confined H' (reachPacket H' x) (applyMutM H' x m).1 := by
  cases m with
  | payloadByte i =>
    simp only [applyMutM]
    cases hp : x.payload with
    | nil => exact Confined.refl _ _
    | «at» a => exact (Confined.refl _ _).set a _ (Or.inl (mem_reach_payload hp))
  | csrcEntry i =>
    simp only [applyMutM]
    cases hp : x.header.csrc with
    | nil => exact Confined.refl _ _
    | «at» a => exact (Confined.refl _ _).set a _ (Or.inl (mem_reach_csrc hp))
  | extByte j i =>
    cases hc : (readCells H' x.header.exts)[j]? with
    | none => simp only [applyMutM, hc]; exact Confined.refl _ _
    | some c =>
      cases hp : c.payload with
      | nil => simp only [applyMutM, hc, hp]; exact Confined.refl _ _
      | «at» a =>
        simp only [applyMutM, hc, hp]
        exact (Confined.refl _ _).set a _ (Or.inl (mem_reach_extPayload (List.mem_of_getElem? hc) hp))
  | delExt id =>
    simp only [applyMutM]
    cases hp : x.header.exts with
    | nil => exact Confined.refl _ _
    | «at» a => exact (Confined.refl _ _).set a _ (Or.inl (mem_reach_exts hp))
  | setExt id pl =>
    simp only [applyMutM]
    cases hp : x.header.exts with
    | nil => exact ((Confined.refl _ _).alloc (Nat.le_refl _) _).alloc (by simp) _
    | «at» a =>
      simp only
      split
      · exact ((Confined.refl _ _).alloc (Nat.le_refl _) _).set a _ (Or.inl (mem_reach_exts hp))
      · exact ((Confined.refl _ _).alloc (Nat.le_refl _) _).alloc (by simp) _

end Rtp.Proofs.CloneMem
