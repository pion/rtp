/-
  Rtp/Proofs/VP9.lean — lemmas about VP9Packet.Unmarshal: octet-level facts, what each of its parse
  steps consumes (including the three loops), the decoder / truncation lemmas behind C12 and the
  reuse / no-panic lemmas behind C09.
-/
import Rtp.Pred.C12
import Rtp.Proofs.VpxCommon
namespace Rtp.Proofs.VP9
open Rtp Rtp.Model Rtp.Bits Rtp.Pred Rtp.Proofs.Vpx
open Rtp.Spec.Vp9Rtp

/-! Octet facts: `…P` is the table of what the decoder extracts from an octet, `…_fin` its check by the
    kernel over `Bool`/`Fin n`, `…_fields` the lift to octets below the bounds by nested `forall_u8_lt`
    (the binders of a `…_fin` come in the order in which that nesting peels them off).  The reserved
    bits `m` are unconstrained: the decoder ignores them. -/

theorem octet0_flags : ∀ (i p l f b e v z : Bool),
    let o : UInt8 := bit i 0x80 ||| bit p 0x40 ||| bit l 0x20 ||| bit f 0x10 ||| bit b 0x08 |||
      bit e 0x04 ||| bit v 0x02 ||| bit z 0x01
    ((o &&& 0x80) != 0) = i ∧ ((o &&& 0x40) != 0) = p ∧ ((o &&& 0x20) != 0) = l ∧
    ((o &&& 0x10) != 0) = f ∧ ((o &&& 0x08) != 0) = b ∧ ((o &&& 0x04) != 0) = e ∧
    ((o &&& 0x02) != 0) = v ∧ ((o &&& 0x01) != 0) = z := by
  decide +kernel

abbrev LayerP (tid : UInt8) (u : Bool) (sid : UInt8) (d : Bool) : Prop :=
  let o : UInt8 := (tid <<< 5) ||| bit u 0x10 ||| (sid <<< 1) ||| bit d 0x01
  o >>> 5 = tid ∧ ((o &&& 0x10) != 0) = u ∧ (o >>> 1) &&& 0x7 = sid ∧ ((o &&& 0x01) != 0) = d

theorem layer_fin : ∀ (u d : Bool) (sid : Fin 8) (tid : Fin 8),
    LayerP (UInt8.ofNat tid.val) u (UInt8.ofNat sid.val) d := by
  decide +kernel

theorem layer_fields (tid : UInt8) (u : Bool) (sid : UInt8) (d : Bool) (ht : tid < 8) (hs : sid < 8) :
    LayerP tid u sid d := by
  refine forall_u8_lt 8 (fun sid => LayerP tid u sid d) (fun sid => ?_) sid (UInt8.lt_iff_toNat_lt.mp hs)
  exact forall_u8_lt 8 (fun tid => LayerP tid u _ d) (layer_fin u d sid) tid (UInt8.lt_iff_toNat_lt.mp ht)

/-- conjuncts 1-2: the last P_DIFF (N = 0); 3-4: one that is followed by another (N = 1) -/
abbrev PDiffP (v : UInt8) : Prop :=
  (v <<< 1) >>> 1 = v ∧ ((v <<< 1) &&& 0x01 == 0) = true ∧
  ((v <<< 1) ||| 0x01) >>> 1 = v ∧ (((v <<< 1) ||| 0x01) &&& 0x01 == 0) = false

theorem pdiff_fin : ∀ v : Fin 128, PDiffP (UInt8.ofNat v.val) := by decide +kernel

theorem pdiff_fields (v : UInt8) (hv : v < 128) : PDiffP v :=
  forall_u8_lt 128 PDiffP pdiff_fin v (UInt8.lt_iff_toNat_lt.mp hv)

abbrev SSP (ns : UInt8) (y g : Bool) (m : UInt8) : Prop :=
  let o : UInt8 := (ns <<< 5) ||| bit y 0x10 ||| bit g 0x08 ||| m
  o >>> 5 = ns ∧ ((o &&& 0x10) != 0) = y ∧ ((o &&& 0x8) != 0) = g

theorem ss_fin : ∀ (y g : Bool) (m : Fin 8) (ns : Fin 8),
    SSP (UInt8.ofNat ns.val) y g (UInt8.ofNat m.val) := by
  decide +kernel

theorem ss_fields (ns : UInt8) (y g : Bool) (m : UInt8) (hn : ns < 8) (hm : m.toNat < 8) :
    SSP ns y g m := by
  refine forall_u8_lt 8 (fun m => SSP ns y g m) (fun m => ?_) m hm
  exact forall_u8_lt 8 (fun ns => SSP ns y g _) (ss_fin y g m) ns (UInt8.lt_iff_toNat_lt.mp hn)

abbrev PGP (tid : UInt8) (u : Bool) (r m : UInt8) : Prop :=
  let o : UInt8 := (tid <<< 5) ||| bit u 0x10 ||| (r <<< 2) ||| m
  o >>> 5 = tid ∧ ((o &&& 0x10) != 0) = u ∧ (o >>> 2) &&& 0x3 = r

theorem pg_fin : ∀ (u : Bool) (r m : Fin 4) (tid : Fin 8),
    PGP (UInt8.ofNat tid.val) u (UInt8.ofNat r.val) (UInt8.ofNat m.val) := by
  decide +kernel

theorem pg_fields (tid : UInt8) (u : Bool) (r m : UInt8) (ht : tid < 8) (hr : r.toNat < 4) (hm : m.toNat < 4) :
    PGP tid u r m := by
  refine forall_u8_lt 4 (fun m => PGP tid u r m) (fun m => ?_) m hm
  refine forall_u8_lt 4 (fun r => PGP tid u r _) (fun r => ?_) r hr
  exact forall_u8_lt 8 (fun tid => PGP tid u _ _) (pg_fin u r m) tid (UInt8.lt_iff_toNat_lt.mp ht)

/-! `VP9Step.andThen` is `seq`, so the two calculi of VpxCommon apply to the model's chains of steps.
    The `stable_*` terms follow the text of their steps (`Stable.ite`, `Stable.of_cons`, … of VpxCommon).  The
    one real step is in `stable_pgOne`: the R reference octets are still there after the extension. -/

theorem andThen_eq (f g : VP9Step) : f.andThen g = seq f g := by
  funext p rest
  unfold VP9Step.andThen seq
  cases f p rest with
  | mk o q => cases o <;> rfl

theorem Exact.andThen {f g : VP9Step} {p p' p'' : VP9Packet} {a b : Bytes}
    (hf : Exact f p a p') (hg : Exact g p' b p'') : Exact (f.andThen g) p (a ++ b) p'' :=
  andThen_eq f g ▸ Exact.seq hf hg

theorem Stable.andThen {f g : VP9Step} (hf : Stable f) (hg : Stable g) : Stable (f.andThen g) :=
  andThen_eq f g ▸ Stable.seq hf hg

theorem Stable.skip : Stable VP9Step.skip := Stable.const

theorem Stable.when {c : VP9Packet → Bool} {f : VP9Step} (hf : Stable f) : Stable (VP9Step.when c f) :=
  Stable.ite hf Stable.const

theorem Exact.skip (p : VP9Packet) : Exact VP9Step.skip p [] p := fun _ => rfl

theorem Exact.when_true {c : VP9Packet → Bool} {f : VP9Step} {p p' : VP9Packet} {a : Bytes}
    (h : c p = true) (hf : Exact f p a p') : Exact (VP9Step.when c f) p a p' := by
  intro t; simp only [VP9Step.when, h, if_true]; exact hf t

theorem Exact.when_false {c : VP9Packet → Bool} {f : VP9Step} {p : VP9Packet}
    (h : c p = false) : Exact (VP9Step.when c f) p [] p := by
  intro t; simp [VP9Step.when, h]

theorem stable_pic : Stable vp9ParsePictureID :=
  Stable.of_cons (fun _ => rfl) fun _ _ =>
    Stable.ite (Stable.of_cons (fun _ => rfl) fun _ _ => Stable.const) Stable.const

theorem stable_layer : Stable vp9ParseLayerInfo :=
  Stable.of_cons (fun _ => rfl) fun _ _ =>
    Stable.ite Stable.fail (Stable.ite Stable.const (Stable.of_cons (fun _ => rfl) fun _ _ => Stable.const))

theorem stable_refs : Stable vp9ParseRefIndices := by
  intro p x y
  induction x generalizing p with
  | nil => intro r p' h; unfold vp9ParseRefIndices at h; cases h
  | cons b x' ih =>
    intro r p' h
    unfold vp9ParseRefIndices at h
    rw [List.cons_append]
    unfold vp9ParseRefIndices
    dsimp only at h ⊢
    cases hb : (b &&& 0x01 == 0)
    · by_cases hl : (p.PDiff ++ [b >>> 1]).length ≥ 3
      · simp only [hb, hl, Bool.false_eq_true, if_true, if_false] at h; cases h
      · simp only [hb, hl, Bool.false_eq_true, if_false] at h ⊢; exact ih _ r p' h
    · simp only [hb, if_true] at h ⊢; cases h; rfl

theorem stable_resOne (i : Nat) : Stable (vp9ResOne i) :=
  Stable.of_cons (fun _ => rfl) fun _ _ => Stable.of_cons (fun _ => rfl) fun _ _ =>
    Stable.of_cons (fun _ => rfl) fun _ _ => Stable.of_cons (fun _ => rfl) fun _ _ => Stable.const

theorem stable_res : ∀ k i, Stable (vp9ParseRes k i)
  | 0, _ => Stable.skip
  | k + 1, i => Stable.andThen (stable_resOne i) (stable_res k (i + 1))

theorem stable_pgOne : Stable vp9PGOne := by
  intro p x y r p' h
  unfold vp9PGOne at h ⊢
  cases x with
  | nil => cases h
  | cons b x' =>
    dsimp only at h ⊢
    by_cases hl : x'.length < ((b >>> 2) &&& 0x3).toNat
    · rw [if_pos hl] at h; cases h
    · rw [if_neg hl] at h; cases h
      have hl' : ¬ (x' ++ y).length < ((b >>> 2) &&& 0x3).toNat := by
        rw [List.length_append]; omega
      rw [List.cons_append]
      simp only [hl', if_false, List.drop_append_of_le_length (Nat.le_of_not_lt hl),
        List.take_append_of_le_length (Nat.le_of_not_lt hl)]

theorem stable_pgs : ∀ k, Stable (vp9ParsePG k)
  | 0 => Stable.skip
  | k + 1 => Stable.andThen stable_pgOne (stable_pgs k)

theorem stable_ss : Stable vp9ParseSSData :=
  Stable.andThen (Stable.of_cons (fun _ => rfl) fun _ _ => Stable.const)
    (Stable.andThen (Stable.ite (fun _ => stable_res _ _ _) Stable.const)
      (Stable.andThen (Stable.ite (Stable.of_cons (fun _ => rfl) fun _ _ => Stable.const) Stable.const)
        (fun p => stable_pgs _ p)))

/-- what `vp9Unmarshal` runs after the flag octet: the same term as in Model/VP9.lean (`unmarshal_flags`
    ends in a `rfl` against it) -/
abbrev steps : VP9Step :=
  (VP9Step.when (·.I) vp9ParsePictureID).andThen
    ((VP9Step.when (·.L) vp9ParseLayerInfo).andThen
      ((VP9Step.when (fun p => p.F && p.P) vp9ParseRefIndices).andThen (VP9Step.when (·.V) vp9ParseSSData)))

theorem steps_stable : Stable steps :=
  Stable.andThen (Stable.when stable_pic) (Stable.andThen (Stable.when stable_layer)
    (Stable.andThen (Stable.when stable_refs) (Stable.when stable_ss)))

theorem exact_pic (p : VP9Packet) (m : Bool) (v : UInt16) (hwf : PicWF (some (m, v))) :
    Exact vp9ParsePictureID p (encPicId (some (m, v))) { p with PictureID := v } := by
  intro t
  cases m
  · have hp := pic7 v hwf
    simp [vp9ParsePictureID, encPicId, hp.1, hp.2.1, hp.2.2.1]
  · have hp := pic15 v hwf
    have h2 := hp.2
    simp at h2
    simp [vp9ParsePictureID, encPicId, hp.1, h2]

theorem exact_layer (p : VP9Packet) (l : Layer) (ht : l.tid < 8) (hs : l.sid < 5) :
    Exact vp9ParseLayerInfo p (encLayer p.F (some l))
      { p with TID := l.tid, U := l.u, SID := l.sid, D := l.d,
               TL0PICIDX := if p.F then p.TL0PICIDX else l.tl0 } := by
  have hs8 : l.sid < 8 := by
    rw [UInt8.lt_iff_toNat_lt] at hs ⊢
    simp only [UInt8.reduceToNat] at hs ⊢
    omega
  have hf := layer_fields l.tid l.u l.sid l.d ht hs8
  have hs5 : ¬ (l.sid ≥ 5) := by
    rw [UInt8.lt_iff_toNat_lt] at hs
    rw [ge_iff_le, UInt8.le_iff_toNat_le]
    omega
  intro t
  cases hF : p.F <;>
    simp [vp9ParseLayerInfo, encLayer, hf.1, hf.2.1, hf.2.2.1, hf.2.2.2, hs5, hF]

theorem encPDiffs_cons2 (v v' : UInt8) (vs : List UInt8) :
    encPDiffs (v :: v' :: vs) = ((v <<< 1) ||| 0x01) :: encPDiffs (v' :: vs) := by
  simp [encPDiffs]

/-- `≤ 3` is `maxVP9RefPics` (one more and the parser returns errTooManyPDiff); general in `p.PDiff`, which is
    `[]` where the lemma is used, for the induction -/
theorem exact_refs : ∀ (pds : List UInt8) (p : VP9Packet), pds ≠ [] →
    p.PDiff.length + pds.length ≤ 3 → (∀ v ∈ pds, v < 128) →
    Exact vp9ParseRefIndices p (encPDiffs pds) { p with PDiff := p.PDiff ++ pds } := by
  intro pds
  induction pds with
  | nil => intro p h; exact absurd rfl h
  | cons v vs ih =>
    intro p _ hlen hlt t
    have hv := pdiff_fields v (hlt v List.mem_cons_self)
    cases vs with
    | nil =>
      simp only [encPDiffs, List.cons_append, List.nil_append, vp9ParseRefIndices, hv.1, hv.2.1, if_true]
    | cons v' vs' =>
      have hlen' : ¬ ((p.PDiff ++ [v]).length ≥ 3) := by
        simp only [List.length_append, List.length_cons, List.length_nil] at hlen ⊢
        omega
      have ih' := ih { p with PDiff := p.PDiff ++ [v] } (by simp)
        (by simp only [List.length_append, List.length_cons, List.length_nil] at hlen ⊢; omega)
        (fun x hx => hlt x (List.mem_cons_of_mem _ hx)) t
      rw [encPDiffs_cons2]
      simp only [List.cons_append, vp9ParseRefIndices, hv.2.2.1, hv.2.2.2, Bool.false_eq_true, if_false,
        hlen', ih']
      simp

theorem exact_resOne (p : VP9Packet) (i : Nat) (w h : UInt16) :
    Exact (vp9ResOne i) p [(w >>> 8).toUInt8, w.toUInt8, (h >>> 8).toUInt8, h.toUInt8]
      { p with Width := p.Width.set i w, Height := p.Height.set i h } := by
  intro t
  simp only [vp9ResOne, List.cons_append, List.nil_append, join16]

theorem set_mid (dw : List UInt16) (n : Nat) (w : UInt16) :
    (dw ++ List.replicate (n + 1) 0).set dw.length w = (dw ++ [w]) ++ List.replicate n 0 := by
  rw [List.set_append]
  simp [List.replicate_succ]

/-- the resolution loop fills the zero-initialised slots one after the other -/
theorem exact_res : ∀ (l : List (UInt16 × UInt16)) (p : VP9Packet) (dw dh : List UInt16),
    dw.length = dh.length →
    p.Width = dw ++ List.replicate l.length 0 → p.Height = dh ++ List.replicate l.length 0 →
    Exact (vp9ParseRes l.length dw.length) p (encRes l)
      { p with Width := dw ++ l.map (·.1), Height := dh ++ l.map (·.2) } := by
  intro l
  induction l with
  | nil =>
    intro p dw dh _ hw hh
    simp only [List.length_nil, List.replicate_zero, List.append_nil] at hw hh
    have : ({ p with Width := dw ++ ([] : List (UInt16 × UInt16)).map (·.1),
                     Height := dh ++ ([] : List (UInt16 × UInt16)).map (·.2) } : VP9Packet) = p := by
      cases p; simp_all
    rw [this]
    exact Exact.skip p
  | cons wh l ih =>
    intro p dw dh hlen hw hh
    obtain ⟨w, h⟩ := wh
    have h1 := exact_resOne p dw.length w h
    have hw' : p.Width.set dw.length w = (dw ++ [w]) ++ List.replicate l.length 0 := by
      rw [hw]; exact set_mid dw l.length w
    have hh' : p.Height.set dw.length h = (dh ++ [h]) ++ List.replicate l.length 0 := by
      rw [hh, hlen]; exact set_mid dh l.length h
    have h2 := ih { p with Width := p.Width.set dw.length w, Height := p.Height.set dw.length h }
      (dw ++ [w]) (dh ++ [h]) (by simp [hlen]) hw' hh'
    have := Exact.andThen h1 h2
    simp only [List.length_append, List.length_cons, List.length_nil, Nat.zero_add] at this
    simp only [List.length_cons, vp9ParseRes, encRes, List.map_cons]
    have e : ∀ (a b c d : UInt8) (r : Bytes), a :: b :: c :: d :: r = [a, b, c, d] ++ r := by
      intros; rfl
    rw [e]
    simpa [List.append_assoc] using this

def PGWF (g : PG) : Prop := g.tid < 8 ∧ g.pdiffs.length ≤ 3

theorem exact_pgOne (p : VP9Packet) (g : PG) (hg : PGWF g) :
    Exact vp9PGOne p (encPG g)
      { p with PGTID := p.PGTID ++ [g.tid], PGU := p.PGU ++ [g.u], PGPDiff := p.PGPDiff ++ [g.pdiffs] } := by
  have hlen : (g.pdiffs.length.toUInt8).toNat = g.pdiffs.length :=
    toNat_toUInt8_of_lt (Nat.lt_of_le_of_lt hg.2 (by decide))
  have hr : (g.pdiffs.length.toUInt8).toNat < 4 := by rw [hlen]; exact Nat.lt_succ_of_le hg.2
  have hf := pg_fields g.tid g.u g.pdiffs.length.toUInt8 (g.ign &&& 0x03) hg.1 hr
    (Nat.lt_succ_of_le (u8_and_le g.ign 0x03))
  intro t
  simp only [vp9PGOne, encPG, List.cons_append, hf.1, hf.2.1, hf.2.2, hlen]
  simp

theorem exact_pgs : ∀ (gs : List PG) (p : VP9Packet), (∀ g ∈ gs, PGWF g) →
    Exact (vp9ParsePG gs.length) p (encPGs gs)
      { p with PGTID := p.PGTID ++ gs.map (·.tid), PGU := p.PGU ++ gs.map (·.u),
               PGPDiff := p.PGPDiff ++ gs.map (·.pdiffs) } := by
  intro gs
  induction gs with
  | nil =>
    intro p _
    have : ({ p with PGTID := p.PGTID ++ ([] : List PG).map (·.tid), PGU := p.PGU ++ ([] : List PG).map (·.u),
                     PGPDiff := p.PGPDiff ++ ([] : List PG).map (·.pdiffs) } : VP9Packet) = p := by
      cases p; simp
    rw [this]
    exact Exact.skip p
  | cons g gs ih =>
    intro p hw
    have h1 := exact_pgOne p g (hw g List.mem_cons_self)
    have h2 := ih { p with PGTID := p.PGTID ++ [g.tid], PGU := p.PGU ++ [g.u],
                           PGPDiff := p.PGPDiff ++ [g.pdiffs] }
      (fun x hx => hw x (List.mem_cons_of_mem _ hx))
    have := Exact.andThen h1 h2
    simpa [vp9ParsePG, encPGs, List.append_assoc] using this

/-! The resolutions and the picture groups are optional (Y, G).  An absent part contributes no
    octets and leaves its fields as they are; `C12.pgOf` is the list of groups, empty when G = 0. -/

def resBytes : Option (List (UInt16 × UInt16)) → Bytes
  | none => []
  | some l => encRes l
def resState (p : VP9Packet) (res : Option (List (UInt16 × UInt16))) : VP9Packet :=
  { p with Width := match res with | some l => l.map (·.1) | none => p.Width,
           Height := match res with | some l => l.map (·.2) | none => p.Height }
def resLen (n : Nat) : Option (List (UInt16 × UInt16)) → Prop
  | none => True
  | some l => l.length = n
def ngBytes : Option (List PG) → Bytes
  | none => []
  | some l => [l.length.toUInt8]
def ngState (p : VP9Packet) (pg : Option (List PG)) : VP9Packet :=
  { p with NG := match pg with | some l => l.length.toUInt8 | none => p.NG }

structure SSWFP (s : SS) : Prop where
  ns : s.ns < 8
  res : resLen (s.ns.toNat + 1) s.res
  ng : (C12.pgOf s).length < 256
  pg : ∀ g ∈ C12.pgOf s, PGWF g

theorem exact_ssHead (p : VP9Packet) (s : SS) (hn : s.ns < 8) :
    Exact vp9SSHead p
      [(s.ns <<< 5) ||| bit s.res.isSome 0x10 ||| bit s.pg.isSome 0x08 ||| (s.ign &&& 0x07)]
      { p with NS := s.ns, Y := s.res.isSome, G := s.pg.isSome, NG := 0 } := by
  have hf := ss_fields s.ns s.res.isSome s.pg.isSome (s.ign &&& 0x07) hn
    (Nat.lt_succ_of_le (u8_and_le s.ign 0x07))
  intro t
  simp only [vp9SSHead, List.cons_append, List.nil_append, hf.1, hf.2.1, hf.2.2]

theorem exact_ssRes (p : VP9Packet) (res : Option (List (UInt16 × UInt16)))
    (hY : p.Y = res.isSome) (hl : resLen (p.NS.toNat + 1) res) :
    Exact vp9SSRes p (resBytes res) (resState p res) := by
  intro t
  unfold vp9SSRes
  cases res with
  | none => rw [if_neg (by rw [hY]; exact Bool.false_ne_true)]; rfl
  | some l =>
    have hl : l.length = p.NS.toNat + 1 := hl
    have := exact_res l
      { p with Width := List.replicate (p.NS.toNat + 1) 0, Height := List.replicate (p.NS.toNat + 1) 0 }
      [] [] rfl (by simp [hl]) (by simp [hl]) t
    simp only [List.length_nil, List.nil_append, hl] at this
    rw [if_pos (show p.Y = true from hY)]
    exact this

theorem exact_ssNG (p : VP9Packet) (pg : Option (List PG)) (hG : p.G = pg.isSome) :
    Exact vp9SSNG p (ngBytes pg) (ngState p pg) := by
  intro t
  unfold vp9SSNG
  cases pg with
  | none => rw [if_neg (by rw [hG]; exact Bool.false_ne_true)]; rfl
  | some l => rw [if_pos (show p.G = true from hG)]; rfl

theorem exact_ssPG (p : VP9Packet) (gs : List PG) (hNG : p.NG.toNat = gs.length)
    (hw : ∀ g ∈ gs, PGWF g) :
    Exact vp9SSPG p (encPGs gs)
      { p with PGTID := p.PGTID ++ gs.map (·.tid), PGU := p.PGU ++ gs.map (·.u),
               PGPDiff := p.PGPDiff ++ gs.map (·.pdiffs) } := by
  intro t
  show vp9ParsePG p.NG.toNat p (encPGs gs ++ t) = _
  rw [hNG]; exact exact_pgs gs p hw t

/-- the receiver after a scalability structure has been parsed into it -/
def ssFinal (p : VP9Packet) (s : SS) : VP9Packet :=
  { p with NS := s.ns, Y := s.res.isSome, G := s.pg.isSome, NG := (C12.pgOf s).length.toUInt8,
           Width := match s.res with | some l => l.map (·.1) | none => p.Width,
           Height := match s.res with | some l => l.map (·.2) | none => p.Height,
           PGTID := p.PGTID ++ (C12.pgOf s).map (·.tid), PGU := p.PGU ++ (C12.pgOf s).map (·.u),
           PGPDiff := p.PGPDiff ++ (C12.pgOf s).map (·.pdiffs) }

theorem encSS_eq (s : SS) :
    encSS (some s) =
      [(s.ns <<< 5) ||| bit s.res.isSome 0x10 ||| bit s.pg.isSome 0x08 ||| (s.ign &&& 0x07)] ++
        (resBytes s.res ++ (ngBytes s.pg ++ encPGs (C12.pgOf s))) := by
  obtain ⟨ns, res, pg, ign⟩ := s
  cases res <;> cases pg <;> rfl

theorem exact_ss (p : VP9Packet) (s : SS) (w : SSWFP s) :
    Exact vp9ParseSSData p (encSS (some s)) (ssFinal p s) := by
  let p1 : VP9Packet := { p with NS := s.ns, Y := s.res.isSome, G := s.pg.isSome, NG := 0 }
  have h1 : Exact vp9SSHead p _ p1 := exact_ssHead p s w.ns
  have h2 := exact_ssRes p1 s.res rfl w.res
  have h3 := exact_ssNG (resState p1 s.res) s.pg rfl
  -- N_G is the length of the group list: the octet just read when G = 1, still 0 from the first octet when G = 0
  have hNG : (ngState (resState p1 s.res) s.pg).NG = (C12.pgOf s).length.toUInt8 := by
    obtain ⟨ns, res, pg, ign⟩ := s
    cases pg <;> rfl
  have h4 := exact_ssPG _ (C12.pgOf s) (by rw [hNG]; exact toNat_toUInt8_of_lt w.ng) w.pg
  intro t
  rw [encSS_eq]
  refine (Exact.andThen h1 (Exact.andThen h2 (Exact.andThen h3 h4)) t).trans ?_
  rw [ssFinal, ← hNG]
  rfl

/-! `LayerWF`, `PDWF`, `SSOptWF` (with `PGWF`, `SSWFP` above) and `WFP`: the Spec's Boolean `Descriptor.WF`
    at `sidMax = 5` (`maxSpatialLayers`, vp9_packet.go:27) as propositions, so that the parts can be
    handed to the `exact_*` lemmas as hypotheses; `≤ 3` references is `maxVP9RefPics`. -/

def LayerWF : Option Layer → Prop
  | none => True
  | some l => l.tid < 8 ∧ l.sid < 5

def PDWF (d : Descriptor) : Prop :=
  if d.f && d.p then 1 ≤ d.pdiffs.length ∧ d.pdiffs.length ≤ 3 ∧ ∀ v ∈ d.pdiffs, v < 128 else d.pdiffs = []

def SSOptWF : Option SS → Prop
  | none => True
  | some s => SSWFP s

structure WFP (d : Descriptor) : Prop where
  pic : PicWF d.picId
  layer : LayerWF d.layer
  pd : PDWF d
  ss : SSOptWF d.ss

theorem wfp_of_wf (d : Descriptor) (h : d.WF 5 = true) : WFP d := by
  simp only [Descriptor.WF, Bool.and_eq_true] at h
  obtain ⟨⟨⟨h1, h2⟩, h3⟩, h4⟩ := h
  refine ⟨?_, ?_, ?_, ?_⟩
  · rcases hp : d.picId with _ | ⟨_ | _, v⟩ <;> simp [hp, PicWF] at h1 ⊢ <;> exact h1
  · rcases hp : d.layer with _ | l <;> simp [hp, LayerWF] at h2 ⊢; exact h2
  · unfold PDWF
    cases hf : d.f <;> cases hp : d.p <;>
      simp [hf, hp, List.all_eq_true] at h3 ⊢ <;> first | exact h3 | exact ⟨h3.1.1, h3.1.2, h3.2⟩
  · rcases hp : d.ss with _ | s
    · trivial
    · simp only [hp, SS.WF, Bool.and_eq_true, decide_eq_true_eq] at h4
      obtain ⟨⟨h5, h6⟩, h7⟩ := h4
      have hres : resLen (s.ns.toNat + 1) s.res := by
        rcases hr : s.res with _ | l <;> simp [hr, resLen] at h6 ⊢; exact h6
      have hpg : (C12.pgOf s).length < 256 ∧ ∀ g ∈ C12.pgOf s, PGWF g := by
        unfold C12.pgOf
        rcases hg : s.pg with _ | l
        · exact ⟨Nat.zero_lt_succ _, fun g hgm => nomatch hgm⟩
        · simp only [hg, Bool.and_eq_true, decide_eq_true_eq, List.all_eq_true] at h7
          refine ⟨h7.1, fun g hgm => ?_⟩
          have := h7.2 g hgm
          simp only [PG.WF, Bool.and_eq_true, decide_eq_true_eq] at this
          exact this
      exact ⟨h5, hres, hpg.1, hpg.2⟩

/-- the octets of a descriptor after the first one -/
def descTail (d : Descriptor) : Bytes :=
  encPicId d.picId ++ (encLayer d.f d.layer ++ ((if d.f && d.p then encPDiffs d.pdiffs else []) ++ encSS d.ss))

/-- the flag octet `I|P|L|F|B|E|V|Z` -/
abbrev flagOctet (d : Descriptor) : UInt8 :=
  bit d.picId.isSome 0x80 ||| bit d.p 0x40 ||| bit d.layer.isSome 0x20 ||| bit d.f 0x10 |||
    bit d.b 0x08 ||| bit d.e 0x04 ||| bit d.ss.isSome 0x02 ||| bit d.z 0x01

theorem encode_eq (d : Descriptor) : d.encode = flagOctet d :: descTail d := by
  simp [Descriptor.encode, descTail, List.append_assoc]

/-- the receiver right after the flag octet (everything else reset) -/
def flagState (d : Descriptor) : VP9Packet :=
  { I := d.picId.isSome, P := d.p, L := d.layer.isSome, F := d.f, B := d.b, E := d.e, V := d.ss.isSome, Z := d.z }

def picState (p : VP9Packet) (pic : Option (Bool × UInt16)) : VP9Packet :=
  { p with PictureID := match pic with | some (_, v) => v | none => p.PictureID }

def layerState (p : VP9Packet) (layer : Option Layer) : VP9Packet :=
  match layer with
  | none => p
  | some l => { p with TID := l.tid, U := l.u, SID := l.sid, D := l.d,
                       TL0PICIDX := if p.F then p.TL0PICIDX else l.tl0 }

def ssState (p : VP9Packet) : Option SS → VP9Packet
  | none => p
  | some s => ssFinal p s

theorem exact_whenPic (p : VP9Packet) (pic : Option (Bool × UInt16)) (hI : p.I = pic.isSome)
    (hw : PicWF pic) :
    Exact (VP9Step.when (·.I) vp9ParsePictureID) p (encPicId pic) (picState p pic) := by
  rcases pic with _ | ⟨m, v⟩
  · exact Exact.when_false (by simpa using hI)
  · exact Exact.when_true (by simpa using hI) (exact_pic p m v hw)

theorem exact_whenLayer (p : VP9Packet) (layer : Option Layer) (hL : p.L = layer.isSome)
    (hw : LayerWF layer) :
    Exact (VP9Step.when (·.L) vp9ParseLayerInfo) p (encLayer p.F layer) (layerState p layer) := by
  rcases layer with _ | l
  · exact Exact.when_false (by simpa using hL)
  · exact Exact.when_true (by simpa using hL) (exact_layer p l hw.1 hw.2)

theorem exact_whenRefs (p : VP9Packet) (d : Descriptor) (hF : p.F = d.f) (hP : p.P = d.p)
    (h0 : p.PDiff = []) (hw : PDWF d) :
    Exact (VP9Step.when (fun p => p.F && p.P) vp9ParseRefIndices) p
      (if d.f && d.p then encPDiffs d.pdiffs else [])
      { p with PDiff := if d.f && d.p then d.pdiffs else [] } := by
  unfold PDWF at hw
  cases hfp : (d.f && d.p)
  · simp only [hfp, Bool.false_eq_true, if_false] at hw ⊢
    have : ({ p with PDiff := [] } : VP9Packet) = p := by cases p; simp_all
    rw [this]
    exact Exact.when_false (by simp [hF, hP, hfp])
  · simp only [hfp, if_true] at hw ⊢
    have hne : d.pdiffs ≠ [] := by
      intro h; rw [h] at hw; simp at hw
    have := exact_refs d.pdiffs p hne (by rw [h0]; simp; exact hw.2.1) hw.2.2
    rw [h0, List.nil_append] at this
    exact Exact.when_true (by simp [hF, hP, hfp]) this

theorem exact_whenSS (p : VP9Packet) (ss : Option SS) (hV : p.V = ss.isSome) (hw : SSOptWF ss) :
    Exact (VP9Step.when (·.V) vp9ParseSSData) p (encSS ss) (ssState p ss) := by
  rcases ss with _ | s
  · exact Exact.when_false (by simpa using hV)
  · exact Exact.when_true (by simpa using hV) (exact_ss p s hw)

/-- the state after all four optional parts -/
def finalState (d : Descriptor) : VP9Packet :=
  ssState { layerState (picState (flagState d) d.picId) d.layer with
            PDiff := if d.f && d.p then d.pdiffs else [] } d.ss

theorem steps_exact (d : Descriptor) (w : WFP d) :
    Exact steps (flagState d) (descTail d) (finalState d) := by
  have h1 := exact_whenPic (flagState d) d.picId rfl w.pic
  have h2 : Exact _ _ (encLayer d.f d.layer) _ := exact_whenLayer (picState (flagState d) d.picId) d.layer rfl w.layer
  have h3 := exact_whenRefs (layerState (picState (flagState d) d.picId) d.layer) d
    (by cases d.layer <;> rfl) (by cases d.layer <;> rfl) (by cases d.layer <;> rfl) w.pd
  have h4 := exact_whenSS { layerState (picState (flagState d) d.picId) d.layer with
      PDiff := if d.f && d.p then d.pdiffs else [] } d.ss (by cases d.layer <;> rfl) w.ss
  exact Exact.andThen h1 (Exact.andThen h2 (Exact.andThen h3 h4))

/-- Every optional part is absent or present; in each case both sides are the same record (an absent
    part leaves the fields of the reset receiver). -/
theorem finalState_eq (d : Descriptor) : finalState d = C12.expected d := by
  obtain ⟨p, f, b, e, z, pic, layer, pds, ss⟩ := d
  rcases pic with _ | ⟨m, v⟩ <;> rcases layer with _ | l <;> rcases ss with _ | ⟨ns, _ | rl, pg, ign⟩ <;> rfl

/-- Unmarshal on a packet whose first octet carries the flags of `d`, from ANY receiver state -/
theorem unmarshal_flags (d : Descriptor) (p : VP9Packet) (r : Bytes) :
    vp9Unmarshal p (some (flagOctet d :: r)) =
      match steps (flagState d) r with
      | (none, p') => (.err .other, p')
      | (some rest, p') => (.ok rest, p') := by
  have h0 := octet0_flags d.picId.isSome d.p d.layer.isSome d.f d.b d.e d.ss.isSome d.z
  simp only at h0
  simp only [vp9Unmarshal, flagOctet, flagState, h0.1, h0.2.1, h0.2.2.1, h0.2.2.2.1, h0.2.2.2.2.1,
    h0.2.2.2.2.2.1, h0.2.2.2.2.2.2.1, h0.2.2.2.2.2.2.2]
  rfl

theorem unmarshal_encode (d : Descriptor) (hwf : d.WF 5 = true) (p : VP9Packet) (payload : Bytes) :
    vp9Unmarshal p (some (d.encode ++ payload)) = (.ok payload, C12.expected d) := by
  rw [encode_eq d, List.cons_append, unmarshal_flags, steps_exact d (wfp_of_wf d hwf) payload, finalState_eq]

theorem unmarshal_truncated (d : Descriptor) (hwf : d.WF 5 = true) (p : VP9Packet) (k : Nat)
    (hk : k < d.encode.length) : (vp9Unmarshal p (some (d.encode.take k))).1.isErr = true := by
  rw [encode_eq d] at hk ⊢
  cases k with
  | zero => rfl   -- the empty packet; from here on the cut lies inside `descTail d`
  | succ k =>
    have hk' : k < (descTail d).length := Nat.lt_of_succ_lt_succ hk
    have hcut := (steps_exact d (wfp_of_wf d hwf)).cut steps_stable (List.take_append_drop k (descTail d)).symm
      (fun h => absurd (List.drop_eq_nil_iff.mp h) (Nat.not_le_of_lt hk'))
    rw [List.take_succ_cons, unmarshal_flags]
    generalize steps (flagState d) ((descTail d).take k) = res at hcut ⊢
    obtain ⟨r, q⟩ := res
    cases hcut
    rfl

theorem head_encode (d : Descriptor) (payload : Bytes) :
    vp9IsPartitionHead (some (d.encode ++ payload)) = d.b := by
  have h0 := octet0_flags d.picId.isSome d.p d.layer.isSome d.f d.b d.e d.ss.isSome d.z
  simp only at h0
  rw [encode_eq d]
  simp only [List.cons_append, vp9IsPartitionHead]
  exact h0.2.2.2.2.1

theorem unmarshal_nopanic (p : VP9Packet) (i : Option Bytes) : (vp9Unmarshal p i).1 ≠ .panic := by
  unfold vp9Unmarshal
  split
  · simp
  · simp
  · simp only
    split <;> simp

/-- `rfl`: on a non-empty packet `vp9Unmarshal` builds the receiver from the flag octet alone (every other field
    reset, Model/VP9.lean) and never reads `p` -/
theorem unmarshal_fresh (p q : VP9Packet) (b0 : UInt8) (r : Bytes) :
    vp9Unmarshal p (some (b0 :: r)) = vp9Unmarshal q (some (b0 :: r)) := rfl

theorem unmarshal_reuse (p q : VP9Packet) (i : Option Bytes) :
    (vp9Unmarshal p i).1 = (vp9Unmarshal q i).1 ∧
    ((vp9Unmarshal p i).1.isOk = true → (vp9Unmarshal p i).2 = (vp9Unmarshal q i).2) := by
  match i with
  | none => simp [vp9Unmarshal, Res.isOk]
  | some [] => simp [vp9Unmarshal, Res.isOk]
  | some (b0 :: r) => rw [unmarshal_fresh p q b0 r]; simp

theorem obsDep_ok : ∀ (is : List (Option Bytes)) (p : VP9Packet),
    C09.histOk true (C12.obsDep p is) = true := by
  intro is
  induction is with
  | nil => intro p; rfl
  | cons i is ih =>
    intro p
    simp only [C09.histOk, C12.obsDep, List.all_cons, Bool.and_eq_true] at ih ⊢
    exact ⟨C09.callOk_dep (vp9Unmarshal p i) (vp9Unmarshal {} i) _ _ _ (unmarshal_nopanic p i) (unmarshal_reuse p {} i), ih _⟩

/-- SID ≥ 5 (`maxSpatialLayers`) is rejected although the draft's 3-bit field allows up to 7 -/
theorem layer_sid_limit (p : VP9Packet) (b : UInt8) (r : Bytes) (h : (b >>> 1) &&& 0x7 ≥ 5) :
    (vp9ParseLayerInfo p (b :: r)).1 = none := by
  simp [vp9ParseLayerInfo, h]

end Rtp.Proofs.VP9
