/-
  Rtp/Proofs/PacketRtWrite.lean — the closed form of the write sequence of `Header.MarshalTo` /
  `Packet.MarshalTo` (C01, C04): under `Ser` (the elements can be serialised) and `PadOK` the result is one
  concatenation, whatever the destination held.
-/
import Rtp.Model.Packet
import Rtp.Pred.C01
import Rtp.Proofs.Lib.Bytes
import Rtp.Proofs.Lib.BigEndian
namespace Rtp.Proofs.PacketRt
open Rtp Rtp.Model

theorem writeAt_nil (dst : Bytes) (off : Nat) : writeAt dst off [] = dst := Rtp.writeAt_nil dst off

theorem fixedBytes_length (h : Header) : (fixedBytes h).length = 12 + h.csrc.length * 4 := by
  simp only [fixedBytes, List.length_append, flatten_map_be32_length, be16, be32, List.length_cons, List.length_nil]

theorem round4_ge (n : Nat) : n ≤ round4 n := by unfold round4; omega
theorem round4_lt (n : Nat) : round4 n < n + 4 := by unfold round4; omega
theorem round4_of_mod (n : Nat) (h : n % 4 = 0) : round4 n = n := by unfold round4; omega
theorem round4_add4 (n : Nat) : round4 (4 + n) = 4 + round4 n := by unfold round4; omega

theorem oneByteBody_length (es : List Ext) :
    ((es.map fun e => (oneByteHdr e.id e.payload.length :: e.payload)).flatten).length =
      (es.map fun e => 1 + e.payload.length).sum := by
  induction es with
  | nil => rfl
  | cons e es ih => simp only [List.map_cons, List.flatten_cons, List.length_append, ih,
      List.length_cons, List.sum_cons]; omega

theorem twoByteBody_length (es : List Ext) :
    ((es.map fun e => (e.id :: e.payload.length.toUInt8 :: e.payload)).flatten).length =
      (es.map fun e => 2 + e.payload.length).sum := by
  induction es with
  | nil => rfl
  | cons e es ih => simp only [List.map_cons, List.flatten_cons, List.length_append, ih,
      List.length_cons, List.sum_cons]; omega

theorem extBodyBytes_ne_panic (h : Header) : extBodyBytes h ≠ .panic := by
  unfold extBodyBytes
  split
  · nofun
  · split
    · nofun
    · split
      · nofun
      · split <;> nofun

/-- whenever the element bytes exist, they are as many as `MarshalSize` counted (no
    well-formedness needed: the two loops of packet.go agree by construction) -/
theorem extBody_length (h : Header) (body : Bytes) (hb : extBodyBytes h = .ok body) :
    body.length = extBodySize h := by
  unfold extBodyBytes at hb
  unfold extBodySize
  split at hb
  · next h1 => rw [if_pos h1]; injection hb with hb; rw [← hb]; exact oneByteBody_length _
  · next h1 =>
    rw [if_neg h1]
    split at hb
    · next h2 => rw [if_pos h2]; injection hb with hb; rw [← hb]; exact twoByteBody_length _
    · next h2 =>
      rw [if_neg h2]
      split at hb
      · injection hb with hb; rw [← hb]; rfl
      · split at hb
        · cases hb
        · injection hb with hb; rw [← hb]

/-- the extension block as serialised: profile, length in words, element bytes, zero padding -/
def extPart (h : Header) (body : Bytes) : Bytes :=
  be16 h.extProfile ++ (be16 (round4 body.length / 4).toUInt16 ++
    (body ++ rep (round4 body.length - body.length) 0))

theorem extPart_length (h : Header) (body : Bytes) : (extPart h body).length = 4 + round4 body.length := by
  have := round4_ge body.length
  simp only [extPart, List.length_append, be16, List.length_cons, List.length_nil, rep, List.length_replicate]
  omega

/-- the serialised header: what `Header.Marshal` returns (`body` = the element bytes) -/
def hdrBytes (h : Header) (body : Bytes) : Bytes :=
  fixedBytes h ++ (if h.extension then extPart h body else [])

theorem hdrBytes_length (h : Header) (body : Bytes) (hb : body.length = extBodySize h) :
    (hdrBytes h body).length = hdrMarshalSize h := by
  unfold hdrBytes hdrMarshalSize
  rw [List.length_append, fixedBytes_length]
  split
  · rw [extPart_length, round4_add4, hb]
  · rfl

/-- no extension: one write -/
theorem hdrMarshalTo_noext (h : Header) (dst : Bytes) (hx : h.extension = false)
    (hl : hdrMarshalSize h ≤ dst.length) :
    hdrMarshalTo h dst = .ok (fixedBytes h ++ dst.drop (hdrMarshalSize h), hdrMarshalSize h) := by
  have hs : hdrMarshalSize h = (fixedBytes h).length := by
    rw [fixedBytes_length, hdrMarshalSize, if_neg (by rw [hx]; decide), Nat.add_zero]
  unfold hdrMarshalTo
  rw [if_neg (Nat.not_lt.mpr hl)]
  simp only [hx, Bool.false_eq_true, if_false]
  rw [writeAt_zero dst _ (hs ▸ hl), hs, fixedBytes_length]

/-- the five writes of `Header.MarshalTo` with an extension, in the order of packet.go: fixed part `F`, profile
    `P`, element bytes `B` two bytes further on, the word count `L` back-patched into the gap, zero padding `Z` -/
theorem five_writes (F P L B Z dst : Bytes) (n : Nat) (hn : n = F.length) (hP : P.length = 2) (hL : L.length = 2)
    (hl : n + (4 + (B.length + Z.length)) ≤ dst.length) :
    writeAt (writeAt (writeAt (writeAt (writeAt dst 0 F) n P) (n + 4) B) (n + 2) L) (n + 4 + B.length) Z =
      F ++ (P ++ (L ++ (B ++ (Z ++ dst.drop (n + (4 + (B.length + Z.length))))))) := by
  rw [writeAt_zero dst F (by omega), writeAt_at F _ P n hn (by rw [List.length_drop]; omega), List.drop_drop, hP]
  -- the two bytes the element write skips
  rw [← List.take_append_drop 2 (dst.drop (F.length + 2)), List.drop_drop]
  have h2 : ((dst.drop (F.length + 2)).take 2).length = 2 := List.length_take_of_le (by rw [List.length_drop]; omega)
  rw [writeAt_append_right F _ B (n + 4) 4 (by rw [hn]), writeAt_append_right P _ B 4 2 (by rw [hP]),
    writeAt_at _ _ B 2 h2.symm (by rw [List.length_drop]; omega), List.drop_drop]
  rw [writeAt_append_right F _ L (n + 2) 2 (by rw [hn]), writeAt_mid P _ _ L 2 hP.symm (hL.trans h2.symm)]
  rw [writeAt_append_right F _ Z (n + 4 + B.length) (4 + B.length) (by rw [hn, Nat.add_assoc]),
    writeAt_append_right P _ Z (4 + B.length) (2 + B.length) (by rw [hP, ← Nat.add_assoc]),
    writeAt_append_right L _ Z (2 + B.length) B.length (by rw [hL]),
    writeAt_at B _ Z B.length rfl (by rw [List.length_drop]; omega), List.drop_drop]
  rw [show F.length + 2 + 2 + B.length + Z.length = n + (4 + (B.length + Z.length)) by omega]

/-- with an extension: the five writes produce `hdrBytes` whatever the destination held -/
theorem hdrMarshalTo_ext (h : Header) (body dst : Bytes) (hx : h.extension = true)
    (hb : extBodyBytes h = .ok body) (hl : hdrMarshalSize h ≤ dst.length) :
    hdrMarshalTo h dst = .ok (hdrBytes h body ++ dst.drop (hdrMarshalSize h), hdrMarshalSize h) := by
  have hF := fixedBytes_length h
  have hge := round4_ge body.length
  have hs : hdrMarshalSize h =
      12 + h.csrc.length * 4 + (4 + (body.length + (rep (round4 body.length - body.length) 0).length)) := by
    rw [hdrMarshalSize, if_pos hx, round4_add4, ← extBody_length h body hb, rep_length]; omega
  unfold hdrMarshalTo
  rw [if_neg (Nat.not_lt.mpr hl)]
  simp only [hx, hb, if_true]
  rw [five_writes (fixedBytes h) (be16 h.extProfile) (be16 (round4 body.length / 4).toUInt16) body
    (rep (round4 body.length - body.length) 0) dst _ hF.symm rfl rfl (hs ▸ hl), ← hs]
  simp only [hdrBytes, hx, if_true, extPart, List.append_assoc]
  rw [hs, rep_length]; congr 2; omega

open Rtp.Pred.C01 in
/-- `extsLegal` with the X bit, profile by profile (a legal legacy block is one element with id 0 and whole words) -/
theorem extsLegal_cases {h : Header} (hx : h.extension = true) (hl : extsLegal h = true) :
    ((h.extProfile == profileOneByte) = true ∧
      ∀ e ∈ h.exts, 1 ≤ e.id.toNat ∧ e.id.toNat ≤ 14 ∧ 1 ≤ e.payload.length ∧ e.payload.length ≤ 16) ∨
    ((h.extProfile == profileOneByte) = false ∧ (h.extProfile == profileTwoByte) = true ∧
      ∀ e ∈ h.exts, 1 ≤ e.id.toNat ∧ e.payload.length ≤ 255) ∨
    ((h.extProfile == profileOneByte) = false ∧ (h.extProfile == profileTwoByte) = false ∧
      ∃ e, h.exts = [e] ∧ e.id = 0 ∧ e.payload.length % 4 = 0) := by
  unfold extsLegal at hl
  rw [if_neg (by rw [hx]; decide)] at hl
  split at hl
  · next h1 => exact Or.inl ⟨h1, by simpa [and_assoc] using hl⟩
  · next h1 =>
    split at hl
    · next h2 => exact Or.inr (Or.inl ⟨Bool.eq_false_iff.mpr h1, h2, by simpa using hl⟩)
    · next h2 =>
      split at hl
      · next e he => exact Or.inr (Or.inr ⟨Bool.eq_false_iff.mpr h1, Bool.eq_false_iff.mpr h2, e, he, by simpa using hl⟩)
      · cases hl

open Rtp.Pred.C01 in
theorem extBodyBytes_isOk (h : Header) (hwf : wfH h = true) (hx : h.extension = true) :
    ∃ body, extBodyBytes h = .ok body := by
  simp only [wfH, Bool.and_eq_true] at hwf
  unfold extBodyBytes
  rcases extsLegal_cases hx hwf.1.2 with ⟨h1, _⟩ | ⟨h1, h2, _⟩ | ⟨h1, h2, e, he, _, h4⟩
  · exact ⟨_, by rw [if_pos h1]⟩
  · exact ⟨_, by rw [if_neg (by rw [h1]; decide), if_pos h2]⟩
  · exact ⟨e.payload, by rw [if_neg (by rw [h1]; decide), if_neg (by rw [h2]; decide), he]; simp [h4]⟩

/-- the element bytes of a header (`[]` where `extBodyBytes` fails: lemmas that need the real value assume `Ser`) -/
def wireBody (h : Header) : Bytes := match extBodyBytes h with | .ok b => b | _ => []

def hdrWire (h : Header) : Bytes := hdrBytes h (wireBody h)

theorem extBodyBytes_wire (h : Header) (hwf : Pred.C01.wfH h = true) (hx : h.extension = true) :
    extBodyBytes h = .ok (wireBody h) := by
  obtain ⟨b, hb⟩ := extBodyBytes_isOk h hwf hx
  simp [wireBody, hb]

/-- a header whose elements can be serialised (the legacy payload is whole words); nothing about
    ids, lengths, version, payload type or CSRC count -/
def Ser (h : Header) : Prop := h.extension = true → extBodyBytes h = .ok (wireBody h)

/-- the padding flag is set exactly when the padding size is not 0 -/
def PadOK (p : Packet) : Prop := p.header.padding = decide (1 ≤ p.paddingSize.toNat)

theorem ser_of_wf (h : Header) (hwf : Pred.C01.wfH h = true) : Ser h := fun hx => extBodyBytes_wire h hwf hx

theorem hdrWire_length_ser (h : Header) (hs : Ser h) :
    (hdrWire h).length = hdrMarshalSize h := by
  cases hx : h.extension
  · simp [hdrWire, hdrBytes, hdrMarshalSize, hx, fixedBytes_length]
  · exact hdrBytes_length h _ (extBody_length h _ (hs hx))

theorem hdrMarshalTo_ser (h : Header) (hs : Ser h) (dst : Bytes)
    (hl : hdrMarshalSize h ≤ dst.length) :
    hdrMarshalTo h dst = .ok (hdrWire h ++ dst.drop (hdrMarshalSize h), hdrMarshalSize h) := by
  cases hx : h.extension
  · rw [hdrMarshalTo_noext h dst hx hl]; simp [hdrWire, hdrBytes, hx]
  · exact hdrMarshalTo_ext h _ dst hx (hs hx) hl

theorem hdrMarshalTo_short (h : Header) (dst : Bytes) (hl : dst.length < hdrMarshalSize h) :
    hdrMarshalTo h dst = .err .shortBuffer := by
  unfold hdrMarshalTo; rw [if_pos hl]

theorem hdrMarshal_ser (h : Header) (hs : Ser h) : hdrMarshal h = .ok (hdrWire h) := by
  unfold hdrMarshal
  rw [hdrMarshalTo_ser h hs _ (by simp [rep])]
  simp only [rep, Res.ok.injEq]
  rw [List.drop_of_length_le (by simp), List.append_nil, ← hdrWire_length_ser h hs, List.take_length]

/-- the RTP padding trailer: zeros and the count -/
def padBytes (p : Packet) : Bytes :=
  if p.header.padding then rep (p.paddingSize.toNat - 1) 0 ++ [p.paddingSize] else []

theorem padBytes_length (p : Packet) (hp : p.header.padding = decide (1 ≤ p.paddingSize.toNat)) :
    (padBytes p).length = p.paddingSize.toNat := by
  unfold padBytes
  by_cases h : 1 ≤ p.paddingSize.toNat
  · simp [hp, h, rep]
  · simp [hp, h]; omega

def pktWire (p : Packet) : Bytes := hdrWire p.header ++ (p.payload ++ padBytes p)

theorem pktWire_length_ser (p : Packet) (hs : Ser p.header) (hp : PadOK p) :
    (pktWire p).length = pktMarshalSize p := by
  simp only [pktWire, List.length_append, hdrWire_length_ser _ hs, padBytes_length p hp, pktMarshalSize]
  omega

theorem padding_ok (p : Packet) (hp : p.header.padding = decide (1 ≤ p.paddingSize.toNat)) :
    (p.header.padding && p.paddingSize == 0) = false := by
  by_cases h : 1 ≤ p.paddingSize.toNat
  · have : p.paddingSize ≠ 0 := by intro h0; rw [h0] at h; simp at h
    simp [hp, h, this]
  · simp [hp, h]

/-- `Packet.MarshalTo` of a serialisable packet into a sufficient destination: header, payload and, only if the
    padding flag is set, the trailer.  Without the flag the `PaddingSize` bytes counted in the returned length
    are left as the destination held them. -/
theorem pktMarshalTo_eq (p : Packet) (hs' : Ser p.header) (hz : (p.header.padding && p.paddingSize == 0) = false)
    (dst : Bytes) (hl : pktMarshalSize p ≤ dst.length) :
    pktMarshalTo p dst = .ok (hdrWire p.header ++ (p.payload ++
      (if p.header.padding then (rep (p.paddingSize.toNat - 1) 0 ++ [p.paddingSize]) ++ dst.drop (pktMarshalSize p)
       else dst.drop (hdrMarshalSize p.header + p.payload.length))), pktMarshalSize p) := by
  have hW := hdrWire_length_ser _ hs'
  have hs : pktMarshalSize p = hdrMarshalSize p.header + p.payload.length + p.paddingSize.toNat := rfl
  unfold pktMarshalTo
  rw [hz]
  simp only [Bool.false_eq_true, if_false]
  rw [hdrMarshalTo_ser _ hs' dst (by omega)]
  simp only
  rw [if_neg (by omega), writeAt_at (hdrWire p.header) _ p.payload _ hW.symm (by rw [List.length_drop]; omega),
    List.drop_drop]
  cases hpad : p.header.padding
  · simp only [Bool.false_eq_true, if_false, hs]
  · have h1 : 1 ≤ p.paddingSize.toNat := by
      rw [hpad, Bool.true_and, beq_eq_false_iff_ne, Ne, ← UInt8.toNat_inj] at hz
      exact Nat.pos_of_ne_zero hz
    have hlen : (rep (p.paddingSize.toNat - 1) 0 ++ [p.paddingSize]).length = p.paddingSize.toNat := by
      rw [List.length_append, rep_length, List.length_singleton, Nat.sub_add_cancel h1]
    simp only [if_true]
    rw [← List.append_assoc, writeAt_at _ _ _ _ (by rw [List.length_append, hW]) (by rw [List.length_drop, hlen]; omega),
      List.drop_drop, hlen, List.append_assoc, hs]

theorem pktMarshalTo_ser (p : Packet) (hs' : Ser p.header) (hp : PadOK p) (dst : Bytes)
    (hl : pktMarshalSize p ≤ dst.length) :
    pktMarshalTo p dst = .ok (pktWire p ++ dst.drop (pktMarshalSize p), pktMarshalSize p) := by
  rw [pktMarshalTo_eq p hs' (padding_ok p hp) dst hl]
  unfold pktWire padBytes
  cases hpad : p.header.padding
  · have h0 : p.paddingSize.toNat = 0 := Nat.eq_zero_of_not_pos (of_decide_eq_false (hp.symm.trans hpad))
    simp only [Bool.false_eq_true, if_false, List.append_nil, List.append_assoc]
    rw [show pktMarshalSize p = hdrMarshalSize p.header + p.payload.length + p.paddingSize.toNat from rfl, h0, Nat.add_zero]
  · simp only [if_true, List.append_assoc]

theorem pktMarshal_ser (p : Packet) (hs' : Ser p.header) (hp : PadOK p) : pktMarshal p = .ok (pktWire p) := by
  unfold pktMarshal
  rw [pktMarshalTo_ser p hs' hp _ (by simp [rep])]
  simp only [rep, Res.ok.injEq]
  rw [List.drop_of_length_le (by simp), List.append_nil, ← pktWire_length_ser p hs' hp, List.take_length]

theorem pktMarshalTo_short_ser (p : Packet) (hs' : Ser p.header) (hp : PadOK p) (dst : Bytes)
    (hl : dst.length < pktMarshalSize p) : pktMarshalTo p dst = .err .shortBuffer := by
  have hs : pktMarshalSize p = hdrMarshalSize p.header + p.payload.length + p.paddingSize.toNat := rfl
  unfold pktMarshalTo
  rw [padding_ok p hp]
  simp only [Bool.false_eq_true, if_false]
  by_cases h1 : dst.length < hdrMarshalSize p.header
  · rw [hdrMarshalTo_short _ _ h1]
  · rw [hdrMarshalTo_ser _ hs' dst (by omega)]
    simp only
    rw [if_pos (by omega)]

theorem wfP_iff (p : Packet) : Pred.C01.wfP p = true ↔
    Pred.C01.wfH p.header = true ∧ p.header.padding = decide (1 ≤ p.paddingSize.toNat) := by
  simp [Pred.C01.wfP]

/-! ### the same for well-formed values (C01's domain implies both conditions) -/

theorem hdrWire_length (h : Header) (hwf : Pred.C01.wfH h = true) : (hdrWire h).length = hdrMarshalSize h :=
  hdrWire_length_ser h (ser_of_wf h hwf)

theorem hdrMarshalTo_wf (h : Header) (hwf : Pred.C01.wfH h = true) (dst : Bytes)
    (hl : hdrMarshalSize h ≤ dst.length) :
    hdrMarshalTo h dst = .ok (hdrWire h ++ dst.drop (hdrMarshalSize h), hdrMarshalSize h) :=
  hdrMarshalTo_ser h (ser_of_wf h hwf) dst hl

theorem hdrMarshal_wf (h : Header) (hwf : Pred.C01.wfH h = true) : hdrMarshal h = .ok (hdrWire h) :=
  hdrMarshal_ser h (ser_of_wf h hwf)

theorem pktWire_length (p : Packet) (hwf : Pred.C01.wfP p = true) : (pktWire p).length = pktMarshalSize p :=
  pktWire_length_ser p (ser_of_wf _ ((wfP_iff p).1 hwf).1) ((wfP_iff p).1 hwf).2

theorem pktMarshalTo_wf (p : Packet) (hwf : Pred.C01.wfP p = true) (dst : Bytes)
    (hl : pktMarshalSize p ≤ dst.length) :
    pktMarshalTo p dst = .ok (pktWire p ++ dst.drop (pktMarshalSize p), pktMarshalSize p) :=
  pktMarshalTo_ser p (ser_of_wf _ ((wfP_iff p).1 hwf).1) ((wfP_iff p).1 hwf).2 dst hl

theorem pktMarshal_wf (p : Packet) (hwf : Pred.C01.wfP p = true) : pktMarshal p = .ok (pktWire p) :=
  pktMarshal_ser p (ser_of_wf _ ((wfP_iff p).1 hwf).1) ((wfP_iff p).1 hwf).2

theorem pktMarshalTo_short (p : Packet) (hwf : Pred.C01.wfP p = true) (dst : Bytes)
    (hl : dst.length < pktMarshalSize p) : pktMarshalTo p dst = .err .shortBuffer :=
  pktMarshalTo_short_ser p (ser_of_wf _ ((wfP_iff p).1 hwf).1) ((wfP_iff p).1 hwf).2 dst hl

/-! ### without the padding flag (outside C01's domain when the size is not 0) -/

/-- no padding flag: header and payload are written, nothing else — whatever `PaddingSize` says -/
theorem pktMarshalTo_noflag (p : Packet) (hs' : Ser p.header) (hpad : p.header.padding = false) (dst : Bytes)
    (hl : pktMarshalSize p ≤ dst.length) :
    pktMarshalTo p dst = .ok (hdrWire p.header ++ (p.payload ++
      dst.drop (hdrMarshalSize p.header + p.payload.length)), pktMarshalSize p) := by
  rw [pktMarshalTo_eq p hs' (by rw [hpad]; rfl) dst hl, hpad]
  rfl

theorem pktMarshal_noflag (p : Packet) (hs' : Ser p.header) (hpad : p.header.padding = false) :
    pktMarshal p = .ok (hdrWire p.header ++ (p.payload ++ rep p.paddingSize.toNat 0)) := by
  have hW := hdrWire_length_ser _ hs'
  have hsz : pktMarshalSize p = hdrMarshalSize p.header + p.payload.length + p.paddingSize.toNat := rfl
  unfold pktMarshal
  rw [pktMarshalTo_noflag p hs' hpad _ (by simp [rep])]
  simp only [Res.ok.injEq, drop_rep]
  rw [show pktMarshalSize p - (hdrMarshalSize p.header + p.payload.length) = p.paddingSize.toNat by omega]
  apply List.take_of_length_le
  simp [rep]; omega

/-- into a destination full of 0xFF: the `PaddingSize` trailing bytes stay 0xFF, where `Marshal` has zeros -/
theorem pktMarshalTo_noflag_dirty (p : Packet) (hs' : Ser p.header) (hpad : p.header.padding = false) :
    pktMarshalTo p (rep (pktMarshalSize p) 0xFF) =
      .ok (hdrWire p.header ++ (p.payload ++ rep p.paddingSize.toNat 0xFF), pktMarshalSize p) := by
  have hsz : pktMarshalSize p = hdrMarshalSize p.header + p.payload.length + p.paddingSize.toNat := rfl
  rw [pktMarshalTo_noflag p hs' hpad _ (by simp [rep]), drop_rep,
    show pktMarshalSize p - (hdrMarshalSize p.header + p.payload.length) = p.paddingSize.toNat by omega]

/-- the only `.panic` branch of MarshalTo hands on a panic of `extBodyBytes`, which has none -/
theorem hdrMarshalTo_ne_panic (h : Header) (dst : Bytes) : hdrMarshalTo h dst ≠ .panic := by
  unfold hdrMarshalTo
  split
  · simp
  · simp only []
    split
    · cases hb : extBodyBytes h with
      | panic => exact absurd hb (extBodyBytes_ne_panic h)
      | ok b => simp
      | err e => simp
    · simp

theorem hdrMarshal_ne_panic (h : Header) : hdrMarshal h ≠ .panic := by
  unfold hdrMarshal
  have := hdrMarshalTo_ne_panic h (rep (hdrMarshalSize h) 0)
  split
  · simp
  · simp
  · contradiction

end Rtp.Proofs.PacketRt
