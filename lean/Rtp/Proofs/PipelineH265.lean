/-
  Rtp/Proofs/PipelineH265.lean — what Rtp/Props/Pipeline.lean needs of H265 for the end-to-end
  composition, for streams WITHOUT DONL (with AddDONL the payloader's FU output is the known finding
  `c14_donl_fu`): the domain `h265Inv` and that the payloader fits the packetizer on it (`h265_fits`,
  `h265_payOk`, from C08), and what the receiver holds after a frame (`H265Received`, `h265_received`,
  from `c14_shape_nodonl` and `c14_decoder_spec`; `frameOk_of_received` is its executable form).
-/
import Rtp.Proofs.PipelineCodecs
import Rtp.Props.C14
import Rtp.Props.C08_H265
namespace Rtp.Proofs.Pipeline
open Rtp Rtp.Model Rtp.Model.Pipeline Rtp.Pred.Pipeline Rtp.Model.H265 Rtp.Spec.Rfc7798 Rtp.Pred

/-- domain: the frame is the Annex-B rendering of a well-formed list of HEVC NAL units (whatever the DONL
    counter, the state of this payloader, stands at) -/
def h265Inv : UInt16 → Bytes → Prop := fun _ frame =>
  ∃ fr : List (Nat × Bytes), C14.frameWF fr = true ∧ frame = C14.frameBytes fr

theorem h265_fits (cfg : H265.Cfg) (B : UInt16) : PayFits (h265Pay cfg) B h265Inv := by
  intro d frame h
  obtain ⟨fr, hwf, rfl⟩ := h
  exact ⟨frameBytes_ne_nil fr hwf, (Rtp.Props.C08.H265.c08_h265_call cfg B d _).1⟩

/-- what the receiver holds after one frame: the RTP payloads, all ACCEPTED by `H265Packet`, are a
    list of RFC 7798 packets (single / aggregation / ≥ 2 fragmentation units, `shapeOk`) that
    `H265Packet` decodes to exactly their descriptions and that reassemble (`depack`) to the frame's
    units in order -/
def H265Received (units : List Bytes) (o : FrameObs) : Prop :=
  ∃ descs : List Spec.Rfc7798.Packet,
    o.outs = descs.map (fun p => Res.ok (encode p)) ∧
    (∀ p ∈ descs, p.WF false = true ∧ shapeOk false p = true ∧
      decode false (some (encode p)) = .ok { pkt := p, tsci := p.tsci, sizesOk := true }) ∧
    depack none descs = some units

theorem depackAll_h265 (descs : List Spec.Rfc7798.Packet)
    (h : ∀ p ∈ descs, ∃ v, decode false (some (encode p)) = .ok v) :
    (depackAll (h265Depack false) () (descs.map encode)).1 = descs.map (fun p => Res.ok (encode p)) := by
  induction descs with
  | nil => rfl
  | cons p ps ih =>
    obtain ⟨v, hv⟩ := h p (by simp)
    obtain ⟨k, hk, _⟩ := decode_eq_ok.mp hv
    simp only [List.map_cons, depackAll, h265Depack, hk, Res.map]
    rw [ih (fun q hq => h q (by simp [hq]))]

theorem h265_received (skip : Bool) (B d : UInt16) (hB : 4 ≤ B.toNat) (fr : List (Nat × Bytes))
    (hwf : C14.frameWF fr = true) (pkts : List PktObs) :
    H265Received (fr.map (·.2))
      (idealObs (h265Depack false) () pkts (h265Pay ⟨false, skip⟩ d B (C14.frameBytes fr)).1) := by
  obtain ⟨descs, h1, h2, h3⟩ := Rtp.Props.C14.c14_shape_nodonl skip B d fr hwf hB
  have hdec : ∀ p ∈ descs, decode false (some (encode p)) = .ok { pkt := p, tsci := p.tsci, sizesOk := true } :=
    fun p hp => (Rtp.Props.C14.c14_decoder_spec false p (h2 p hp).1).1
  refine ⟨descs, ?_, fun p hp => ⟨(h2 p hp).1, (h2 p hp).2, hdec p hp⟩, h3⟩
  -- `idealObs` depacketizes the payloader's own fragments; `pkts` plays no role in `outs`
  show (depackAll (h265Depack false) () (payload ⟨false, skip⟩ B d (some (C14.frameBytes fr))).1).1 = _
  rw [h1]
  exact depackAll_h265 descs (fun p hp => ⟨_, hdec p hp⟩)

theorem all_ok_of_received (units : List Bytes) (o : FrameObs) (h : H265Received units o) :
    o.outs.all Res.isOk = true := by
  obtain ⟨descs, h1, _, _⟩ := h
  rw [h1]
  simp [List.all_map, Res.isOk]

/-- the executable form of `H265Received` (what the driver evaluates) -/
theorem frameOk_of_received (units : List Bytes) (o : FrameObs) (h : H265Received units o) :
    h265FrameOk units o = true := by
  obtain ⟨descs, h1, h2, h3⟩ := h
  have hd : h265DecodeAll o.outs = some descs := by
    rw [h1]
    clear h1 h3
    induction descs with
    | nil => rfl
    | cons p ps ih =>
      simp only [List.map_cons, h265DecodeAll, (h2 p (by simp)).2.2, if_true]
      rw [ih (fun q hq => h2 q (by simp [hq]))]
      rfl
  simp only [h265FrameOk, hd, h3, beq_self_eq_true, Bool.and_true, List.all_eq_true]
  exact fun p hp => (h2 p hp).2.1

theorem h265_payOk (cfg : H265.Cfg) (B : UInt16) (frames : List H265Frame)
    (hw : ∀ fr ∈ frames, C14.frameWF fr.units = true) (d : UInt16) :
    PayOk (h265Pay cfg) B h265Inv d (frames.map H265Frame.frameIn) := by
  refine payOk_of (h265Pay cfg) B h265Inv (fun _ => True) (fun fr => h265Inv 0 fr) (fun _ _ _ h => h)
    (fun _ _ _ _ => trivial) _ d trivial ?_
  intro f hf
  obtain ⟨fr, hfr, rfl⟩ := List.mem_map.mp hf
  exact ⟨fr.units, hw fr hfr, rfl⟩

end Rtp.Proofs.Pipeline
