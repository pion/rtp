/-
  Rtp/Proofs/H264ParseSound.lean — soundness of the RFC 6184 parser of Spec/Rfc6184.lean: whatever
  it accepts IS the encoding of the plan it returns (so `parse` accepts exactly the image of
  `encode`, together with `parse_encode`).  This is what makes "the payloads parse" a meaningful
  shape predicate.
-/
import Rtp.Proofs.H264Parse
namespace Rtp.Proofs.H264
open Rtp Rtp.Spec.Rfc6184

theorem parseStap_sound (body : Bytes) : ∀ ns, parseStap body = some ns → encStapBody ns = body := by
  fun_induction parseStap body with
  | case1 => intro ns h; cases h; rfl
  | case2 a b tl n hlt => intro ns h; cases h
  | case3 a b tl n hlt r hr ih =>
    intro ns h
    cases h
    have := ih r hr
    simp only [encStapBody, List.length_take, this]
    have hl : min n tl.length = n := by omega
    rw [hl]
    show size16 (a.toNat * 256 + b.toNat) ++ List.take n tl ++ List.drop n tl = a :: b :: tl
    rw [size16_of_bytes]
    simp
  | case4 a b tl n hlt hr ih => intro ns h; cases h
  | case5 l h1 h2 => intro ns h; cases h

/-- fragments already consumed while a unit is open -/
def pendingFrags : Option (UInt8 × Nat × List Bytes) → List Bytes
  | none => []
  | some (_, _, []) => []
  | some (ind, typ, c0 :: cs) =>
    (ind :: fuHdr true false typ :: c0) :: cs.map (fun c => ind :: fuHdr false false typ :: c)

theorem encFu_snoc (ind : UInt8) (typ : Nat) (cs : List Bytes) (c : Bytes) :
    encFu ind typ false (cs ++ [c]) =
      cs.map (fun x => ind :: fuHdr false false typ :: x) ++ [ind :: fuHdr false true typ :: c] := by
  induction cs with
  | nil => simp [encFu]
  | cons a cs ih =>
    have : cs ++ [c] ≠ [] := by simp
    rw [List.cons_append, encFu_cons_cons _ _ _ _ _ this, ih]
    simp

/-- what is known of the FU-A unit being collected -/
def OpenOk : Option (UInt8 × Nat × List Bytes) → Prop
  | none => True
  | some (ind, typ, cs) => hType ind = 28 ∧ typ < 32 ∧ cs ≠ []

/-- the invariant: the plan returned encodes to the fragments already consumed for the open unit
    followed by what is still to be read.  The branches where the parser refuses go at once; left are
    the end of input (case1), a single unit (case4), a STAP-A (case5), the first fragment of an FU-A
    (case7), its last (case11) and one in between (case12). -/
theorem parseAux_sound (o : Option (UInt8 × Nat × List Bytes)) (ps : List Bytes) :
    ∀ plan : List Item, OpenOk o → parseAux o ps = some plan → encode plan = pendingFrags o ++ ps := by
  fun_induction parseAux o ps <;> intro plan ho hp
  all_goals try (cases hp; done)
  case case1 => cases hp; rfl
  case case4 ps h body t _ ih =>
    obtain ⟨pl, hpl, rfl⟩ := Option.map_eq_some_iff.mp hp
    rw [encode, List.flatMap_cons, ← encode, ih pl trivial hpl]; rfl
  case case5 ps h body t _ _ ns hs ih =>
    obtain ⟨pl, hpl, rfl⟩ := Option.map_eq_some_iff.mp hp
    rw [encode, List.flatMap_cons, ← encode, ih pl trivial hpl, Item.encode, parseStap_sound body ns hs]; rfl
  case case7 ps h t _ _ h3 fh c hc ih =>
    simp only [Bool.and_eq_true, Bool.not_eq_true'] at hc
    have hfh := fuHdr_of_fields hc.1.1 hc.1.2 rfl (beq_iff_eq.mp hc.2)
    rw [ih plan ⟨h3, hType_lt fh, List.cons_ne_nil _ _⟩ hp]
    simp only [pendingFrags, List.map_nil, List.nil_append, List.cons_append]
    rw [← hfh]
  case case11 ind typ cs ps h fh c hc hE ih =>
    obtain ⟨hind, htyp, hcs⟩ := ho
    simp only [Bool.and_eq_true, beq_iff_eq, Bool.not_eq_true'] at hc
    obtain ⟨⟨⟨rfl, hty⟩, hS⟩, hR⟩ := hc
    have hfh := fuHdr_of_fields hS hE hty hR
    obtain ⟨pl, hpl, rfl⟩ := Option.map_eq_some_iff.mp hp
    have hh : mkHdr (hF h) (hNri h) 28 = h := by rw [← hind, mkHdr_eta]
    match cs, hcs with
    | c0 :: cs', _ =>
      rw [encode, List.flatMap_cons, ← encode, ih pl trivial hpl, Item.encode, mkHdr_retype h typ 28 htyp, hh,
        hType_mkHdr _ _ typ htyp, List.cons_append,
        encFu_cons_cons _ _ _ _ _ (List.append_ne_nil_of_right_ne_nil _ (List.cons_ne_nil c [])), encFu_snoc, ← hfh]
      simp [pendingFrags]
  case case12 ind typ cs ps h fh c hc hE ih =>
    obtain ⟨hind, htyp, hcs⟩ := ho
    simp only [Bool.and_eq_true, beq_iff_eq, Bool.not_eq_true'] at hc
    obtain ⟨⟨⟨rfl, hty⟩, hS⟩, hR⟩ := hc
    have hfh := fuHdr_of_fields hS ((Bool.not_eq_true _).mp hE) hty hR
    match cs, hcs with
    | c0 :: cs', _ =>
      rw [ih plan ⟨hind, htyp, List.cons_ne_nil _ _⟩ hp]
      simp only [pendingFrags, List.cons_append, List.map_append, List.map_cons, List.map_nil, List.append_assoc]
      rw [← hfh]; rfl

theorem parse_sound (ps : List Bytes) (plan : List Item) (h : parse ps = some plan) :
    encode plan = ps :=
  parseAux_sound none ps plan trivial h

end Rtp.Proofs.H264
