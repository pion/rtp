/-
  Rtp/Proofs/AV1RT.lean — putting the send side and the two receive sides together.
-/
import Rtp.Proofs.AV1Walk
import Rtp.Proofs.AV1PayTop
import Rtp.Proofs.AV1PaySim
import Rtp.Proofs.AV1DepackRT
import Rtp.Proofs.AV1FramesRT
import Rtp.Proofs.Lib.UInt
namespace Rtp.Model.AV1
open Rtp Rtp.Model Rtp.Spec.Av1Rtp
open Rtp.Model.ObuLemmas

theorem not_dropped_eq_kept (o : Obu) : (!dropped o.hdr) = o.kept := by
  simp only [dropped, Obu.kept, bne]
  cases (o.hdr.type == obuTileList) <;> cases (o.hdr.type == obuTemporalDelimiter) <;> rfl

theorem flushedOf_map (obus : List Obu) :
    flushedOf (obus.map (fun o => (o.hdr, o.payload))) = normalise obus := by
  unfold flushedOf normalise
  induction obus with
  | nil => rfl
  | cons o os ih =>
    simp only [List.map_cons, List.filter_cons, not_dropped_eq_kept]
    cases o.kept
    · simpa using ih
    · simp only [if_true, List.map_cons, ih]
      rfl

theorem payloadPks_nil (mtu : Nat) : payloadPks mtu [] = [] := by
  simp [payloadPks, walk, finish]

/-- `payloadPks` leaves out the guard of Payload (MTU ≤ 1 or empty input: no payloads); here it is -/
theorem payload_eq (mtu : UInt16) (data : Bytes) (hm : 2 ≤ mtu.toNat) :
    AV1.payload mtu data = (payloadPks mtu.toNat data).map Pk.encode := by
  unfold AV1.payload
  have h1 : ¬ mtu.toNat ≤ 1 := by omega
  cases data with
  | nil => simp [payloadPks_nil]
  | cons a b => simp [h1]

theorem mem_le_flatMap (pre : List Bytes) (e : Bytes) (h : e ∈ pre) :
    e.length ≤ (pre.flatMap lenPrefixed).length := by
  induction pre with
  | nil => simp at h
  | cons a as ih =>
    simp only [List.mem_cons] at h
    simp only [List.flatMap_cons, List.length_append, lenPrefixed]
    rcases h with rfl | h
    · omega
    · have := ih h; omega

theorem elem_le_size (p : Pk) (e : Bytes) (h : e ∈ p.elems) : e.length ≤ p.size := by
  rw [size_eq]
  simp only [Pk.elems, List.mem_append, Option.mem_toList] at h
  rcases h with h | h
  · have := mem_le_flatMap p.pre e h; omega
  · rw [h]; simp

theorem pkGood_of_final (mtu : Nat) (hs : mtu ≤ 65535) (pks : List Pk) (us : List OUnit) (done : List Bytes)
    (hf : FinalInv mtu pks us done) : ∀ p ∈ pks, PkGood p := by
  intro p hp
  obtain ⟨h1, h2, h3, h4⟩ := hf.pk p hp
  refine ⟨h1, h2, h3, ?_, h4⟩
  intro e he
  -- e.length ≤ p.size ≤ mtu ≤ 65535 < 2^56
  have := elem_le_size p e he
  have := hf.size p hp
  omega

/-- a transmitted OBU of a well-formed header is passed on by the depacketizer, with this size field -/
theorem goodUnit_bare (o : Obu) (hwf : hdrWF o.hdr = true) (hk : o.kept = true) :
    goodUnit o.bare ∧ sizedOf o.bare = o.sized := by
  have hwf' : hdrWF { o.hdr with hasSize := false } = true := hwf
  have hp := parse_marshal { o.hdr with hasSize := false } hwf' o.payload
  have hsz : ({ o.hdr with hasSize := false } : ObuHeader).size = o.hdr.size := rfl
  constructor
  · refine ⟨{ o.hdr with hasSize := false }, hp, rfl, ?_, ?_⟩
    · simp only [Obu.kept, Bool.and_eq_true, bne_iff_ne] at hk; exact hk.1
    · simp only [Obu.kept, Bool.and_eq_true, bne_iff_ne] at hk; exact hk.2
  · unfold sizedOf
    rw [show o.bare = ({ o.hdr with hasSize := false } : ObuHeader).marshal ++ o.payload from rfl, hp]
    simp only [Obu.sized, List.length_append, marshal_length, hsz]
    rw [List.drop_left' (by rw [marshal_length]; rfl)]
    simp

theorem okBytes_map_ok (outs : List Bytes) : Pred.C13.okBytes ((outs.map Res.ok).map Res.coarse) = some outs := by
  induction outs with
  | nil => rfl
  | cons a as ih =>
    simp only [List.map_cons, Res.coarse, Pred.C13.okBytes, ih]
    rfl

theorem obusWF_mem (obus : List Obu) (h : obusWF obus = true) : ∀ o ∈ obus, hdrWF o.hdr = true := by
  induction obus with
  | nil => simp
  | cons o os ih =>
    obtain ⟨ho, _, _, hos⟩ := obusWF_cons o os h
    intro x hx
    rcases List.mem_cons.mp hx with rfl | hx
    · exact ho
    · exact ih hos x hx

theorem zip_map_all {α β : Type} (l : List α) (f : α → β) (g : α × β → Bool) :
    (l.zip (l.map f)).all g = l.all (fun x => g (x, f x)) := by
  induction l with
  | nil => rfl
  | cons a as ih => simp [ih]

theorem normaliseSized_eq (obus : List Obu) (hwf : obusWF obus = true) :
    normaliseSized obus = (normalise obus).map sizedOf := by
  unfold normalise normaliseSized
  rw [List.map_map]
  refine (List.map_congr_left fun o ho => ?_).symm
  rw [List.mem_filter] at ho
  exact (goodUnit_bare o (obusWF_mem obus hwf o ho.1) ho.2).2

theorem payload_facts (mtu : Nat) (hm : 2 ≤ mtu) (hs : mtu ≤ 65535) (obus : List Obu)
    (hwf : obusWF obus = true) :
    let pks := payloadPks mtu (serialise obus)
    (∀ p ∈ pks, PkGood p) ∧ zyChain false (pks.map Pk.toPacket) = true ∧
    (units (pks.map Pk.toPacket)).map (·.bytes) = normalise obus ∧
    (∀ u ∈ units (pks.map Pk.toPacket), goodUnit u.bytes) ∧
    ((units (pks.map Pk.toPacket)).map (fun u => sizedOf u.bytes)) = normaliseSized obus := by
  dsimp only
  obtain ⟨us, hf⟩ := payloadPks_spec mtu hm hs (serialise obus)
  have hgood := pkGood_of_final mtu hs _ us _ hf
  have hun := hf.units
  have hchain := hf.chain
  have hbytes : us.map (·.bytes) = normalise obus := by
    rw [hf.bytes, walk_serialise obus hwf _ (Nat.le_refl _), flushedOf_map]
  have hall := obusWF_mem obus hwf
  have hnorm : ∀ b ∈ normalise obus, goodUnit b := by
    intro b hb
    simp only [normalise, List.mem_map, List.mem_filter] at hb
    obtain ⟨o, ⟨ho, hk⟩, rfl⟩ := hb
    exact (goodUnit_bare o (hall o ho) hk).1
  refine ⟨hgood, hchain, by rw [hun]; exact hbytes, ?_, ?_⟩
  · intro u hu
    rw [hun] at hu
    have : u.bytes ∈ normalise obus := by rw [← hbytes]; exact List.mem_map.mpr ⟨u, hu, rfl⟩
    exact hnorm _ this
  · rw [hun, normaliseSized_eq obus hwf, ← hbytes, List.map_map]
    rfl

/-- the predicate of kind `c13.rt` holds of the model for every MTU ≥ 2 and every well-formed OBU
    sequence -/
theorem rt_pred (mtu : UInt16) (hm : 2 ≤ mtu.toNat) (obus : List Obu)
    (hwf : obusWF obus = true) :
    Pred.C13.rt mtu.toNat obus (rtObs mtu (serialise obus)) = true := by
  have hs := u16_toNat_le mtu
  obtain ⟨hgood, hchain, hbytes, hunits, hsized⟩ := payload_facts mtu.toNat hm hs obus hwf
  have hrules := payload_rules mtu.toNat hm hs (serialise obus)
  have hden := payload_denote mtu.toNat hm hs (serialise obus)
  rw [walk_serialise obus hwf _ (Nat.le_refl _), flushedOf_map] at hden
  obtain ⟨outs, hd1, hd2⟩ := DepackRT.depFeed_encode _ hgood hchain hunits
  have hfr := FramesRT.framesOf_encode _ hgood hchain
  have hol : outs.length = (payloadPks mtu.toNat (serialise obus)).length := by
    have := congrArg List.length hd1
    simp only [depFeed_length, List.length_map] at this
    exact this.symm
  unfold Pred.C13.rt rtObs
  rw [AV1B.payloadB_eq, payload_eq mtu _ hm]
  -- conjunct by conjunct: hrules (rulesOK), hden (denote), viewOf/parsePacket (views), hfr with
  -- hbytes (frames), hd1, hd2, hsized (depack)
  simp only [Bool.not_false, Bool.true_and, Pred.C13.rtWF, hm, decide_true, hwf, Bool.and_self,
    Bool.not_true, Bool.false_or, hrules, hden, BEq.rfl, List.length_map, hfr, hbytes,
    hd1, okBytes_map_ok, Option.map_some, hd2, hsized, zip_map_all]
  simp only [hol, BEq.rfl, Bool.and_true, List.all_eq_true]
  intro x hx
  obtain ⟨p, hp, rfl⟩ := List.mem_map.mp hx
  simp only [Pred.C13.viewMatches, parsePacket_encode p (hgood p hp).shape,
    FramesRT.viewOf_encode p (hgood p hp), Pk.toPacket]
  simp

end Rtp.Model.AV1
