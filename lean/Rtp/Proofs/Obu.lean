/-
  Rtp/Proofs/Obu.lean — OBU header parse/marshal are mutually inverse (C13), and what
  ParseOBUHeader accepts and rejects in the terms of `Pred.C13` (`parse_fields`, `parse_err`).
  Round trips of single bytes are settled by kernel evaluation, over all 256 bytes (`forall_u8`) or
  over the field values (bounded `UInt8`s written as `UInt8.ofNat` of a `Fin`); fields as numbers
  come from the bit-field lemmas; the headers themselves are handled structurally.
-/
import Rtp.Go.Bits
import Rtp.Model.AV1Obs
import Rtp.Proofs.Lib.BitField
namespace Rtp.Model.ObuLemmas
open Rtp Rtp.Model Rtp.Bits Rtp.Spec.Av1Rtp

theorem ext_marshal_parse : ∀ b : UInt8, (parseExtHdr b).marshal = b := by
  apply forall_u8; decide +kernel

theorem ext_fields (b : UInt8) :
    (parseExtHdr b).temporalID.toNat = b.toNat / 32 ∧
    (parseExtHdr b).spatialID.toNat = b.toNat / 8 % 4 ∧
    (parseExtHdr b).reserved3.toNat = b.toNat % 8 :=
  ⟨u8_shr b 5 5 rfl, u8_shr_and b 3 0x03 3 2 rfl rfl, u8_and_mask b 0x07 3 rfl⟩

theorem ext_parse_wf : ∀ b : UInt8, extWF (parseExtHdr b) = true := by
  apply forall_u8; decide +kernel

theorem ext_parse_marshal (e : ExtHdr) (h : extWF e = true) : parseExtHdr e.marshal = e := by
  obtain ⟨t, s, r⟩ := e
  simp only [extWF, Bool.and_eq_true, decide_eq_true_eq, UInt8.lt_iff_toNat_lt] at h
  obtain ⟨⟨ht, hs⟩, hr⟩ := h
  -- the fields as `Fin`s, so that the kernel can run through them
  obtain ⟨t', rfl⟩ : ∃ t' : Fin 8, t = UInt8.ofNat t'.val := ⟨⟨t.toNat, ht⟩, (UInt8.ofNat_toNat).symm⟩
  obtain ⟨s', rfl⟩ : ∃ s' : Fin 4, s = UInt8.ofNat s'.val := ⟨⟨s.toNat, hs⟩, (UInt8.ofNat_toNat).symm⟩
  obtain ⟨r', rfl⟩ : ∃ r' : Fin 8, r = UInt8.ofNat r'.val := ⟨⟨r.toNat, hr⟩, (UInt8.ofNat_toNat).symm⟩
  clear ht hs hr
  revert t' s' r'
  decide +kernel

/-- the first header byte as assembled by Marshal from a type and three flags -/
def mkByte0 (t : UInt8) (e s r : Bool) : UInt8 :=
  ((t &&& 0x0f) <<< 3) ||| (if e then 0x04 else 0) ||| (if s then 0x02 else 0) |||
  (if r then 0x01 else 0)

theorem byte0_eq (h : ObuHeader) : h.byte0 = mkByte0 h.type h.ext.isSome h.hasSize h.reserved1 := rfl

theorem byte0_fields (t : UInt8) (ht : t < 16) (e s r : Bool) :
    (mkByte0 t e s r &&& 0x80 != 0) = false ∧ (mkByte0 t e s r &&& 0x78) >>> 3 = t ∧
    (mkByte0 t e s r &&& 0x04 != 0) = e ∧ (mkByte0 t e s r &&& 0x02 != 0) = s ∧
    (mkByte0 t e s r &&& 0x01 != 0) = r := by
  obtain ⟨t', rfl⟩ : ∃ t' : Fin 16, t = UInt8.ofNat t'.val :=
    ⟨⟨t.toNat, UInt8.lt_iff_toNat_lt.mp ht⟩, (UInt8.ofNat_toNat).symm⟩
  clear ht
  revert t' e s r
  decide +kernel

/-- parse then marshal, first byte: a byte with the forbidden bit clear is rebuilt from its fields -/
theorem byte0_rebuild : ∀ b : UInt8, (b &&& 0x80 != 0) = false →
    mkByte0 ((b &&& 0x78) >>> 3) (b &&& 0x04 != 0) (b &&& 0x02 != 0) (b &&& 0x01 != 0) = b := by
  apply forall_u8; decide +kernel

theorem byte0_arith (b : UInt8) :
    (b &&& 0x80 != 0) = !decide (b.toNat < 128) ∧
    ((b &&& 0x78) >>> 3).toNat = b.toNat / 8 % 16 ∧
    (b &&& 0x04 != 0) = (b.toNat / 4 % 2 == 1) ∧
    (b &&& 0x02 != 0) = (b.toNat / 2 % 2 == 1) ∧
    (b &&& 0x01 != 0) = (b.toNat % 2 == 1) ∧
    ((b &&& 0x78) >>> 3 < 16) := by
  have hb := b.toNat_lt
  have h2 : ((b &&& 0x78) >>> 3).toNat = b.toNat / 8 % 16 := u8_and_shr b 0x78 3 3 4 rfl rfl
  refine ⟨?_, h2, u8_bit b 0x04 2 rfl, u8_bit b 0x02 1 rfl, ?_, ?_⟩
  · rw [u8_bit b 0x80 7 rfl, Bool.eq_iff_iff]
    simp only [beq_iff_eq, Bool.not_eq_true', decide_eq_false_iff_not]
    omega
  · rw [u8_bit b 0x01 0 rfl, Nat.pow_zero, Nat.div_one]
  · rw [UInt8.lt_iff_toNat_lt, h2]
    exact Nat.mod_lt _ (by decide)

theorem marshal_length (h : ObuHeader) : h.marshal.length = h.size := by
  unfold ObuHeader.marshal ObuHeader.size; cases h.ext <;> simp

theorem size_pos (h : ObuHeader) : 1 ≤ h.size := by unfold ObuHeader.size; split <;> omega
theorem size_le (h : ObuHeader) : h.size ≤ 2 := by unfold ObuHeader.size; split <;> omega

theorem parse_marshal (h : ObuHeader) (hwf : hdrWF h = true) (rest : Bytes) :
    parseObuHeader (h.marshal ++ rest) = .ok h := by
  obtain ⟨t, e, s, r⟩ := h
  simp only [hdrWF, Bool.and_eq_true, decide_eq_true_eq] at hwf
  obtain ⟨ht, he⟩ := hwf
  cases e with
  | none =>
    obtain ⟨h1, h2, h3, h4, h5⟩ := byte0_fields t ht false s r
    simp only [ObuHeader.marshal, byte0_eq, Option.isSome_none, List.cons_append, List.nil_append,
      parseObuHeader, h1, h2, h3, h4, h5]
    simp
  | some e =>
    obtain ⟨h1, h2, h3, h4, h5⟩ := byte0_fields t ht true s r
    simp only [ObuHeader.marshal, byte0_eq, Option.isSome_some, List.cons_append, List.nil_append,
      parseObuHeader, h1, h2, h3, h4, h5]
    simp [ext_parse_marshal e he]

/-- what a successful ParseOBUHeader says about its input: forbidden bit clear, and the header is
    read off the first byte, plus the second if the extension flag is set -/
theorem parse_ok_inv (bs : Bytes) (h : ObuHeader) (hp : parseObuHeader bs = .ok h) :
    ∃ b0 rest, bs = b0 :: rest ∧ (b0 &&& 0x80 != 0) = false ∧
      ((b0 &&& 0x04 != 0) = false ∧
          h = ⟨(b0 &&& 0x78) >>> 3, none, b0 &&& 0x02 != 0, b0 &&& 0x01 != 0⟩ ∨
        (b0 &&& 0x04 != 0) = true ∧ ∃ b1 rest', rest = b1 :: rest' ∧
          h = ⟨(b0 &&& 0x78) >>> 3, some (parseExtHdr b1), b0 &&& 0x02 != 0, b0 &&& 0x01 != 0⟩) := by
  match bs with
  | [] => simp [parseObuHeader] at hp
  | b0 :: rest =>
    simp only [parseObuHeader] at hp
    split at hp
    · cases hp
    · rename_i hf
      refine ⟨b0, rest, rfl, by simpa using hf, ?_⟩
      split at hp
      · rename_i he
        match rest, hp with
        | b1 :: rest', hp => exact Or.inr ⟨he, b1, rest', rfl, (Res.ok.inj hp).symm⟩
      · rename_i he
        exact Or.inl ⟨by simpa using he, (Res.ok.inj hp).symm⟩

theorem marshal_parse (bs : Bytes) (h : ObuHeader) (hp : parseObuHeader bs = .ok h) :
    h.marshal = bs.take h.size := by
  obtain ⟨b0, rest, rfl, hf, ⟨he, rfl⟩ | ⟨he, b1, rest', rfl, rfl⟩⟩ := parse_ok_inv bs h hp
  · have hb := byte0_rebuild b0 hf
    rw [he] at hb
    simp [ObuHeader.marshal, ObuHeader.size, byte0_eq, hb]
  · have hb := byte0_rebuild b0 hf
    rw [he] at hb
    simp [ObuHeader.marshal, ObuHeader.size, byte0_eq, hb, ext_marshal_parse]

theorem parse_wf (bs : Bytes) (h : ObuHeader) (hp : parseObuHeader bs = .ok h) : hdrWF h = true := by
  obtain ⟨b0, rest, rfl, _, ⟨_, rfl⟩ | ⟨_, b1, rest', rfl, rfl⟩⟩ := parse_ok_inv bs h hp <;>
    simp [hdrWF, (byte0_arith b0).2.2.2.2.2, ext_parse_wf]

theorem parse_size_le (bs : Bytes) (h : ObuHeader) (hp : parseObuHeader bs = .ok h) :
    h.size ≤ bs.length := by
  obtain ⟨b0, rest, rfl, _, ⟨_, rfl⟩ | ⟨_, b1, rest', rfl, rfl⟩⟩ := parse_ok_inv bs h hp <;>
    simp [ObuHeader.size]

open Rtp.Pred.C13 in
/-- a successful parse: the input was readable and the fields are the div/mod fields of the bytes -/
theorem parse_fields (bs : Bytes) (h : ObuHeader) (hp : parseObuHeader bs = .ok h) :
    hdrReadable bs = true ∧ fieldsOK bs h = true := by
  obtain ⟨b0, rest, rfl, hf, hcase⟩ := parse_ok_inv bs h hp
  obtain ⟨a1, a2, a3, a4, a5, _⟩ := byte0_arith b0
  have hlt : b0.toNat < 128 := by rw [a1] at hf; simpa using hf
  rw [a3] at hcase
  rcases hcase with ⟨he, rfl⟩ | ⟨he, b1, rest', rfl, rfl⟩
  · have he' : b0.toNat / 4 % 2 = 0 := by
      have := Nat.mod_lt (b0.toNat / 4) (show 0 < 2 by decide)
      simp only [beq_eq_false_iff_ne, ne_eq] at he; omega
    simp [hdrReadable, fieldsOK, hlt, a2, a4, a5, he']
  · obtain ⟨e1, e2, e3⟩ := ext_fields b1
    simp only [beq_iff_eq] at he
    simp [hdrReadable, fieldsOK, hlt, a2, a4, a5, e1, e2, e3, he]

open Rtp.Pred.C13 in
theorem parse_err (bs : Bytes) (e : Err) (hp : parseObuHeader bs = .err e) : hdrReadable bs = false := by
  match bs with
  | [] => rfl
  | b0 :: rest =>
    simp only [parseObuHeader] at hp
    obtain ⟨a1, _, a3, _⟩ := byte0_arith b0
    split at hp
    · rename_i hf
      rw [a1] at hf
      simp only [Bool.not_eq_eq_eq_not, Bool.not_true, decide_eq_false_iff_not] at hf
      simp [hdrReadable, hf]
    · split at hp
      · rename_i he
        match rest, hp with
        | [], _ =>
          rw [a3] at he
          simp only [beq_iff_eq] at he
          simp [hdrReadable, he]
      · cases hp

theorem parse_ne_panic (bs : Bytes) : parseObuHeader bs ≠ .panic := by
  match bs with
  | [] => simp [parseObuHeader]
  | b0 :: rest =>
    simp only [parseObuHeader]
    split
    · simp
    · split
      · cases rest <;> simp
      · simp

end Rtp.Model.ObuLemmas
