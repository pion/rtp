/-
  Rtp/Proofs/Ntp.lean — the NTP conversions of Rtp/Model/Ntp.lean in closed form (C18; the packetizer's
  abs-send-time element, C06, rests on the same forms).

  The Go code converts between nanoseconds and units of 2^-32 s by splitting a number into seconds and
  fraction.  Both conversions are single floors, `up x = ⌊x·2^32/10^9⌋` and `down y = ⌊y·10^9/2^32⌋`, shifted
  by the 1900→1970 epoch offset and reduced modulo 2^64.
  (1) `toNtpTime`, `toTime`, `Estimate` are characterised for ALL 64-bit inputs by closed formulas on `Nat`
  (`ntpNat`, `timeNat`, `estimateNat`), and these are brought to the single-floor form;
  (2) the property's inequalities follow from `down (up x) ∈ {x − 1, x}` (any `x`) and from the two epoch
  shifts cancelling; `omega` does the linear steps between the bounds of the floors;
  (3) `Int64`/`UInt64` conversions at the boundary are no-ops on the stated ranges.
-/
import Rtp.Model.Ntp
import Rtp.Pred.C18
import Rtp.Proofs.Lib.BitField
import Rtp.Proofs.Lib.Arith
import Rtp.Proofs.Lib.Int64
namespace Rtp.Proofs.Ntp
open Rtp Rtp.Model.Ntp

/-- `toNtpTime` as a closed formula on naturals (all inputs); 2208988800 = 0x83AA7E80 is Go's
    `ntpEpochOffset`, the seconds from 1900 to 1970 -/
def ntpNat (u : Nat) : Nat :=
  (u / 1000000000 + 2208988800) % 4294967296 * 4294967296 + u % 1000000000 * 4294967296 / 1000000000
/-- `toTime` as a closed formula on naturals (all inputs); 18446744071500562816 = 2^64 − 2208988800:
    subtracting the epoch offset in `uint64` -/
def timeNat (t : Nat) : Nat :=
  ((t / 4294967296 + 18446744071500562816) % 18446744073709551616 * 1000000000 +
    t % 4294967296 * 1000000000 / 4294967296) % 18446744073709551616

/-- nanoseconds → units of 2^-32 s, rounded down -/
def up (x : Nat) : Nat := x * 4294967296 / 1000000000
/-- units of 2^-32 s → nanoseconds, rounded down -/
def down (y : Nat) : Nat := y * 1000000000 / 4294967296

theorem up_split (x : Nat) : up x = x / 1000000000 * 4294967296 + up (x % 1000000000) :=
  scaled_div x _ _ (by decide)

theorem down_split (y : Nat) : down y = y / 4294967296 * 1000000000 + down (y % 4294967296) :=
  scaled_div y _ _ (by decide)

theorem up_lt (x k : Nat) (h : x < k * 1000000000) : up x < k * 4294967296 := by
  apply Nat.div_lt_of_lt_mul
  rw [← Nat.mul_assoc, Nat.mul_comm 1000000000 k]
  exact Nat.mul_lt_mul_of_pos_right h (by decide)

theorem up_mod_lt (x : Nat) : up (x % 1000000000) < 4294967296 :=
  up_lt _ 1 (Nat.mod_lt _ (by decide))

theorem up_pos (x : Nat) (h : 0 < x) : 0 < up x :=
  Nat.div_pos (by omega) (by decide)

theorem up_bounds (x : Nat) :
    1000000000 * up x ≤ x * 4294967296 ∧ x * 4294967296 < 1000000000 * up x + 1000000000 :=
  div_bounds _ _ (by decide)

theorem down_bounds (y : Nat) :
    4294967296 * down y ≤ y * 1000000000 ∧ y * 1000000000 < 4294967296 * down y + 4294967296 :=
  div_bounds _ _ (by decide)

/-- ns → 2^-32 s → ns loses at most one nanosecond, whatever the number.  (Here and below the floors are
    made opaque before `omega` runs: it then sees only their two bounds.) -/
theorem down_up (x : Nat) : down (up x) ≤ x ∧ x ≤ down (up x) + 1 := by
  have a := up_bounds x
  have b := down_bounds (up x)
  generalize down (up x) = g at b ⊢
  generalize up x = f at a b
  omega

theorem up_diff (a d : Nat) :
    up a ≤ up (a + d) ∧ 1000000000 * up (a + d) < 1000000000 * up a + d * 4294967296 + 1000000000 := by
  have x := up_bounds a
  have y := up_bounds (a + d)
  generalize up (a + d) = g at y ⊢
  generalize up a = f at x ⊢
  omega

/-! ### `ntpNat`, `timeNat` as single floors -/

theorem mul_add_mod_mul (a b m n : Nat) (hb : b < m) : (a * m + b) % (n * m) = a % n * m + b := by
  have hm : 0 < m := Nat.lt_of_le_of_lt (Nat.zero_le b) hb
  rw [Nat.mul_comm n m, Nat.mod_mul, Nat.mul_add_mod_self_right, Nat.mod_eq_of_lt hb, Nat.add_comm (a * m) b,
    Nat.add_mul_div_right _ _ hm, Nat.div_eq_of_lt hb, Nat.zero_add, Nat.add_comm, Nat.mul_comm]

/-- the seconds-and-fraction arithmetic of `toNtpTime` is one floor of the exact rational conversion -/
theorem ntpNat_eq (u : Nat) :
    ntpNat u = (up u + 2208988800 * 4294967296) % 18446744073709551616 := by
  show _ % 4294967296 * 4294967296 + up (u % 1000000000) = _
  rw [up_split u, Nat.add_right_comm, ← Nat.add_mul,
    show (18446744073709551616 : Nat) = 4294967296 * 4294967296 from rfl,
    mul_add_mod_mul _ _ _ _ (up_mod_lt u)]

theorem ntpNat_lt (u : Nat) : ntpNat u < 18446744073709551616 := by
  rw [ntpNat_eq]; exact Nat.mod_lt _ (by decide)

/-- 2085978496 = 2^32 − 2208988800 seconds after 1970 the NTP era ends (`Pred.C18.eraEndNs`); before that the
    seconds field does not wrap -/
theorem ntpNat_of_lt (u : Nat) (h : u < 2085978496 * 1000000000) :
    ntpNat u = up u + 2208988800 * 4294967296 := by
  rw [ntpNat_eq, Nat.mod_eq_of_lt]
  have := up_lt u _ h
  omega

theorem timeNat_eq (t : Nat) :
    timeNat t = (down t + 18446744071500562816 * 1000000000) % 18446744073709551616 := by
  unfold timeNat
  rw [Nat.add_mod, Nat.mul_mod, Nat.mod_mod, ← Nat.mul_mod, ← Nat.add_mod, down_split t, Nat.add_mul]
  congr 1
  exact Nat.add_right_comm _ _ _

/-- the two epoch shifts cancel -/
theorem timeNat_add_epoch (g : Nat) : timeNat (g + 2208988800 * 4294967296) = down g % 18446744073709551616 := by
  rw [timeNat_eq]
  unfold down
  rw [Nat.add_mul, Nat.mul_right_comm 2208988800, Nat.add_mul_div_right _ _ (by decide), Nat.add_assoc,
    ← Nat.add_mul, show (2208988800 + 18446744071500562816 : Nat) = 18446744073709551616 from rfl,
    Nat.add_mul_mod_self_left]

theorem timeNat_ntpNat (u : Nat) (h : u < 2085978496 * 1000000000) : timeNat (ntpNat u) = down (up u) := by
  rw [ntpNat_of_lt u h, timeNat_add_epoch, Nat.mod_eq_of_lt]
  have := (down_up u).1
  omega

/-! ### the `UInt64` functions compute the closed forms -/

theorem toNtpTime_toNat (u : UInt64) : (toNtpTime u).toNat = ntpNat u.toNat := by
  have hu := u.toNat_lt
  have hq : (u.toNat / 1000000000 + 2208988800) % 2 ^ 64 = u.toNat / 1000000000 + 2208988800 :=
    Nat.mod_eq_of_lt (by have := Nat.div_le_self u.toNat 1000000000; omega)
  have hr : u.toNat % 1000000000 % 2 ^ (64 - 32) = u.toNat % 1000000000 :=
    Nat.mod_eq_of_lt (Nat.lt_trans (Nat.mod_lt _ (by decide)) (by decide))
  simp only [toNtpTime, ntpEpochOffset, UInt64.toNat_or, u64_shl _ 32 32 rfl (by decide), UInt64.toNat_div,
    UInt64.toNat_add, UInt64.toNat_mod, show (1000000000 : UInt64).toNat = 1000000000 from rfl,
    show (0x83AA7E80 : UInt64).toNat = 2208988800 from rfl, hq, hr]
  exact Bits.nat_mul_or _ _ 32 (up_mod_lt _)

theorem toTime_toNat (t : UInt64) : (toTime t).toNat = timeNat t.toNat := by
  simp only [toTime, ntpEpochOffset, UInt64.toNat_add, UInt64.toNat_mul, UInt64.toNat_sub,
    u64_shr _ 32 32 rfl, u64_and_mask _ 0xFFFFFFFF 32 rfl, show (1000000000 : UInt64).toNat = 1000000000 from rfl,
    show (0x83AA7E80 : UInt64).toNat = 2208988800 from rfl, timeNat]
  have h1 : t.toNat % 2 ^ 32 * 1000000000 % 2 ^ 64 = t.toNat % 4294967296 * 1000000000 :=
    Nat.mod_eq_of_lt (Nat.lt_trans (Nat.mul_lt_mul_of_pos_right (Nat.mod_lt _ (by decide)) (by decide)) (by decide))
  have e : 2 ^ 64 - 2208988800 + t.toNat / 2 ^ 32 = t.toNat / 4294967296 + 18446744071500562816 := Nat.add_comm _ _
  rw [h1, e, Nat.mod_add_mod]

/-! ### the ranges of the property, in numerals -/
section
open Rtp.Pred.C18

theorem instantOk_iff (t : Int) : instantOk t = true ↔ 0 ≤ t ∧ t < 2085978496000000000 := by
  simp only [instantOk, Bool.and_eq_true, decide_eq_true_eq, show eraEndNs = 2085978496000000000 from by decide]

/-- "less than 64 s − 2^-18 s", multiplied out by 2^18 = 262144 -/
theorem delayOk_iff (d : Int) :
    delayOk d = true ↔ 0 ≤ d ∧ d * 262144 + 1000000000 < 64 * 1000000000 * 262144 := by
  simp only [delayOk, Bool.and_eq_true, decide_eq_true_eq, show (2 : Int) ^ 18 = 262144 from rfl]

theorem offsetOk_iff (d : Int) :
    offsetOk d = true ↔ -2147483648000000000 < d ∧ d < 2147483648000000000 := by
  simp only [offsetOk, Bool.and_eq_true, decide_eq_true_eq,
    show (2 : Int) ^ 31 * 1000000000 = 2147483648000000000 from rfl]

end

open Rtp.Pred.C18 in
/-- on the property's range the capture timestamp comes back as `down ∘ up` of the instant -/
theorem capture_eq (t : Int64) (h : instantOk t.toInt = true) :
    (captureTime (captureTimestamp t)).toInt = down (up t.toInt.toNat) := by
  rw [instantOk_iff] at h
  have hc := (down_up t.toInt.toNat).1
  refine toInt_toInt64 _ _ ?_ (by omega)
  rw [captureTimestamp, toTime_toNat, toNtpTime_toNat, toNat_of_nonneg t h.1, timeNat_ntpNat _ (by omega)]

/-- keeping the top 26 bits of a 64-bit number -/
theorem and_himask (x : Nat) (hx : x < 2 ^ 64) : x &&& 0xFFFFFFC000000000 = x / 2 ^ 38 * 2 ^ 38 :=
  (Bits.nat_and_shl x 38 26).trans
    (congrArg (· * 2 ^ 38) (Nat.mod_eq_of_lt (Nat.div_lt_of_lt_mul (n := 2 ^ 38) (k := 2 ^ 26) hx)))

/-- `Estimate` as a closed formula on naturals (all inputs): 2^38 = 274877906944 is one period of
    the 24-bit field in NTP units, 2^14 = 16384 its resolution, 2^64 − 2^38 = 18446743798831644672 -/
def estimateNat (ts recv : Nat) : Nat :=
  timeNat
    (if ntpNat recv < ntpNat recv / 274877906944 * 274877906944 + ts % 16777216 * 16384
     then (18446743798831644672 + (ntpNat recv / 274877906944 * 274877906944 + ts % 16777216 * 16384)) %
        18446744073709551616
     else ntpNat recv / 274877906944 * 274877906944 + ts % 16777216 * 16384)

theorem estimate_toNat (ts recv : UInt64) : (estimate ts recv).toNat = estimateNat ts.toNat recv.toNat := by
  have hntp : ((toNtpTime recv &&& 0xFFFFFFC000000000) ||| ((ts &&& 0xFFFFFF) <<< (14 : UInt64))).toNat =
      ntpNat recv.toNat / 274877906944 * 274877906944 + ts.toNat % 16777216 * 16384 := by
    have h1 : ts.toNat % 2 ^ 24 % 2 ^ (64 - 14) = ts.toNat % 2 ^ 24 :=
      Nat.mod_eq_of_lt (Nat.lt_trans (Nat.mod_lt _ (by decide)) (by decide))
    have h2 : ts.toNat % 2 ^ 24 * 2 ^ 14 < 2 ^ 38 :=
      Nat.mul_lt_mul_of_pos_right (Nat.mod_lt _ (by decide)) (by decide)
    rw [UInt64.toNat_or, UInt64.toNat_and, toNtpTime_toNat,
      show (0xFFFFFFC000000000 : UInt64).toNat = 0xFFFFFFC000000000 from rfl, and_himask _ (ntpNat_lt _),
      u64_shl _ 14 14 rfl (by decide), u64_and_mask _ 0xFFFFFF 24 rfl, h1, Bits.nat_mul_or _ _ 38 h2]
  unfold estimate estimateNat
  simp only [toTime_toNat, apply_ite UInt64.toNat, UInt64.toNat_sub, hntp, UInt64.lt_iff_toNat_lt, toNtpTime_toNat,
    show ((0x1000000 : UInt64) <<< (14 : UInt64)).toNat = 274877906944 from rfl]

theorem estimateNat_mod (x r : Nat) : estimateNat (x % 16777216) r = estimateNat x r := by
  unfold estimateNat; rw [Nat.mod_mod]

/-- the candidate in the receive time's period, moved one period down if it lies after the receive time,
    is the grid point `S`, provided `S` is at most one period before the receive time `Rf` -/
theorem splice (S Rf : Nat) (h1 : S ≤ Rf) (h2 : Rf < S + 274877906944) (h3 : S < 18446744073709551616) :
    (if Rf % 18446744073709551616 <
        Rf % 18446744073709551616 / 274877906944 * 274877906944 + S % 274877906944
     then (18446743798831644672 + (Rf % 18446744073709551616 / 274877906944 * 274877906944 + S % 274877906944)) %
        18446744073709551616
     else Rf % 18446744073709551616 / 274877906944 * 274877906944 + S % 274877906944) = S := by
  split <;> omega

theorem grid_field (x : Nat) : x / 16384 % 16777216 * 16384 = x / 16384 * 16384 % 274877906944 := by
  rw [show (274877906944 : Nat) = 16777216 * 16384 from rfl, Nat.mul_mod_mul_right]

/-- the epoch offset is a whole number of grid steps -/
theorem grid_add_epoch (x : Nat) :
    (x + 2208988800 * 4294967296) / 16384 * 16384 = x / 16384 * 16384 + 2208988800 * 4294967296 := by
  rw [show 2208988800 * 4294967296 = 579073159987200 * 16384 from rfl, Nat.add_mul_div_right _ _ (by decide),
    Nat.add_mul]

/-- the send instant rounded down to the field's 2^-18 s grid, via NTP units and back — what `Estimate` returns -/
def gridNs (send : Nat) : Nat := down (up send / 16384 * 16384)

/-- the grid point is at most 3815 ns (one grid step, 2^14·10^9/2^32 ns, and the two roundings) below the instant -/
theorem gridNs_bounds (send : Nat) : gridNs send ≤ send ∧ send ≤ gridNs send + 3815 := by
  have a := up_bounds send
  have c := down_bounds (up send / 16384 * 16384)
  unfold gridNs
  generalize down (up send / 16384 * 16384) = g at c ⊢
  generalize up send = f at a c
  omega

/-- `Estimate` does not depend on the delay at all, as long as it is in range -/
theorem estimateNat_eq_gridNs (send delay : Nat) (hs : send < 2085978496 * 1000000000)
    (hd : delay * 262144 + 1000000000 < 64 * 1000000000 * 262144) :
    estimateNat (ntpNat send / 16384) (send + delay) = gridNs send := by
  -- in NTP units the receive time lies in the period that starts at the grid point below the send time
  have hw : up send / 16384 * 16384 ≤ up (send + delay) ∧
      up (send + delay) < up send / 16384 * 16384 + 274877906944 := by
    have := up_diff send delay
    omega
  have hlt : up send / 16384 * 16384 + 2208988800 * 4294967296 < 18446744073709551616 :=
    Nat.lt_of_le_of_lt (Nat.add_le_add_right (Nat.div_mul_le_self _ _) _) (by have := up_lt send _ hs; omega)
  unfold estimateNat
  rw [ntpNat_of_lt send hs, ntpNat_eq (send + delay), grid_field, grid_add_epoch,
    splice _ _ (Nat.add_le_add_right hw.1 _) (by rw [Nat.add_right_comm]; exact Nat.add_lt_add_right hw.2 _) hlt,
    timeNat_add_epoch]
  exact Nat.mod_eq_of_lt (Nat.lt_of_le_of_lt (gridNs_bounds send).1 (Nat.lt_trans hs (by decide)))

theorem est_lin2 (send q rs g : Nat) (e : 1000000000 * q + rs = send) (h : g ≤ rs ∧ rs ≤ g + 3815) :
    (q + 2208988800 - 2208988800) * 1000000000 + g ≤ send ∧
    send ≤ (q + 2208988800 - 2208988800) * 1000000000 + g + 3815 := by
  rw [Nat.add_sub_cancel, ← e, Nat.mul_comm q, Nat.add_assoc]
  exact ⟨Nat.add_le_add_left h.1 _, Nat.add_le_add_left h.2 _⟩

theorem estimate_nat (send delay : Nat) (hs : send < 2085978496 * 1000000000)
    (hd : delay * 262144 + 1000000000 < 64 * 1000000000 * 262144) :
    estimateNat (ntpNat send / 16384) (send + delay) ≤ send ∧
    send ≤ estimateNat (ntpNat send / 16384) (send + delay) + 3815 := by
  rw [estimateNat_eq_gridNs send delay hs hd]
  exact gridNs_bounds send

theorem absSend24_toNat (u : UInt64) :
    (newAbsSendTime u &&& 0xFFFFFF).toNat = ntpNat u.toNat / 16384 % 16777216 := by
  rw [newAbsSendTime, u64_and_mask _ 0xFFFFFF 24 rfl, u64_shr _ 14 14 rfl, toNtpTime_toNat]

open Rtp.Pred.C18 in
/-- on the property's ranges the estimate is the grid point below the send instant, whatever the delay -/
theorem estimateNs_eq_gridNs (send delay : Int64) (h : estimateWF send delay = true) :
    (estimateNs (sendTimestamp send &&& 0xFFFFFF) (send + delay)).toInt = gridNs send.toInt.toNat := by
  simp only [estimateWF, Bool.and_eq_true, instantOk_iff, delayOk_iff] at h
  have hb := (gridNs_bounds send.toInt.toNat).1
  refine toInt_toInt64 _ _ ?_ (by omega)
  rw [estimate_toNat, sendTimestamp, absSend24_toNat, estimateNat_mod, Int64.toUInt64_add, UInt64.toNat_add,
    toNat_of_nonneg send h.1.1, toNat_of_nonneg delay h.2.1, Nat.mod_eq_of_lt (by omega),
    estimateNat_eq_gridNs _ _ (by omega) (by omega)]

/-! ### Int64 arithmetic on values that do not wrap

  The operands' values are given as naturals and so is the result's, so that the steps of a
  computation chain without a cast in any side goal. -/

theorem bmod64 (n : Int) (h1 : -9223372036854775808 ≤ n) (h2 : n < 9223372036854775808) :
    n.bmod (2 ^ 64) = n := by
  apply Int.bmod_eq_of_le <;> omega

theorem toNat_of_toInt (a : Int64) (x : Nat) (ha : a.toInt = x) : a.toUInt64.toNat = x := by
  rw [toNat_of_nonneg a (by omega), ha, Int.toNat_natCast]

theorem i64_div_nat (a b : Int64) (x y : Nat) (ha : a.toInt = x) (hb : b.toInt = y) :
    (a / b).toInt = (x / y : Nat) := by
  have h1 := Int64.toInt_lt a
  have h2 := Nat.div_le_self x y
  rw [Int64.toInt_div, ha, hb, ← Int.ofNat_tdiv]
  generalize x / y = z at h2 ⊢
  apply bmod64 <;> omega

theorem i64_mod_nat (a b : Int64) (x y : Nat) (ha : a.toInt = x) (hb : b.toInt = y) :
    (a % b).toInt = (x % y : Nat) := by
  rw [Int64.toInt_mod, ha, hb, ← Int.ofNat_tmod]

theorem i64_mul_nat (a b : Int64) (x y : Nat) (ha : a.toInt = x) (hb : b.toInt = y)
    (h : x * y < 9223372036854775808) : (a * b).toInt = (x * y : Nat) := by
  rw [Int64.toInt_mul, ha, hb, ← Int.natCast_mul]
  apply bmod64 <;> omega

theorem i64_add_nat (a b : Int64) (x y : Nat) (ha : a.toInt = x) (hb : b.toInt = y)
    (h : x + y < 9223372036854775808) : (a + b).toInt = (x + y : Nat) := by
  rw [Int64.toInt_add, ha, hb, ← Int.natCast_add]
  apply bmod64 <;> omega

theorem i64_neg (a : Int64) (h : -9223372036854775808 < a.toInt) : (-a).toInt = -a.toInt := by
  rw [Int64.toInt_neg]
  have := Int64.toInt_lt a
  apply bmod64 <;> omega

theorem i64_mask_nat (a : Int64) (x : Nat) (ha : a.toInt = x) : (a &&& 0xFFFFFFFF).toInt = (x % 4294967296 : Nat) := by
  apply toInt_of_toNat
  · rw [Int64.toUInt64_and, u64_and_mask _ _ 32 rfl, toNat_of_toInt a x ha]
  · omega

theorem i64_shl_nat (a : Int64) (x : Nat) (ha : a.toInt = x) (hx : x < 2147483648) :
    (a <<< 32).toInt = (x * 4294967296 : Nat) := by
  apply toInt_of_toNat
  · show (a.toUInt64 <<< 32).toNat = _
    rw [u64_shl _ 32 32 rfl (by decide), toNat_of_toInt a x ha, Nat.mod_eq_of_lt (Nat.lt_trans hx (by decide))]
  · omega

theorem i64_or_nat (a b : Int64) (q f : Nat) (ha : a.toInt = (q * 4294967296 : Nat)) (hb : b.toInt = f)
    (hq : q < 2147483648) (hf : f < 4294967296) : (a ||| b).toInt = (q * 4294967296 + f : Nat) := by
  apply toInt_of_toNat
  · rw [Int64.toUInt64_or, UInt64.toNat_or, toNat_of_toInt a _ ha, toNat_of_toInt b f hb]
    exact Bits.nat_mul_or' (j := 32) rfl q f hf
  · omega

theorem i64_zero : (0 : Int64).toInt = 0 := by decide

/-- Go's `neg := x < 0; if neg { x = -x }; r := f(x); if neg { r = -r }`: when `f` computes `g` on the
    magnitudes below `B`, the whole computes `g` of the magnitude and gives it the sign of `x`.
    `B ≤ 2^63` because negating `MinInt64` wraps. -/
theorem sign_magnitude (f : Int64 → Int64) (g : Nat → Nat) (B : Nat) (hB : B ≤ 9223372036854775808)
    (hf : ∀ (a : Int64) (n : Nat), a.toInt = n → n < B → (f a).toInt = g n)
    (d : Int64) (hn : d.toInt.natAbs < B) :
    (if d < 0 then -(f (if d < 0 then -d else d)) else f (if d < 0 then -d else d)).toInt =
      if d.toInt < 0 then -(g d.toInt.natAbs : Int) else g d.toInt.natAbs := by
  have hlt : d < 0 ↔ d.toInt < 0 := by rw [Int64.lt_iff_toInt_lt, i64_zero]
  by_cases hneg : d.toInt < 0
  · have hm := hf (-d) _ (by rw [i64_neg d (by omega)]; omega) hn
    rw [if_pos (hlt.mpr hneg), if_pos (hlt.mpr hneg), if_pos hneg, i64_neg _ (by rw [hm]; omega), hm]
  · rw [if_neg (mt hlt.mp hneg), if_neg (mt hlt.mp hneg), if_neg hneg]
    exact hf d _ (by omega) hn

/-! ### the clock offset: duration → Q32.32 → duration -/

/-- magnitude part of `encodeOffset` -/
theorem encode_mag (ns : Int64) (n : Nat) (hn : ns.toInt = n) (hr : n < 2147483648 * 1000000000) :
    ((((ns / 1000000000) &&& 0xFFFFFFFF) <<< 32) |||
      ((((ns % 1000000000) * 4294967296) / 1000000000) &&& 0xFFFFFFFF)).toInt = up n := by
  have c1 : (1000000000 : Int64).toInt = (1000000000 : Nat) := by decide
  have c2 : (4294967296 : Int64).toInt = (4294967296 : Nat) := by decide
  have l1 : n / 1000000000 < 2147483648 := Nat.div_lt_of_lt_mul (by rw [Nat.mul_comm]; exact hr)
  have l3 : n % 1000000000 * 4294967296 < 9223372036854775808 :=
    Nat.lt_trans (Nat.mul_lt_mul_of_pos_right (Nat.mod_lt _ (by decide)) (by decide)) (by decide)
  have l4 : n % 1000000000 * 4294967296 / 1000000000 < 4294967296 := up_mod_lt n
  have hlsb := i64_mask_nat _ _ (i64_div_nat _ _ _ _ hn c1)
  rw [Nat.mod_eq_of_lt (Nat.lt_trans l1 (by decide))] at hlsb
  have hmsb := i64_mask_nat _ _ (i64_div_nat _ _ _ _ (i64_mul_nat _ _ _ _ (i64_mod_nat _ _ _ _ hn c1) c2 l3) c1)
  rw [Nat.mod_eq_of_lt l4] at hmsb
  rw [up_split]
  exact i64_or_nat _ _ _ _ (i64_shl_nat _ _ hlsb l1) hmsb l1 l4

theorem decode_no_wrap (n : Nat) (hr : n < 9223372036854775808) :
    n / 4294967296 * 1000000000 < 9223372036854775808 ∧
    n % 4294967296 * 1000000000 < 9223372036854775808 ∧
    n / 4294967296 * 1000000000 + n % 4294967296 * 1000000000 / 4294967296 < 9223372036854775808 := by
  omega

/-- magnitude part of `decodeOffset` -/
theorem decode_mag (o : Int64) (n : Nat) (ho : o.toInt = n) :
    ((o / 4294967296) * 1000000000 + ((o &&& 0xFFFFFFFF) * 1000000000) / 4294967296).toInt = down n := by
  have c1 : (1000000000 : Int64).toInt = (1000000000 : Nat) := by decide
  have c2 : (4294967296 : Int64).toInt = (4294967296 : Nat) := by decide
  have hr : n < 9223372036854775808 := by have := Int64.toInt_lt o; omega
  obtain ⟨l1, l2, l3⟩ := decode_no_wrap n hr
  have hs := i64_mul_nat _ _ _ _ (i64_div_nat _ _ _ _ ho c2) c1 l1
  have hf := i64_div_nat _ _ _ _ (i64_mul_nat _ _ _ _ (i64_mask_nat _ _ ho) c1 l2) c2
  rw [down_split]
  exact i64_add_nat _ _ _ _ hs hf l3

theorem encode_toInt (d : Int64) (hr : d.toInt.natAbs < 2147483648 * 1000000000) :
    (encodeOffset d).toInt = if d.toInt < 0 then -(up d.toInt.natAbs : Int) else up d.toInt.natAbs :=
  sign_magnitude _ up _ (by decide) encode_mag d hr

theorem decode_toInt (o : Int64) (hr : o.toInt.natAbs < 9223372036854775808) :
    (decodeOffset o).toInt = if o.toInt < 0 then -(down o.toInt.natAbs : Int) else down o.toInt.natAbs :=
  sign_magnitude _ down _ (Nat.le_refl _) (fun a n h _ => decode_mag a n h) o hr

theorem natAbs_ite_neg (d : Int) (k : Nat) (hk : d < 0 → 0 < k) :
    (if d < 0 then -(k : Int) else k).natAbs = k ∧ ((if d < 0 then -(k : Int) else k) < 0 ↔ d < 0) := by
  split <;> omega

open Rtp.Pred.C18 in
theorem offset_roundtrip (d : Int64) (h : offsetOk d.toInt = true) :
    (decodeOffset (encodeOffset d)).toInt =
      if d.toInt < 0 then -(down (up d.toInt.natAbs) : Int) else down (up d.toInt.natAbs) := by
  rw [offsetOk_iff] at h
  have hr : d.toInt.natAbs < 2147483648 * 1000000000 := by omega
  -- the stored Q32.32 value has magnitude `up |d|` and, as that is positive for `d ≠ 0`, the sign of `d`
  obtain ⟨hk, hs⟩ := natAbs_ite_neg d.toInt (up d.toInt.natAbs) fun hneg => up_pos _ (by omega)
  rw [← encode_toInt d hr] at hk hs
  rw [decode_toInt _ (by rw [hk]; exact up_lt _ _ hr), hk]
  simp only [hs]

/-! ### the 24-bit abs-send-time as a single floor -/

/-- the epoch offset is a whole number of periods of the field -/
theorem field_add_epoch (x : Nat) :
    (x + 2208988800 * 4294967296) % 18446744073709551616 / 16384 % 16777216 = x / 16384 % 16777216 := by
  rw [← Nat.mod_mul_left_div_self, Nat.mod_mod_of_dvd _ (by decide),
    show 2208988800 * 4294967296 = 34515450 * (16777216 * 16384) from rfl, Nat.add_mul_mod_self_right,
    Nat.mod_mul_left_div_self]

/-- nested floors: the 2^-18 s grid value of an instant -/
theorem grid_floor (u : Nat) : up u / 16384 = u * 262144 / 1000000000 := by
  unfold up
  rw [Nat.div_div_eq_div_mul, show u * 4294967296 = u * 262144 * 16384 by omega,
    Nat.mul_div_mul_right _ _ (by decide)]

/-- the 24-bit abs-send-time of an instant is its 6.18 fixed-point number of seconds modulo 64 s -/
theorem abs_send_time_floor (u : UInt64) :
    (newAbsSendTime u &&& 0xFFFFFF).toNat = u.toNat * 262144 / 1000000000 % 16777216 := by
  rw [absSend24_toNat, ntpNat_eq, field_add_epoch, grid_floor]

end Rtp.Proofs.Ntp
