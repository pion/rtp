/-
  Rtp/Proofs/H265Pay.lean — invariants of `H265Payloader.Payload`: the aggregation buffer size
  bookkeeping is exact, and every emitted packet is non-empty and at most MTU octets long (C08).
-/
import Rtp.Model.H265Obs
namespace Rtp.Model.H265
open Rtp Rtp.Pred

/-- DONL octets in front of a single NAL unit / the first aggregation unit / an FU payload -/
def dn (cfg : Cfg) : Nat := if cfg.addDONL then 2 else 0

/-- number of octets `aggUnits` writes -/
def unitsLen (cfg : Cfg) : Nat → List Bytes → Nat
  | _, [] => 0
  | i, n :: ns => (if cfg.addDONL then (if i == 0 then 2 else 1) else 0) + 2 + n.length + unitsLen cfg (i + 1) ns

/-- `be16` is `Rtp.Model.H265.be16`, the model's name for `Rtp.be16` -/
theorem be16_length (x : UInt16) : (be16 x).length = 2 := rfl

theorem aggUnits_length (cfg : Cfg) (d : UInt16) (i : Nat) (ns : List Bytes) :
    (aggUnits cfg d i ns).length = unitsLen cfg i ns := by
  induction ns generalizing i with
  | nil => rfl
  | cons n ns ih =>
    simp only [aggUnits, unitsLen, List.length_append, be16_length, ih]
    cases cfg.addDONL <;> simp
    split <;> simp [be16_length] <;> omega

theorem unitsLen_append (cfg : Cfg) (i : Nat) (ns : List Bytes) (n : Bytes) :
    unitsLen cfg i (ns ++ [n]) =
      unitsLen cfg i ns + (if cfg.addDONL then (if i + ns.length == 0 then 2 else 1) else 0) + 2 + n.length := by
  induction ns generalizing i with
  | nil => simp [unitsLen]
  | cons m ms ih =>
    simp only [List.cons_append, unitsLen, ih, List.length_cons]
    have e : i + 1 + ms.length = i + (ms.length + 1) := by omega
    rw [e]; omega

theorem aggPacket_length (cfg : Cfg) (d : UInt16) (ns : List Bytes) :
    (aggPacket cfg d ns).length = 2 + unitsLen cfg 0 ns := by
  simp only [aggPacket, List.length_append, be16_length, aggUnits_length]

/-- what `aggregationBufferSize` must be for the buffered units; the 2 is the payload header of the
    aggregation packet, which `calcMarginalAggregationSize` adds when the second unit arrives -/
def aggSize (cfg : Cfg) (buf : List Bytes) : Nat := unitsLen cfg 0 buf + (if 2 ≤ buf.length then 2 else 0)

/-- the invariant between the calls of the closure handed to `emitNalus` (`step`): buffered units have a header, the size bookkeeping is
    exact, and what is buffered fits the MTU -/
structure Inv (cfg : Cfg) (mtu : Nat) (s : St) : Prop where
  hdr : ∀ n ∈ s.buf, 2 ≤ n.length
  agg : s.agg = aggSize cfg s.buf
  fit : s.buf ≠ [] → s.agg ≤ mtu

/-- what C08 asks of the fragments of a call -/
def Bounded (mtu : Nat) (out : List Bytes) : Prop := ∀ f ∈ out, f.length ≤ mtu ∧ f ≠ []

theorem Bounded.nil (mtu : Nat) : Bounded mtu [] := by intro f hf; simp at hf

theorem Bounded.append {mtu : Nat} {a b : List Bytes} (ha : Bounded mtu a) (hb : Bounded mtu b) :
    Bounded mtu (a ++ b) := by
  intro f hf
  rcases List.mem_append.mp hf with h | h
  · exact ha f h
  · exact hb f h

theorem Bounded.singleton {mtu : Nat} {f : Bytes} (hl : f.length ≤ mtu) (hne : f ≠ []) : Bounded mtu [f] := by
  intro g hg
  cases List.mem_singleton.mp hg
  exact ⟨hl, hne⟩

theorem inv_of_empty (cfg : Cfg) (mtu : Nat) (s : St) (hb : s.buf = []) (ha : s.agg = 0) : Inv cfg mtu s :=
  ⟨by simp [hb], by simp [hb, ha, aggSize, unitsLen], by simp [hb]⟩

/-- `aggregationBufferSize` is exactly the length of the aggregation packet written into the
    buffer allocated with that size (so no index is out of range and no octet is left over) -/
theorem agg_exact (cfg : Cfg) (mtu : Nat) (s : St) (h : Inv cfg mtu s) (h2 : 2 ≤ s.buf.length) :
    (aggPacket cfg s.donl s.buf).length = s.agg := by
  rw [aggPacket_length, h.agg, aggSize]; simp [h2]; omega

/-- the packet `flush` emits for one buffered unit -/
def singlePkt (cfg : Cfg) (d : UInt16) (n : Bytes) : Bytes :=
  if cfg.addDONL then n.take 2 ++ be16 d ++ n.drop 2 else n

theorem singlePkt_bounded (cfg : Cfg) (mtu : Nat) (d : UInt16) (n : Bytes) (hn : 2 ≤ n.length)
    (hfit : n.length + dn cfg ≤ mtu) : Bounded mtu [singlePkt cfg d n] := by
  have hl : (singlePkt cfg d n).length = n.length + dn cfg := by
    unfold singlePkt dn
    split
    · simp only [List.length_append, List.length_take, List.length_drop, be16_length]; omega
    · rfl
  exact Bounded.singleton (by omega) (List.length_pos_iff.mp (by omega))

theorem flush_one (cfg : Cfg) (n : Bytes) (a : Nat) (d : UInt16) :
    (flush cfg { buf := [n], agg := a, donl := d }).1 = [singlePkt cfg d n] := by
  simp only [flush, singlePkt]; split <;> rfl

theorem flush_buf_nil (cfg : Cfg) (s : St) : (flush cfg s).2.buf = [] := by
  obtain ⟨buf, agg, donl⟩ := s
  match buf with
  | [] => rfl
  | [n] => simp only [flush]; split <;> rfl
  | _ :: _ :: _ => rfl

theorem flush_agg_zero (cfg : Cfg) (s : St) (h : s.buf ≠ []) : (flush cfg s).2.agg = 0 := by
  obtain ⟨buf, agg, donl⟩ := s
  match buf, h with
  | [n], _ => simp only [flush]; split <;> rfl
  | _ :: _ :: _, _ => rfl

theorem flush_spec (cfg : Cfg) (mtu : Nat) (s : St) (h : Inv cfg mtu s) :
    Bounded mtu (flush cfg s).1 ∧ (flush cfg s).2.buf = [] ∧ (flush cfg s).2.agg = 0 := by
  obtain ⟨buf, agg, donl⟩ := s
  have hagg := h.agg; have hfit := h.fit; have hhdr := h.hdr
  simp only at hagg hfit hhdr
  match buf, hagg, hfit, hhdr with
  | [], hagg, _, _ => exact ⟨Bounded.nil _, rfl, by simpa [flush, aggSize, unitsLen] using hagg⟩
  | [n], hagg, hfit, hhdr =>
    refine ⟨?_, flush_buf_nil cfg _, flush_agg_zero cfg _ (List.cons_ne_nil _ _)⟩
    rw [flush_one]
    refine singlePkt_bounded cfg mtu donl n (hhdr n (by simp)) ?_
    have := hfit (by simp)
    simp only [aggSize, unitsLen, dn] at hagg ⊢
    cases cfg.addDONL <;> simp at hagg ⊢ <;> omega
  | n1 :: n2 :: ns, hagg, hfit, _ =>
    have hle := hfit (by simp)
    simp only [aggSize, List.length_cons] at hagg
    have h2 : 2 ≤ ns.length + 1 + 1 := by omega
    simp only [h2, if_true] at hagg
    refine ⟨Bounded.singleton (by rw [aggPacket_length]; omega) ?_, rfl, rfl⟩
    intro h0
    have : (aggPacket cfg donl (n1 :: n2 :: ns)).length = 0 := by rw [h0]; rfl
    rw [aggPacket_length] at this; omega

theorem fuLoop_bounded (cfg : Cfg) (k : Nat) (b0 b1 : UInt8) (fuel : Nat) (first : Bool) (d : UInt16)
    (l : Bytes) : Bounded (3 + dn cfg + k) (fuLoop cfg k b0 b1 fuel first d l).1 := by
  induction fuel generalizing first d l with
  | zero => intro f hf; simp [fuLoop] at hf
  | succ fuel ih =>
    intro f hf
    simp only [fuLoop] at hf
    split at hf
    · simp at hf
    · simp only [List.mem_cons] at hf
      rcases hf with rfl | hf
      · refine ⟨?_, by simp⟩
        simp only [List.length_append, List.length_cons, List.length_nil, List.length_take, dn]
        cases cfg.addDONL <;> simp [be16_length] <;> split <;> omega
      · exact ih _ _ _ f hf

theorem push_inv (cfg : Cfg) (mtu : Nat) (s : St) (n : Bytes) (h : Inv cfg mtu s) (hn : 2 ≤ n.length)
    (hfit : s.agg + marginal cfg s.buf.length n.length ≤ mtu) :
    Inv cfg mtu { s with buf := s.buf ++ [n], agg := s.agg + marginal cfg s.buf.length n.length } := by
  refine ⟨?_, ?_, fun _ => hfit⟩
  · intro m hm
    rcases List.mem_append.mp hm with hm | hm
    · exact h.hdr m hm
    · simp at hm; subst hm; exact hn
  · have hagg := h.agg
    show s.agg + marginal cfg s.buf.length n.length = aggSize cfg (s.buf ++ [n])
    rw [hagg]
    simp only [aggSize, unitsLen_append, List.length_append, List.length_cons, List.length_nil, marginal,
      Nat.zero_add]
    rcases s.buf with _ | ⟨a, _ | ⟨b, t⟩⟩ <;> cases cfg.addDONL <;> simp <;> omega

theorem step_spec (cfg : Cfg) (mtu : Nat) (s : St) (n : Bytes) (h : Inv cfg mtu s) :
    Inv cfg mtu (step cfg mtu s n).2 ∧ Bounded mtu (step cfg mtu s n).1 := by
  obtain ⟨hfb, hfe, hfa⟩ := flush_spec cfg mtu s h
  -- a unit that fits a packet of its own joins the buffer, after a flush if it does not fit with what is there
  have hjoin : ∀ (o1 : List Bytes) (s1 : St) (m1 : Nat), 2 ≤ n.length →
      n.length + 2 + (if cfg.addDONL then 2 else 0) ≤ mtu →
      (if s.agg + marginal cfg s.buf.length n.length > mtu then
        match flush cfg s with
        | (o, s') => (o, s', marginal cfg s'.buf.length n.length)
       else ([], s, marginal cfg s.buf.length n.length)) = (o1, s1, m1) →
      Inv cfg mtu { buf := s1.buf ++ [n], agg := s1.agg + m1, donl := s1.donl } ∧ Bounded mtu o1 := by
    intro o1 s1 m1 hn hfit hx
    split at hx
    · cases hx
      refine ⟨push_inv cfg mtu (flush cfg s).2 n (inv_of_empty cfg mtu _ hfe hfa) hn ?_, hfb⟩
      rw [hfa, hfe]; simp only [marginal, List.length_nil]
      cases hd : cfg.addDONL <;> simp [hd] at hfit ⊢ <;> omega
    · cases hx
      exact ⟨push_inv cfg mtu s n h hn (by omega), Bounded.nil _⟩
  fun_cases step cfg mtu s n
  case case1 => exact ⟨h, Bounded.nil _⟩
  case case4 => exact ⟨h, Bounded.nil _⟩
  case case3 hn _ hfit _ o1 s1 m1 hx _ _ => exact hjoin o1 s1 m1 (by omega) hfit hx
  case case2 hn _ hfit _ o1 s1 m1 hx _ _ o s' hfl =>
    obtain ⟨hp, hb1⟩ := hjoin o1 s1 m1 (by omega) hfit hx
    obtain ⟨b2, e2, a2⟩ := flush_spec cfg mtu _ hp
    rw [hfl] at b2 e2 a2
    exact ⟨inv_of_empty cfg mtu _ e2 a2, hb1.append b2⟩
  case case5 hn _ _ fuHdr hdrop k o1 s1 hf1 hone o s' hfl =>
    -- sent as a single NAL unit packet
    obtain ⟨rfl, rfl⟩ := Prod.ext_iff.mp hf1
    rw [hfe, List.nil_append] at hfl
    obtain ⟨rfl, rfl⟩ := Prod.ext_iff.mp hfl
    refine ⟨inv_of_empty cfg mtu _ (flush_buf_nil cfg _) (flush_agg_zero cfg _ (List.cons_ne_nil _ _)),
      hfb.append ?_⟩
    rw [flush_one]
    refine singlePkt_bounded cfg mtu _ n (by omega) ?_
    simp only [Bool.or_eq_true, decide_eq_true_eq, beq_iff_eq, not_or, Nat.not_le, fuHdr] at hdrop
    simp only [dn, k, fuHdr] at hone ⊢
    cases hd : cfg.addDONL <;> simp only [hd, Bool.false_eq_true, if_false, if_true] at hone hdrop ⊢ <;> omega
  case case6 hn _ _ fuHdr hdrop k o1 s1 hf1 hone r d hfu =>
    -- fragmented: FU header, DONL and `k = mtu - (3 + DONL)` payload octets make `mtu`
    obtain ⟨rfl, rfl⟩ := Prod.ext_iff.mp hf1
    refine ⟨inv_of_empty cfg mtu _ hfe hfa, hfb.append ?_⟩
    intro f hf
    have := fuLoop_bounded cfg _ _ _ _ _ _ _ f (by rw [hfu]; exact hf)
    refine ⟨?_, this.2⟩
    have h1 := this.1
    simp only [Bool.or_eq_true, decide_eq_true_eq, beq_iff_eq, not_or, Nat.not_le, fuHdr] at hdrop
    simp only [dn, k, fuHdr] at h1
    cases hd : cfg.addDONL <;>
      simp only [hd, Bool.false_eq_true, if_false, if_true, Nat.add_zero] at h1 hdrop <;> omega

theorem run_bounded (cfg : Cfg) (mtu : Nat) (s : St) (ns : List Bytes) (h : Inv cfg mtu s) :
    Bounded mtu (run cfg mtu s ns).1 := by
  induction ns generalizing s with
  | nil => simp only [run]; exact (flush_spec cfg mtu s h).1
  | cons n ns ih =>
    simp only [run]
    obtain ⟨hi, hb⟩ := step_spec cfg mtu s n h
    exact hb.append (ih _ hi)

/-- every fragment of a `Payload` call is non-empty and at most `mtu` octets long — for every
    option setting, MTU (0 included), DONL counter value and input (nil included) -/
theorem payload_bounded (cfg : Cfg) (mtu donl : UInt16) (input : Option Bytes) :
    Bounded mtu.toNat (payload cfg mtu donl input).1 := by
  unfold payload
  dsimp only
  split
  · exact Bounded.nil _
  · exact run_bounded cfg _ _ _ (inv_of_empty cfg _ _ rfl rfl)

end Rtp.Model.H265
