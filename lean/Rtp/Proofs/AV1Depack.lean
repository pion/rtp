/-
  Rtp/Proofs/AV1Depack.lean — lemmas about AV1Depacketizer.Unmarshal: never a panic result,
  independence of the receiver at Z = 0 (C15 AV1 half, C09), and one iteration of its element loop cut
  in two halves (used for C13 and by the checked and the provenance model).
-/
import Rtp.Go.Bits
import Rtp.Model.AV1Obs
import Rtp.Proofs.Lib.Res
namespace Rtp.Model.AV1
open Rtp Rtp.Model

/-- the list model has no panic result (that no slice expression of the Go code can fail is
    `depUnmarshalX_eq`, AV1DepackIdx) -/
theorem depUnmarshal_ne_panic (d : DSt) (p : Bytes) : (depUnmarshal d p).1 ≠ .panic := by
  unfold depUnmarshal
  split
  · simp
  · simp
  · dsimp only
    split
    · simp
    · split <;> simp

/-- a readable payload with Z = 0: the result and the receiver afterwards do not depend on the
    receiver before — the buffer is dropped before the element walk, the flags are overwritten -/
theorem depUnmarshal_z0 (d d' : DSt) (b0 b1 : UInt8) (rest : Bytes)
    (hz : (b0 &&& 0x80 != 0) = false) :
    depUnmarshal d (b0 :: b1 :: rest) = depUnmarshal d' (b0 :: b1 :: rest) := by
  have hb : ∀ buf : Bytes, (if (!false && !buf.isEmpty) = true then ([] : Bytes) else buf) = [] := by
    intro buf; cases buf <;> simp
  simp only [depUnmarshal, hz, hb]

theorem depFeed_congr (d d' : DSt) (ps : List Bytes) (h : d = d') : depFeed d ps = depFeed d' ps := by
  subst h; rfl

/-- the Z test of Unmarshal, in the form `Pred.C15Av1.frameStarts` reads it -/
theorem z_mask_eq : ∀ b : UInt8, (b &&& 0x80 != 0) = !(b.toNat / 128 % 2 == 0) := by
  apply Rtp.Bits.forall_u8; decide +kernel

theorem depFeed_no_panic (st : DSt) (ps : List Bytes) :
    ((depFeed st ps).1.map Res.coarse).all (fun r => !r.isPanic) = true := by
  induction ps generalizing st with
  | nil => simp [depFeed]
  | cons p ps ih =>
    simp only [depFeed, List.map_cons, List.all_cons, ih, Bool.and_true, Res.isPanic_coarse,
      Res.isPanic_eq_false_iff.mpr (depUnmarshal_ne_panic st p), Bool.not_false]

theorem depFeed_length (st : DSt) (ps : List Bytes) : (depFeed st ps).1.length = ps.length := by
  induction ps generalizing st with
  | nil => simp [depFeed]
  | cons p ps ih => simp [depFeed, ih]

/-! One iteration of `elemLoop` in two halves: reading the length field, and the rest.  The two
    definitions repeat the text of the loop body in Rtp/Model/AV1Depack.lean, so that
    `elemLoop_succ` holds by `rfl`; they have to follow any change there. -/

def lenRestOf (w idx : Nat) (rest : Bytes) : Option (Nat × Bytes × Bool) :=
  if w == 0 || !(w != 0 && idx + 1 == w) then
    match readLebGo rest with
    | none => none
    | some (v, k) =>
      some (v.toNat, rest.drop k,
        (w != 0 && idx + 1 == w) || (w == 0 && v.toNat == (rest.drop k).length))
  else some (rest.length, rest, w != 0 && idx + 1 == w)

def afterLen (w : Nat) (z y : Bool) (fuel idx : Nat) (buf acc : Bytes) (zeff : Bool)
    (len : Nat) (r : Bytes) (isLast : Bool) : LoopEnd × Bytes :=
  if len > r.length then (.fail, buf) else
  if zeff && buf.isEmpty then
    if isLast then (.done acc idx, buf) else elemLoop w z y fuel (r.drop len) (idx + 1) buf acc
  else
    if isLast && y then (.done acc idx, if zeff then buf ++ r.take len else r.take len)
    else if (if zeff then buf ++ r.take len else r.take len).isEmpty then
      elemLoop w z y fuel (r.drop len) (idx + 1) (if zeff then [] else buf) acc
    else
      match emitObu (if zeff then buf ++ r.take len else r.take len) len with
      | none => (.fail, if zeff then [] else buf)
      | some none => elemLoop w z y fuel (r.drop len) (idx + 1) (if zeff then [] else buf) acc
      | some (some bs) =>
        if isLast then (.done (acc ++ bs) idx, if zeff then [] else buf)
        else elemLoop w z y fuel (r.drop len) (idx + 1) (if zeff then [] else buf) (acc ++ bs)

theorem elemLoop_succ (w : Nat) (z y : Bool) (fuel : Nat) (rest : Bytes) (idx : Nat)
    (buf acc : Bytes) (hne : rest.isEmpty = false) :
    elemLoop w z y (fuel + 1) rest idx buf acc =
      match lenRestOf w idx rest with
      | none => (.fail, buf)
      | some (len, r, isLast) => afterLen w z y fuel idx buf acc (idx == 0 && z) len r isLast := by
  rw [elemLoop]
  simp only [hne]
  rfl

end Rtp.Model.AV1
