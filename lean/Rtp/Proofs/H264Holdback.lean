/-
  Rtp/Proofs/H264Holdback.lean — on streams whose parameter sets come as SPS,PPS pairs followed by
  a unit, the hold-back loses and reorders nothing: `holdback` = "drop AUD and filler".
-/
import Rtp.Spec.Rfc6184
namespace Rtp.Proofs.H264
open Rtp Rtp.Spec.Rfc6184

/-- AUD and filler removed -/
def keep (nals : List Bytes) : List Bytes := nals.filter (fun n => !isDropped n)

theorem not_sps_of_pps (n : Bytes) (h : isPps n = true) : isSps n = false := by
  simp only [isPps, isSps, beq_iff_eq] at *
  simp [h]

/-- AUD and filler play no part in the hold-back -/
theorem holdback_keep (sps pps : Option Bytes) (nals : List Bytes) :
    holdback sps pps nals = holdback sps pps (keep nals) := by
  induction nals generalizing sps pps with
  | nil => rfl
  | cons n ns ih =>
    by_cases hd : isDropped n = true
    · simp only [keep, List.filter_cons, holdback, hd, Bool.not_true, Bool.false_eq_true, if_true, if_false, ih]
    · simp only [keep, List.filter_cons, holdback, hd, Bool.not_false, Bool.false_eq_true, if_true, if_false, ih]

/-- without AUD and filler, on SPS, PPS, unit triples, nothing waits and nothing overtakes -/
theorem holdback_clean (l : List Bytes) (hd : ∀ n ∈ l, isDropped n = false) (hp : pairedF l = true) :
    holdback none none l = l := by
  fun_induction pairedF l with
  | case1 => rfl
  | case2 a h7 b c r ih =>
    simp only [Bool.and_eq_true, Bool.not_eq_true'] at hp
    obtain ⟨⟨⟨h8, hc7⟩, hc8⟩, hr⟩ := hp
    have da := hd a (by simp)
    have db := hd b (by simp)
    have dc := hd c (by simp)
    simp only [holdback, da, db, dc, h7, h8, not_sps_of_pps b h8, hc7, hc8, Bool.false_eq_true, if_true, if_false,
      ih (fun n hn => hd n (by simp [hn])) hr]
  | case3 a h7 r hx => cases hp
  | case4 a r h7 ih =>
    simp only [Bool.and_eq_true, Bool.not_eq_true'] at hp
    simp only [holdback, hd a (by simp), h7, hp.1, Bool.false_eq_true, if_false,
      ih (fun n hn => hd n (by simp [hn])) hp.2]

/-- `paired nals` is by definition `pairedF (keep nals)` -/
theorem holdback_paired (nals : List Bytes) (h : paired nals = true) :
    holdback none none nals = nals.filter (fun n => !isDropped n) := by
  rw [holdback_keep]
  exact holdback_clean (keep nals) (fun n hn => by simpa using (List.mem_filter.mp hn).2) h

end Rtp.Proofs.H264
