/-
  Rtp/Proofs/ProvVPx.lean — the provenance-level VP8/VP9 payloaders (Rtp/Model/ProvVPx.lean).
  Structural fact: every fragment is `alloc input (the value-level fragment)` (`…_eq`); hence
  forgetting origins gives Model/VP8.lean / Model/VP9.lean (fragments and picture-id state), and
  every fragment has the origin of the allocation (`fresh` for `make`).
-/
import Rtp.Model.ProvVPx
import Rtp.Proofs.Prov
namespace Rtp.Proofs.ProvVPx
open Rtp Rtp.Model Rtp.Model.Prov Rtp.Model.ProvVPx Rtp.Proofs.Prov

/-- (`AllFrom` and the three lemmas after it speak of any list of slices; the AV1 payloader's proofs use them too) -/
def AllFrom (o : Origin) (l : List PBytes) : Prop := ∀ x ∈ l, x.origin = o

theorem allFrom_fresh {l : List PBytes} (h : AllFrom .fresh l) : AllOwned l := h

theorem forgetAll_map_mk (mk : Bytes → PBytes) (hm : ∀ c, (mk c).bytes = c) (l : List Bytes) :
    forgetAll (l.map mk) = l := by
  induction l with
  | nil => rfl
  | cons a l ih => simp only [List.map_cons, forgetAll_cons, hm, ih]

theorem allFrom_map_mk (mk : Bytes → PBytes) (o : Origin) (hm : ∀ c, (mk c).origin = o) (l : List Bytes) :
    AllFrom o (l.map mk) := by
  intro x hx
  simp only [List.mem_map] at hx
  obtain ⟨_, _, rfl⟩ := hx
  exact hm _

/-! ### structure: each fragment is the allocation of the value-level fragment -/

theorem pVp9NonFlexLoop_eq (mk : Bytes → PBytes) (pid : UInt16)
    (mtu : Nat) (nonKey : Bool) (w h : UInt16) (fuel : Nat) (first : Bool) (rem : PBytes) :
    pVp9NonFlexLoop mk pid mtu nonKey w h fuel first rem =
      (vp9NonFlexLoop pid mtu nonKey w h fuel first rem.bytes).map (List.map mk) := by
  induction fuel generalizing first rem with
  | zero => rfl
  | succ fuel ih =>
    rw [pVp9NonFlexLoop, vp9NonFlexLoop]
    by_cases h1 : rem.bytes.isEmpty = true
    · rw [if_pos h1, if_pos h1]; rfl
    · rw [if_neg h1, if_neg h1]
      dsimp only
      generalize (!nonKey && first) = withSS
      generalize (if withSS = true then 11 else 3) = hs
      by_cases h2 : mtu ≤ hs
      · rw [if_pos h2, if_pos h2]; rfl
      · rw [if_neg h2, if_neg h2, ih, bytes_drop, bytes_take]
        cases vp9NonFlexLoop pid mtu nonKey w h fuel false
          (rem.bytes.drop (min (mtu - hs) rem.bytes.length)) with
        | none => rfl
        | some rest => rfl

theorem pVpxChunksAux_eq (k fuel : Nat) (l : PBytes) :
    pVpxChunksAux k fuel l = (vpxChunksAux k fuel l.bytes).map (fun b => ⟨b, l.origin⟩) := by
  induction fuel generalizing l with
  | zero => rfl
  | succ fuel ih =>
    rw [pVpxChunksAux, vpxChunksAux]
    by_cases h1 : l.bytes.isEmpty = true
    · rw [if_pos h1, if_pos h1]; rfl
    · rw [if_neg h1, if_neg h1, ih]; rfl

theorem forget_pVpxChunks (k : Nat) (l : PBytes) :
    forgetAll (pVpxChunks k l) = vpxChunks k l.bytes := by
  simp [pVpxChunks, vpxChunks, pVpxChunksAux_eq, forgetAll, Function.comp_def]

theorem pVp8Frags_eq (mk : Bytes → PBytes) (st : VP8Pay) (cs : List PBytes) :
    pVp8Frags mk st cs = (vp8Frags st (forgetAll cs)).map mk := by
  cases cs with
  | nil => rfl
  | cons c cs => simp [pVp8Frags, vp8Frags, forgetAll, Function.comp_def]

theorem pVp8PayloadG_eq (alloc : Alloc) (st : VP8Pay)
    (mtu : UInt16) (i : Nat) (payload : Option Bytes) :
    pVp8PayloadG alloc st mtu i payload =
      ((vp8Payload st mtu payload).1.map (alloc (PBytes.ofInput i (payload.getD []))), (vp8Payload st mtu payload).2) := by
  unfold pVp8PayloadG vp8Payload
  dsimp only
  by_cases h1 : (decide (mtu.toNat ≤ vp8HdrSize st) || (payload.getD []).isEmpty) = true
  · have h1' : (decide (mtu.toNat ≤ vp8HdrSize st) ||
        (PBytes.ofInput i (payload.getD [])).bytes.isEmpty) = true := h1
    rw [if_pos h1, if_pos h1']; rfl
  · have h1' : ¬ (decide (mtu.toNat ≤ vp8HdrSize st) ||
        (PBytes.ofInput i (payload.getD [])).bytes.isEmpty) = true := h1
    rw [if_neg h1, if_neg h1', pVp8Frags_eq, forget_pVpxChunks]; rfl

theorem pVp9FlexFrags_eq (mk : Bytes → PBytes) (pid : UInt16) (first : Bool) (cs : List PBytes) :
    pVp9FlexFrags mk pid first cs = (vp9FlexFrags pid first (forgetAll cs)).map mk := by
  induction cs generalizing first with
  | nil => rfl
  | cons c cs ih =>
    have he : (forgetAll cs).isEmpty = cs.isEmpty := by cases cs <;> rfl
    simp only [pVp9FlexFrags, vp9FlexFrags, forgetAll_cons, ih, he, List.map_cons]

theorem pVp9PayloadFlexible_eq (mk : Bytes → PBytes) (pid : UInt16) (mtu : Nat) (p : PBytes) :
    pVp9PayloadFlexible mk pid mtu p = (vp9PayloadFlexible pid mtu p.bytes).map mk := by
  unfold pVp9PayloadFlexible vp9PayloadFlexible
  by_cases h1 : (decide (mtu ≤ 3) || p.bytes.isEmpty) = true
  · rw [if_pos h1, if_pos h1]; rfl
  · rw [if_neg h1, if_neg h1, pVp9FlexFrags_eq, forget_pVpxChunks]

theorem pVp9PayloadNonFlexible_eq (mk : Bytes → PBytes) (pid : UInt16) (mtu : Nat) (p : PBytes) :
    pVp9PayloadNonFlexible mk pid mtu p = (vp9PayloadNonFlexible pid mtu p.bytes).map mk := by
  unfold pVp9PayloadNonFlexible vp9PayloadNonFlexible
  cases vp9HeaderUnmarshal p.bytes with
  | ok hd =>
    simp only [pVp9NonFlexLoop_eq]
    cases vp9NonFlexLoop _ _ _ _ _ _ _ _ <;> rfl
  | err e => rfl
  | panic => rfl

theorem pVp9PayloadG_eq (alloc : Alloc) (st : VP9Pay) (mtu : UInt16) (i : Nat) (payload : Option Bytes) :
    pVp9PayloadG alloc st mtu i payload =
      ((vp9Payload st mtu payload).1.map (alloc (PBytes.ofInput i (payload.getD []))), (vp9Payload st mtu payload).2) := by
  unfold pVp9PayloadG vp9Payload
  dsimp only
  generalize (if st.initialized = true then st
    else { st with pictureID := st.init &&& 0x7FFF, initialized := true }) = st'
  refine Prod.ext ?_ rfl
  dsimp only
  by_cases h1 : st'.flexible = true
  · rw [if_pos h1, if_pos h1, pVp9PayloadFlexible_eq]; rfl
  · rw [if_neg h1, if_neg h1, pVp9PayloadNonFlexible_eq]; rfl

theorem forget_pVp8PayloadG (alloc : Alloc) (ha : ∀ p c, (alloc p c).bytes = c) (st : VP8Pay)
    (mtu : UInt16) (i : Nat) (payload : Option Bytes) :
    (forgetAll (pVp8PayloadG alloc st mtu i payload).1, (pVp8PayloadG alloc st mtu i payload).2) =
      vp8Payload st mtu payload := by
  rw [pVp8PayloadG_eq, forgetAll_map_mk _ (ha _)]

theorem from_pVp8PayloadG (alloc : Alloc) (o : Origin) (st : VP8Pay) (mtu : UInt16) (i : Nat)
    (payload : Option Bytes) (ha : ∀ c, (alloc (PBytes.ofInput i (payload.getD [])) c).origin = o) :
    AllFrom o (pVp8PayloadG alloc st mtu i payload).1 := by
  rw [pVp8PayloadG_eq]
  exact allFrom_map_mk _ o ha _

theorem forget_pVp8HistG (alloc : Alloc) (ha : ∀ p c, (alloc p c).bytes = c) (st : VP8Pay) (i : Nat)
    (calls : List (UInt16 × Option Bytes)) :
    (pVp8HistG alloc st i calls).map forgetAll = vp8PayloadHist st calls := by
  induction calls generalizing st i with
  | nil => rfl
  | cons c cs ih =>
    obtain ⟨m, inp⟩ := c
    have h1 := forget_pVp8PayloadG alloc ha st m i inp
    simp only [Prod.ext_iff] at h1
    simp only [pVp8HistG, vp8PayloadHist, List.map_cons, ih, h1.1, h1.2]

theorem owned_pVp8HistG (alloc : Alloc) (ha : ∀ p c, (alloc p c).origin = .fresh) (st : VP8Pay)
    (i : Nat) (calls : List (UInt16 × Option Bytes)) :
    ∀ o ∈ pVp8HistG alloc st i calls, AllOwned o := by
  induction calls generalizing st i with
  | nil => simp [pVp8HistG]
  | cons c cs ih =>
    obtain ⟨m, inp⟩ := c
    simp only [pVp8HistG, List.mem_cons, forall_eq_or_imp]
    exact ⟨from_pVp8PayloadG alloc .fresh st m i inp (fun _ => ha _ _), ih _ _⟩

theorem forget_pVp9PayloadG (alloc : Alloc) (ha : ∀ p c, (alloc p c).bytes = c) (st : VP9Pay)
    (mtu : UInt16) (i : Nat) (payload : Option Bytes) :
    (forgetAll (pVp9PayloadG alloc st mtu i payload).1, (pVp9PayloadG alloc st mtu i payload).2) =
      vp9Payload st mtu payload := by
  rw [pVp9PayloadG_eq, forgetAll_map_mk _ (ha _)]

theorem from_pVp9PayloadG (alloc : Alloc) (o : Origin) (st : VP9Pay) (mtu : UInt16) (i : Nat)
    (payload : Option Bytes) (ha : ∀ c, (alloc (PBytes.ofInput i (payload.getD [])) c).origin = o) :
    AllFrom o (pVp9PayloadG alloc st mtu i payload).1 := by
  rw [pVp9PayloadG_eq]
  exact allFrom_map_mk _ o ha _

theorem forget_pVp9HistG (alloc : Alloc) (ha : ∀ p c, (alloc p c).bytes = c) (st : VP9Pay) (i : Nat)
    (calls : List (UInt16 × Option Bytes)) :
    (pVp9HistG alloc st i calls).map forgetAll = vp9PayloadHist st calls := by
  induction calls generalizing st i with
  | nil => rfl
  | cons c cs ih =>
    obtain ⟨m, inp⟩ := c
    have h1 := forget_pVp9PayloadG alloc ha st m i inp
    simp only [Prod.ext_iff] at h1
    simp only [pVp9HistG, vp9PayloadHist, List.map_cons, ih, h1.1, h1.2]

theorem owned_pVp9HistG (alloc : Alloc) (ha : ∀ p c, (alloc p c).origin = .fresh) (st : VP9Pay)
    (i : Nat) (calls : List (UInt16 × Option Bytes)) :
    ∀ o ∈ pVp9HistG alloc st i calls, AllOwned o := by
  induction calls generalizing st i with
  | nil => simp [pVp9HistG]
  | cons c cs ih =>
    obtain ⟨m, inp⟩ := c
    simp only [pVp9HistG, List.mem_cons, forall_eq_or_imp]
    exact ⟨from_pVp9PayloadG alloc .fresh st m i inp (fun _ => ha _ _), ih _ _⟩

theorem bytes_allocMake (p : PBytes) (c : Bytes) : (allocMake p c).bytes = c := rfl
theorem origin_allocMake (p : PBytes) (c : Bytes) : (allocMake p c).origin = .fresh := rfl
theorem bytes_allocInSpare (p : PBytes) (c : Bytes) : (allocInSpare p c).bytes = c := by
  simp [allocInSpare]
theorem origin_allocInSpare (p : PBytes) (c : Bytes) : (allocInSpare p c).origin = p.origin := rfl

end Rtp.Proofs.ProvVPx
