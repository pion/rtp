/-
  Rtp/Proofs/ExtCodecs.lean — C17: the mask/shift code of the five codecs (Rtp/Model/ExtCodecs.lean)
  computes the positional layouts of Rtp/Spec/ExtLayouts.lean.

  First the specification by itself (`render` and `parse` are inverse), then the frame shared by the
  codecs: four facts about one codec (`Facts`) — Marshal writes the layout, Marshal refuses what it must,
  Unmarshal is the specified decoder (`specUnmarshal`), the decoder inverts the layout — give `Verified`, the
  two predicates of Rtp/Pred/C17.lean.  Then the five codecs, each with these four facts.
  The arithmetic goes UIntN → Nat (Rtp/Proofs/Lib), then `omega`.
-/
import Rtp.Pred.C17
import Rtp.Proofs.Lib.BitField
import Rtp.Proofs.Lib.BigEndian
import Rtp.Proofs.Lib.Res
import Rtp.Proofs.Lib.Arith
import Rtp.Proofs.Lib.Int64
namespace Rtp.Proofs.ExtCodecs
open Rtp Rtp.Model.ExtCodecs Rtp.Pred.C17 Rtp.Spec.ExtLayouts

/-! ### the specification's `render` and `parse` are inverse to each other -/

theorem bytesBE_length (k n : Nat) : (bytesBE k n).length = k := by
  induction k with
  | zero => rfl
  | succ k ih => rw [bytesBE, List.length_cons, ih]

theorem natBE_bytesBE (k n : Nat) : natBE (bytesBE k n) = n % 256 ^ k := by
  induction k with
  | zero => simp [bytesBE, natBE, Nat.mod_one]
  | succ k ih =>
    simp only [bytesBE, natBE, bytesBE_length, ih, toNat_toUInt8]
    rw [Nat.mod_mod,
      show n % 256 ^ (k + 1) = n % 256 ^ k + 256 ^ k * (n / 256 ^ k % 256) from Nat.mod_pow_succ,
      Nat.mul_comm, Nat.add_comm]

theorem natBE_append (xs ys : Bytes) : natBE (xs ++ ys) = natBE xs * 256 ^ ys.length + natBE ys := by
  induction xs with
  | nil => simp [natBE]
  | cons x xs ih =>
    simp only [List.cons_append, natBE, ih, List.length_append, Nat.pow_add]
    rw [Nat.add_mul, Nat.mul_assoc, Nat.add_assoc]

theorem natBE_lt (bs : Bytes) : natBE bs < 256 ^ bs.length := by
  induction bs with
  | nil => exact Nat.one_pos
  | cons b r ih => rw [natBE, List.length_cons, Nat.pow_succ, Nat.mul_comm _ 256]; exact digit_lt b.toNat_lt ih

theorem bytesBE_shift (k a b : Nat) : bytesBE k (a * 256 ^ k + b) = bytesBE k b := by
  induction k generalizing a with
  | zero => rfl
  | succ k ih =>
    have e : a * 256 ^ (k + 1) + b = (a * 256) * 256 ^ k + b := by rw [Nat.pow_succ, Nat.mul_assoc, Nat.mul_comm 256]
    simp only [bytesBE]
    rw [e, ih]
    congr 2
    rw [Nat.mul_comm (a * 256), Nat.mul_add_div (Nat.pow_pos (by decide)), Nat.mul_comm a, Nat.mul_add_mod]

theorem bytesBE_natBE (bs : Bytes) : bytesBE bs.length (natBE bs) = bs := by
  induction bs with
  | nil => rfl
  | cons b r ih =>
    simp only [List.length_cons, bytesBE, natBE]
    rw [bytesBE_shift, ih, Nat.mul_comm, Nat.mul_add_div (Nat.pow_pos (by decide)), Nat.div_eq_of_lt (natBE_lt r),
      Nat.add_zero, toUInt8_mod, toUInt8_toNat]

theorem pack_lt (fs : List Field) : pack fs < 2 ^ width fs := by
  induction fs with
  | nil => simp [pack, width]
  | cons f r ih =>
    obtain ⟨w, v⟩ := f
    rw [pack, width, Nat.pow_add]
    exact digit_lt (Nat.mod_lt _ (Nat.two_pow_pos w)) ih

/-- to show that bytes are the rendering of a layout: they have its length and spell its number -/
theorem eq_render {bs : Bytes} {fs : List Field} (k : Nat) (hl : bs.length = k) (hw : width fs = 8 * k)
    (hn : natBE bs = pack fs) : bs = render fs := by
  rw [render, hw, Nat.mul_div_cancel_left k (by decide), ← hn, ← hl, bytesBE_natBE]

theorem foldl_add_init (ws : List Nat) (a : Nat) : ws.foldl (· + ·) a = a + ws.foldl (· + ·) 0 := by
  induction ws generalizing a with
  | nil => simp
  | cons w r ih => simp only [List.foldl]; rw [ih, ih (0 + w)]; omega

theorem widths_sum (fs : List Field) : (fs.map (·.1)).foldl (· + ·) 0 = width fs := by
  induction fs with
  | nil => rfl
  | cons f r ih =>
    obtain ⟨w, v⟩ := f
    simp only [List.map, List.foldl, width]
    rw [foldl_add_init, ih]; omega

theorem split_add (a p W : Nat) (ws : List Nat) (h : ws.foldl (· + ·) 0 ≤ W) :
    split (a * 2 ^ W + p) W ws = split p W ws := by
  induction ws generalizing W a with
  | nil => rfl
  | cons w r ih =>
    simp only [List.foldl] at h
    rw [foldl_add_init] at h
    simp only [split]
    have e : a * 2 ^ W = (a * 2 ^ w) * 2 ^ (W - w) := by
      rw [Nat.mul_assoc, ← Nat.pow_add]; congr 2; omega
    rw [e]
    congr 1
    · rw [Nat.mul_comm _ (2 ^ (W - w)), Nat.mul_add_div (Nat.two_pow_pos _), Nat.mul_comm a, Nat.mul_add_mod]
    · -- the remaining fields live in the low W - w bits
      exact ih (W := W - w) (a := a * 2 ^ w) (by omega)

theorem split_pack (fs : List Field) (hwf : ∀ f ∈ fs, f.2 < 2 ^ f.1) :
    split (pack fs) (width fs) (fs.map (·.1)) = fs.map (·.2) := by
  induction fs with
  | nil => rfl
  | cons f r ih =>
    obtain ⟨w, v⟩ := f
    have hv : v < 2 ^ w := hwf (w, v) (List.mem_cons_self ..)
    simp only [List.map, split, pack, width, Nat.add_sub_cancel_left, Nat.mod_eq_of_lt hv]
    congr 1
    · have := pack_lt r
      rw [Nat.mul_comm, Nat.mul_add_div (Nat.two_pow_pos _), Nat.div_eq_of_lt this, Nat.add_zero,
        Nat.mod_eq_of_lt hv]
    · rw [split_add v (pack r) (width r) _ (Nat.le_of_eq (widths_sum r))]
      exact ih (fun f hf => hwf f (List.mem_cons_of_mem _ hf))

theorem parse_render (fs : List Field) (hwf : ∀ f ∈ fs, f.2 < 2 ^ f.1) (h8 : width fs % 8 = 0) (trail : Bytes) :
    parse (fs.map (·.1)) (render fs ++ trail) = fs.map (·.2) := by
  unfold parse render
  simp only [widths_sum]
  have e : 256 ^ (width fs / 8) = 2 ^ width fs := by
    rw [show (256 : Nat) = 2 ^ 8 from rfl, ← Nat.pow_mul]; congr 1; omega
  rw [List.take_left' (bytesBE_length _ _), natBE_bytesBE, e, Nat.mod_eq_of_lt (pack_lt fs)]
  exact split_pack fs hwf

theorem render_length_parse (fs : List Field) (k : Nat) (hw : width fs = 8 * k) (hwf : ∀ f ∈ fs, f.2 < 2 ^ f.1) :
    (render fs).length = k ∧ parse (fs.map (·.1)) (render fs) = fs.map (·.2) := by
  have h8 : width fs % 8 = 0 := by rw [hw]; exact Nat.mul_mod_right 8 k
  refine ⟨by rw [render, bytesBE_length, hw, Nat.mul_div_cancel_left k (by decide)], ?_⟩
  have := parse_render fs hwf h8 []
  rwa [List.append_nil] at this

theorem parse_take (ws : List Nat) (bs : Bytes) (k : Nat) (h : ws.foldl (· + ·) 0 / 8 ≤ k) :
    parse ws (bs.take k) = parse ws bs := by
  simp only [parse, List.take_take, Nat.min_eq_left h]

theorem take_length_ge {raw : Bytes} {k : Nat} (h : k ≤ raw.length) : ¬ (raw.take k).length < k := by
  rw [List.length_take]; omega

theorem fits_one {w v : Nat} (h : v < 2 ^ w) : ∀ f ∈ [(w, v)], f.2 < 2 ^ f.1 :=
  List.forall_mem_cons.mpr ⟨h, fun _ hf => nomatch hf⟩

theorem fits_two {w v w' v' : Nat} (h : v < 2 ^ w) (h' : v' < 2 ^ w') : ∀ f ∈ [(w, v), (w', v')], f.2 < 2 ^ f.1 :=
  List.forall_mem_cons.mpr ⟨h, fits_one h'⟩

/-! ### the big-endian primitives of Rtp/Go/Prim.lean in the specification's terms -/

theorem be16_bytesBE (x : UInt16) : be16 x = bytesBE 2 x.toNat := by
  simp only [be16_eq, bytesBE, toUInt8_mod, Nat.pow_zero, Nat.div_one, Nat.reducePow, Nat.pow_one]

theorem be64_bytesBE (x : UInt64) : be64 x = bytesBE 8 x.toNat := by
  simp only [be64_eq, bytesBE, toUInt8_mod, Nat.pow_zero, Nat.div_one, Nat.reducePow, Nat.pow_one]

theorem rd16_natBE (a b : UInt8) : (rd16 a b).toNat = natBE [a, b] := by
  rw [rd16_toNat]
  simp only [natBE, List.length_cons, List.length_nil, Nat.reducePow, Nat.reduceAdd, Nat.pow_zero, Nat.mul_one,
    Nat.add_zero, Nat.pow_one]

theorem natBE3 (a b c : UInt8) : natBE [a, b, c] = a.toNat * 2 ^ 16 + (b.toNat * 2 ^ 8 + c.toNat) := by
  simp only [natBE, List.length_cons, List.length_nil, Nat.reducePow, Nat.reduceAdd, Nat.pow_zero, Nat.mul_one,
    Nat.add_zero, Nat.pow_one]

theorem rd64_natBE (a b c d e f g h : UInt8) : rd64 a b c d e f g h = (natBE [a, b, c, d, e, f, g, h]).toUInt64 := by
  rw [← toUInt64_toNat (rd64 a b c d e f g h), rd64_toNat]
  simp only [natBE, List.length_cons, List.length_nil, Nat.reducePow, Nat.reduceAdd, Nat.pow_zero, Nat.mul_one,
    Nat.add_zero, Nat.pow_one]

/-- both main theorems of one codec -/
structure Verified {σ : Type} [DecidableEq σ] (c : Codec σ) (S : ExtSpec σ) : Prop where
  m : ∀ v prev, marshalOk S v (modelM c v prev) = true
  u : ∀ prev hist raw, unmarshalOk S raw (modelU c prev hist raw) = true

/-- what the specification makes of a pointer-receiver `Unmarshal`: the decoded value replaces the receiver,
    whatever it held; too short an input is refused and leaves the receiver as it was -/
def specUnmarshal {σ : Type} (S : ExtSpec σ) (r : σ) (raw : Bytes) : Un σ :=
  match S.decode raw with
  | some v => ⟨.ok (), v⟩
  | none => ⟨.err .tooSmall, r⟩

theorem specUnmarshal_some {σ : Type} {S : ExtSpec σ} {raw : Bytes} {v : σ} (h : S.decode raw = some v) (r : σ) :
    specUnmarshal S r raw = ⟨.ok (), v⟩ := by
  rw [specUnmarshal, h]

theorem specUnmarshal_none {σ : Type} {S : ExtSpec σ} {raw : Bytes} (h : S.decode raw = none) (r : σ) :
    specUnmarshal S r raw = ⟨.err .tooSmall, r⟩ := by
  rw [specUnmarshal, h]

/-- what is shown of each codec; everything C17 says of it follows from these four -/
structure Facts {σ : Type} (c : Codec σ) (S : ExtSpec σ) : Prop where
  layout : ∀ v, S.inRange v = true → c.marshal v = .ok (render (S.layout v))
  reject : ∀ v, S.reject v = true → (c.marshal v).isErr = true
  unmarshal : ∀ r raw, c.unmarshal r raw = specUnmarshal S r raw
  decode_render : ∀ v, S.inRange v = true → S.decode (render (S.layout v)) = some v

section
variable {σ : Type} {c : Codec σ} {S : ExtSpec σ}

/-- The round trip needs no arithmetic of its own: Unmarshal is the decoder, and the decoder inverts the layout. -/
theorem Facts.roundtrip (F : Facts c S) (v r : σ) (hr : S.inRange v = true) :
    c.unmarshal r (render (S.layout v)) = ⟨.ok (), v⟩ := by
  rw [F.unmarshal, specUnmarshal_some (F.decode_render v hr)]

/-- Input the decoder accepts (`hn`) and of which it reads the first `k` bytes only (`ht`) — for each codec
    both follow from `k ≤ raw.length`, by its `X_decode_none` and `X_decode_take`: the outcome depends
    neither on the receiver nor on the bytes behind the first `k`. -/
theorem Facts.long (F : Facts c S) (r r' : σ) (raw : Bytes) (k : Nat)
    (hn : S.decode raw ≠ none) (ht : S.decode (raw.take k) = S.decode raw) :
    c.unmarshal r raw = c.unmarshal r' (raw.take k) ∧ (c.unmarshal r raw).res = .ok () ∧
      S.decode raw = some (c.unmarshal r raw).st := by
  cases hd : S.decode raw with
  | none => exact absurd hd hn
  | some v =>
    rw [F.unmarshal, F.unmarshal, specUnmarshal_some hd, specUnmarshal_some (ht.trans hd)]; exact ⟨rfl, rfl, rfl⟩

theorem Facts.short (F : Facts c S) (r : σ) (raw : Bytes) (hd : S.decode raw = none) :
    (c.unmarshal r raw).res.isErr = true ∧ (c.unmarshal r raw).st = r := by
  rw [F.unmarshal, specUnmarshal_none hd]; exact ⟨rfl, rfl⟩

theorem Facts.unmarshal_total (F : Facts c S) (r : σ) (raw : Bytes) : (c.unmarshal r raw).res ≠ .panic := by
  rw [F.unmarshal, specUnmarshal]
  split <;> exact fun h => nomatch h

end

-- only `Verified` needs equality to be decidable: its predicates compare observations with `==`
variable {σ : Type} [DecidableEq σ] {c : Codec σ} {S : ExtSpec σ}

theorem Facts.verified (F : Facts c S) : Verified c S where
  m v prev := by
    unfold marshalOk modelM
    cases hr : S.inRange v with
    | true =>
      simp only [F.layout v hr, F.roundtrip v prev hr, Res.coarse_ok, if_true, beq_self_eq_true, Bool.and_self]
    | false =>
      cases hj : S.reject v with
      | false => rfl
      | true => simp only [Res.isErr_coarse, F.reject v hj, if_true, Bool.false_eq_true, if_false]
  u prev hist raw := by
    unfold unmarshalOk modelU
    rw [F.unmarshal]
    cases hd : S.decode raw with
    | some v => simp only [specUnmarshal_some hd, Res.coarse_ok, beq_self_eq_true, Bool.and_self]
    | none => simp only [specUnmarshal_none hd, Res.coarse_err, Res.isErr_err]

/-- input of at least the fixed size: accepted, and the receiver afterwards holds exactly the specified
    fields of the input — whatever it held before -/
theorem Verified.decodes (V : Verified c S) (r : σ) (raw : Bytes) (v : σ) (hd : S.decode raw = some v) :
    c.unmarshal r raw = ⟨.ok (), v⟩ := by
  have h := V.u r [] raw
  simp only [unmarshalOk, modelU, Codec.history, hd, Bool.and_eq_true, beq_iff_eq] at h
  obtain ⟨h1, h2⟩ := h
  have := Res.coarse_eq_ok.mp h1
  cases hu : c.unmarshal r raw with
  | mk res st => simp_all

theorem Verified.layout (V : Verified c S) (v : σ) (hr : S.inRange v = true) :
    c.marshal v = .ok (render (S.layout v)) := by
  have h := V.m v v
  simp only [marshalOk, modelM, hr, if_true, Bool.and_eq_true, beq_iff_eq] at h
  obtain ⟨h1, _⟩ := h
  cases hm : c.marshal v <;> simp_all [Res.coarse]

theorem audio_layout (v : AudioLevel) (h : audioSpec.inRange v = true) :
    audioMarshal v = .ok (render (audioSpec.layout v)) := by
  obtain ⟨l, voice⟩ := v
  have hl : l ≤ 127 := of_decide_eq_true h
  have hn : l.toNat < 2 ^ 7 := Nat.lt_succ_of_le (UInt8.le_iff_toNat_le.mp hl)
  rw [audioMarshal, if_neg (UInt8.not_lt.mpr hl)]
  refine congrArg Res.ok (eq_render 1 rfl rfl ?_)
  simp only [natBE, List.length_nil, Nat.pow_zero, Nat.mul_one, Nat.add_zero, UInt8.toNat_or, audioSpec, audioLevel,
    pack, width, Nat.mod_eq_of_lt hn]
  cases voice
  · exact (Nat.zero_or _).trans (Nat.zero_add _).symm
  · exact Bits.nat_mul_or 1 _ 7 hn

theorem audio_reject (v : AudioLevel) (h : audioSpec.reject v = true) : (audioMarshal v).isErr = true := by
  rw [audioMarshal, if_pos (of_decide_eq_true h)]; rfl

theorem audio_decode_cons (b : UInt8) (rest : Bytes) :
    audioSpec.decode (b :: rest) = some { level := b &&& 0x7F, voice := b &&& 0x80 != 0 } := by
  have hl : ¬ (b :: rest).length < 1 := Nat.not_lt.mpr (Nat.le_add_left 1 _)
  have e : b &&& 0x7F = (b.toNat % 128).toUInt8 :=
    (eq_toUInt8_iff _ _).mpr (by rw [u8_and_mask b 0x7F 7 rfl]; omega)
  rw [e, u8_bit b 0x80 7 rfl]
  simp only [audioSpec, if_neg hl, parse, split, List.foldl, List.take, natBE, List.length_nil, Nat.pow_zero,
    Nat.mul_one, Nat.add_zero, Nat.reduceAdd, Nat.reduceSub, Nat.reducePow, Nat.div_one]

theorem audio_unmarshal_eq (r : AudioLevel) (raw : Bytes) : audioUnmarshal r raw = specUnmarshal audioSpec r raw := by
  match raw with
  | [] => rfl
  | b :: rest => rw [specUnmarshal_some (audio_decode_cons b rest)]; rfl

theorem audio_decode_render (v : AudioLevel) (h : audioSpec.inRange v = true) :
    audioSpec.decode (render (audioSpec.layout v)) = some v := by
  obtain ⟨l, voice⟩ := v
  have hn : l.toNat ≤ 127 := UInt8.le_iff_toNat_le.mp (of_decide_eq_true h)
  obtain ⟨hl, hp⟩ := render_length_parse (audioLevel voice l.toNat) 1 rfl (fits_two (by cases voice <;> decide) (by omega))
  simp only [audioLevel, List.map] at hl hp
  simp only [audioSpec, audioLevel, hl, hp, Nat.lt_irrefl, if_false, toUInt8_toNat]
  cases voice <;> rfl

theorem audio_facts : Facts audio audioSpec := ⟨audio_layout, audio_reject, audio_unmarshal_eq, audio_decode_render⟩

/-- When the decoder refuses and which bytes it reads; here and for the other codecs these two feed `Facts.long`
    and `Facts.short` in the spelled-out clauses of Rtp/Props/C17.lean. -/
theorem audio_decode_none (raw : Bytes) : audioSpec.decode raw = none ↔ raw.length < 1 := by
  simp only [audioSpec, parse, split]
  split <;> simp_all

theorem audio_decode_take (raw : Bytes) (h : 1 ≤ raw.length) : audioSpec.decode raw = audioSpec.decode (raw.take 1) := by
  simp only [audioSpec, if_neg (Nat.not_lt.mpr h), if_neg (take_length_ge h), parse_take [1, 7] raw 1 (by decide)]

theorem tcc_layout (v : TransportCC) (_ : tccSpec.inRange v = true) : tccMarshal v = .ok (render (tccSpec.layout v)) := by
  simp only [tccMarshal, be16_bytesBE, tccSpec, render, transportCC, width, pack, Nat.pow_zero, Nat.mul_one,
    Nat.add_zero, Nat.reduceDiv, Nat.mod_eq_of_lt v.seq.toNat_lt]

theorem tcc_decode_cons (a b : UInt8) (rest : Bytes) : tccSpec.decode (a :: b :: rest) = some ⟨rd16 a b⟩ := by
  have hl : ¬ (a :: b :: rest).length < 2 := Nat.not_lt.mpr (Nat.le_add_left 2 _)
  simp only [tccSpec, if_neg hl, parse, split, List.foldl, List.take, Nat.zero_add, Nat.sub_self, Nat.pow_zero,
    Nat.div_one, Nat.reducePow, Nat.reduceDiv, toUInt16_mod, ← rd16_natBE, toUInt16_toNat]

theorem tcc_unmarshal_eq (r : TransportCC) (raw : Bytes) : tccUnmarshal r raw = specUnmarshal tccSpec r raw := by
  match raw with
  | [] | [_] => rfl
  | a :: b :: rest => rw [specUnmarshal_some (tcc_decode_cons a b rest)]; rfl

theorem tcc_decode_render (v : TransportCC) (_ : tccSpec.inRange v = true) :
    tccSpec.decode (render (tccSpec.layout v)) = some v := by
  obtain ⟨hl, hp⟩ := render_length_parse (transportCC v.seq.toNat) 2 rfl (fits_one v.seq.toNat_lt)
  simp only [transportCC, List.map] at hl hp
  simp only [tccSpec, transportCC, hl, hp, Nat.lt_irrefl, if_false, toUInt16_toNat]

-- `tccSpec.reject` is constantly `false` (so are abs-send-time's and abs-capture-time's): nothing to refuse
theorem tcc_facts : Facts tcc tccSpec := ⟨tcc_layout, (fun _ h => nomatch h), tcc_unmarshal_eq, tcc_decode_render⟩

theorem tcc_decode_none (raw : Bytes) : tccSpec.decode raw = none ↔ raw.length < 2 := by
  simp only [tccSpec, parse, split]
  split <;> simp_all

theorem tcc_decode_take (raw : Bytes) (h : 2 ≤ raw.length) : tccSpec.decode raw = tccSpec.decode (raw.take 2) := by
  simp only [tccSpec, if_neg (Nat.not_lt.mpr h), if_neg (take_length_ge h), parse_take [16] raw 2 (by decide)]

theorem playout_layout (v : PlayoutDelay) (h : playoutSpec.inRange v = true) :
    playoutMarshal v = .ok (render (playoutSpec.layout v)) := by
  obtain ⟨a, b⟩ := v
  obtain ⟨h1, h2⟩ : a ≤ 4095 ∧ b ≤ 4095 := by simpa only [playoutSpec, Bool.and_eq_true, decide_eq_true_eq] using h
  have ha : a.toNat < 2 ^ 12 := Nat.lt_succ_of_le (UInt16.le_iff_toNat_le.mp h1)
  have hb : b.toNat < 2 ^ 12 := Nat.lt_succ_of_le (UInt16.le_iff_toNat_le.mp h2)
  have hc : ¬ (decide (a > 4095) || decide (b > 4095)) = true := by
    simp only [Bool.or_eq_true, decide_eq_true_eq, UInt16.not_lt.mpr h1, UInt16.not_lt.mpr h2, or_self, not_false_eq_true]
  -- the three bytes written, as numbers: 8 + 4 bits of `a`, then 4 + 8 bits of `b`
  have b1 : ((a <<< 4).toUInt8 ||| (b >>> 8).toUInt8).toNat = a.toNat % 16 * 16 + b.toNat / 256 := by
    rw [UInt8.toNat_or, u16_shr_toUInt8_toNat b 8 8 rfl, UInt16.toNat_toUInt8, UInt16.toNat_shiftLeft,
      show (4 : UInt16).toNat % 16 = 4 from rfl, Nat.shiftLeft_eq,
      show a.toNat * 2 ^ 4 % 2 ^ 16 % 2 ^ 8 = a.toNat % 16 * 16 by omega,
      show b.toNat / 2 ^ 8 % 256 = b.toNat / 256 by omega, Bits.nat_mul_or' (j := 4) rfl _ _ (by omega)]
  rw [playoutMarshal, if_neg hc]
  refine congrArg Res.ok (eq_render 3 rfl rfl ?_)
  simp only [natBE, List.length_cons, List.length_nil, u16_shr_toUInt8_toNat a 4 4 rfl, b1, u16_toUInt8_toNat, playoutSpec, playoutDelay, pack, width,
    Nat.mod_eq_of_lt ha, Nat.mod_eq_of_lt hb]
  omega

theorem playout_reject (v : PlayoutDelay) (h : playoutSpec.reject v = true) : (playoutMarshal v).isErr = true := by
  have h' : (decide (v.min > 4095) || decide (v.max > 4095)) = true := h
  rw [playoutMarshal, if_pos h']; rfl

/-- the specification's two 12-bit fields of three bytes are what the Go code reads from two overlapping
    16-bit words -/
theorem playout_fields (a b c : UInt8) :
    natBE [a, b, c] / 2 ^ 12 % 2 ^ 12 = (rd16 a b >>> 4).toNat ∧
    natBE [a, b, c] % 2 ^ 12 = (rd16 b c &&& 0x0FFF).toNat := by
  constructor
  · have e : natBE [a, b, c] = 256 * (rd16 a b).toNat + c.toNat := by rw [natBE3, rd16_toNat]; omega
    rw [u16_shr _ 4 4 rfl, e, show (2 : Nat) ^ 12 = 256 * 16 from rfl, show (2 : Nat) ^ 4 = 16 from rfl,
      ← Nat.div_div_eq_div_mul, Nat.mul_add_div (by decide), Nat.div_eq_of_lt c.toNat_lt, Nat.add_zero,
      Nat.mod_eq_of_lt (Nat.div_lt_of_lt_mul (n := 16) (k := 256 * 16) (rd16 a b).toNat_lt)]
  · have e : natBE [a, b, c] = a.toNat * 16 * 4096 + (rd16 b c).toNat := by rw [natBE3, rd16_toNat]; omega
    rw [u16_and_mask _ 0x0FFF 12 rfl, e, Nat.mul_add_mod_self_right]

theorem playout_decode_cons (a b c : UInt8) (rest : Bytes) :
    playoutSpec.decode (a :: b :: c :: rest) = some { min := rd16 a b >>> 4, max := rd16 b c &&& 0x0FFF } := by
  have hl : ¬ (a :: b :: c :: rest).length < 3 := Nat.not_lt.mpr (Nat.le_add_left 3 _)
  obtain ⟨e1, e2⟩ := playout_fields a b c
  simp only [playoutSpec, if_neg hl, parse, split, List.foldl, List.take, Nat.zero_add, Nat.reduceAdd, Nat.reduceSub,
    Nat.reduceDiv, Nat.pow_zero, Nat.div_one, e1, e2, toUInt16_toNat]

theorem playout_unmarshal_eq (r : PlayoutDelay) (raw : Bytes) :
    playoutUnmarshal r raw = specUnmarshal playoutSpec r raw := by
  match raw with
  | [] | [_] | [_, _] => rfl
  | a :: b :: c :: rest => rw [specUnmarshal_some (playout_decode_cons a b c rest)]; rfl

theorem playout_decode_render (v : PlayoutDelay) (h : playoutSpec.inRange v = true) :
    playoutSpec.decode (render (playoutSpec.layout v)) = some v := by
  obtain ⟨a, b⟩ := v
  obtain ⟨h1, h2⟩ : a ≤ 4095 ∧ b ≤ 4095 := by simpa only [playoutSpec, Bool.and_eq_true, decide_eq_true_eq] using h
  have ha : a.toNat ≤ 4095 := UInt16.le_iff_toNat_le.mp h1
  have hb : b.toNat ≤ 4095 := UInt16.le_iff_toNat_le.mp h2
  obtain ⟨hl, hp⟩ := render_length_parse (playoutDelay a.toNat b.toNat) 3 rfl (fits_two (by omega) (by omega))
  simp only [playoutDelay, List.map] at hl hp
  simp only [playoutSpec, playoutDelay, hl, hp, Nat.lt_irrefl, if_false, toUInt16_toNat]

theorem playout_facts : Facts playout playoutSpec :=
  ⟨playout_layout, playout_reject, playout_unmarshal_eq, playout_decode_render⟩

theorem playout_decode_none (raw : Bytes) : playoutSpec.decode raw = none ↔ raw.length < 3 := by
  simp only [playoutSpec, parse, split]
  split <;> simp_all

theorem playout_decode_take (raw : Bytes) (h : 3 ≤ raw.length) :
    playoutSpec.decode raw = playoutSpec.decode (raw.take 3) := by
  simp only [playoutSpec, if_neg (Nat.not_lt.mpr h), if_neg (take_length_ge h), parse_take [12, 12] raw 3 (by decide)]

/-- the three bytes AbsSendTime.Marshal writes, as numbers -/
theorem absSend_bytes (t : UInt64) :
    (((t &&& 0xFF0000) >>> 16).toUInt8).toNat = t.toNat / 65536 % 256 ∧
    (((t &&& 0xFF00) >>> 8).toUInt8).toNat = t.toNat / 256 % 256 ∧
    ((t &&& 0xFF).toUInt8).toNat = t.toNat % 256 := by
  refine ⟨?_, ?_, ?_⟩
  · rw [u64_toUInt8_toNat, u64_and_shr t 0xFF0000 16 16 8 rfl rfl]; simp only [Nat.reducePow, Nat.mod_mod]
  · rw [u64_toUInt8_toNat, u64_and_shr t 0xFF00 8 8 8 rfl rfl]; simp only [Nat.reducePow, Nat.mod_mod]
  · rw [u64_toUInt8_toNat, u64_and_mask t 0xFF 8 rfl]; simp only [Nat.reducePow, Nat.mod_mod]

/-- what AbsSendTime.Marshal emits for ANY 64-bit timestamp: the layout of its low 24 bits -/
theorem absSend_marshal_layout (t : UInt64) :
    absSendMarshal ⟨t⟩ = .ok (render (absSendTime (t.toNat % 2 ^ 24))) := by
  obtain ⟨p1, p2, p3⟩ := absSend_bytes t
  refine congrArg Res.ok (eq_render 3 rfl rfl ?_)
  simp only [natBE, List.length_cons, List.length_nil, p1, p2, p3, absSendTime, pack, width, Nat.mod_mod,
    Nat.reduceAdd, Nat.reducePow, Nat.pow_zero, Nat.pow_one, Nat.mul_one, Nat.add_zero]
  exact ((mod_byte_step t.toNat 16).trans (congrArg _ (mod_byte_step t.toNat 8))).symm

theorem absSend_rd_toNat (a b c : UInt8) :
    ((a.toUInt64 <<< 16) ||| (b.toUInt64 <<< 8) ||| c.toUInt64).toNat = natBE [a, b, c] := by
  simp only [UInt64.toNat_or, UInt64.toNat_shiftLeft, UInt8.toNat_toUInt64, UInt64.toNat_ofNat, Nat.shiftLeft_eq]
  rw [Nat.mod_eq_of_lt (byte_shl_lt a.toNat_lt (by decide)), Nat.mod_eq_of_lt (byte_shl_lt b.toNat_lt (by decide)),
    Nat.or_assoc, Bits.nat_mul_or _ _ 8 c.toNat_lt, Bits.nat_mul_or _ _ 16 (byte_add_lt b.toNat_lt c.toNat_lt),
    natBE3]

theorem absSend_decode_cons (a b c : UInt8) (rest : Bytes) :
    absSendSpec.decode (a :: b :: c :: rest) =
      some { ts := (a.toUInt64 <<< 16) ||| (b.toUInt64 <<< 8) ||| c.toUInt64 } := by
  have hl : ¬ (a :: b :: c :: rest).length < 3 := Nat.not_lt.mpr (Nat.le_add_left 3 _)
  have hn : natBE [a, b, c] % 2 ^ 24 = natBE [a, b, c] := Nat.mod_eq_of_lt (by
    simpa only [List.length_cons, List.length_nil, Nat.reduceAdd, Nat.reducePow] using natBE_lt [a, b, c])
  simp only [absSendSpec, if_neg hl, parse, split, List.foldl, List.take, Nat.zero_add, Nat.sub_self, Nat.pow_zero,
    Nat.div_one, Nat.reduceDiv, hn]
  rw [← absSend_rd_toNat, toUInt64_toNat]

theorem absSend_unmarshal_eq (r : AbsSendTime) (raw : Bytes) :
    absSendUnmarshal r raw = specUnmarshal absSendSpec r raw := by
  match raw with
  | [] | [_] | [_, _] => rfl
  | a :: b :: c :: rest => rw [specUnmarshal_some (absSend_decode_cons a b c rest)]; rfl

theorem absSend_decode_render (v : AbsSendTime) (h : absSendSpec.inRange v = true) :
    absSendSpec.decode (render (absSendSpec.layout v)) = some v := by
  obtain ⟨t⟩ := v
  have ht : t.toNat < 2 ^ 24 := UInt64.lt_iff_toNat_lt.mp (of_decide_eq_true h)
  obtain ⟨hl, hp⟩ := render_length_parse (absSendTime t.toNat) 3 rfl (fits_one ht)
  simp only [absSendTime, List.map] at hl hp
  simp only [absSendSpec, Nat.mod_eq_of_lt ht, absSendTime, hl, hp, Nat.lt_irrefl, if_false, toUInt64_toNat]

theorem absSend_facts : Facts absSend absSendSpec :=
  ⟨fun v _ => absSend_marshal_layout v.ts, (fun _ h => nomatch h), absSend_unmarshal_eq, absSend_decode_render⟩

theorem absSend_decode_none (raw : Bytes) : absSendSpec.decode raw = none ↔ raw.length < 3 := by
  simp only [absSendSpec, parse, split]
  split <;> simp_all

theorem absSend_decode_take (raw : Bytes) (h : 3 ≤ raw.length) :
    absSendSpec.decode raw = absSendSpec.decode (raw.take 3) := by
  simp only [absSendSpec, if_neg (Nat.not_lt.mpr h), if_neg (take_length_ge h), parse_take [24] raw 3 (by decide)]

theorem toInt_eq_signed64 (x : Int64) : x.toInt = signed64 x.toUInt64.toNat := int64_toInt x

/-- the specification's two's-complement reading of a 64-bit field is Go's `int64(u)` -/
theorem toInt64_eq (u : UInt64) : Int64.ofInt (signed64 u.toNat) = u.toInt64 := by
  have := toInt_eq_signed64 u.toInt64
  rw [UInt64.toUInt64_toInt64] at this
  rw [← this, Int64.ofInt_toInt]

/-- and the layout's `o % 2^64` is Go's `uint64(o)` -/
theorem int64_mod (x : Int64) : (x.toInt % 2 ^ 64).toNat = x.toUInt64.toNat := by
  rw [toInt_eq_signed64, signed64]
  have h := x.toUInt64.toNat_lt
  split
  · rw [Int.emod_eq_of_lt (Int.natCast_nonneg _) (by omega)]; rfl
  · rw [Int.sub_emod_right, Int.emod_eq_of_lt (Int.natCast_nonneg _) (by omega)]; rfl

theorem absCapture_layout (v : AbsCaptureTime) (_ : absCaptureSpec.inRange v = true) :
    absCaptureMarshal v = .ok (render (absCaptureSpec.layout v)) := by
  obtain ⟨ts, off⟩ := v
  have hts := ts.toNat_lt
  cases off with
  | none =>
    simp only [absCaptureMarshal, be64_bytesBE, absCaptureSpec, Option.map, render, absCaptureTime, width, pack,
      Nat.pow_zero, Nat.mul_one, Nat.add_zero, Nat.reduceDiv, Nat.mod_eq_of_lt hts]
  | some o =>
    have ho := o.toUInt64.toNat_lt
    -- two 64-bit fields are two 8-byte words one after the other
    refine congrArg Res.ok (eq_render 16 rfl rfl ?_)
    rw [natBE_append, be64_bytesBE, be64_bytesBE, natBE_bytesBE, natBE_bytesBE, bytesBE_length]
    simp only [absCaptureSpec, Option.map, absCaptureTime, int64_mod, pack, width, Nat.reducePow, Nat.mul_one,
      Nat.add_zero]

theorem absCapture_decode_short (x rest : Bytes) (hx : x.length = 8) (hr : rest.length < 8) :
    absCaptureSpec.decode (x ++ rest) = some { ts := (natBE x).toUInt64, off := none } := by
  have h1 : ¬ (x ++ rest).length < 8 := by rw [List.length_append, hx]; omega
  have h2 : (x ++ rest).length < 16 := by rw [List.length_append, hx]; omega
  simp only [absCaptureSpec, if_neg h1, if_pos h2, parse, split, List.foldl, Nat.zero_add, Nat.sub_self, Nat.pow_zero,
    Nat.div_one, Nat.reduceDiv, List.take_left' hx, toUInt64_mod]

theorem absCapture_decode_long (x y rest : Bytes) (hx : x.length = 8) (hy : y.length = 8) :
    absCaptureSpec.decode (x ++ (y ++ rest)) =
      some { ts := (natBE x).toUInt64, off := some (natBE y).toUInt64.toInt64 } := by
  have h1 : ¬ (x ++ (y ++ rest)).length < 8 := by rw [List.length_append, hx]; omega
  have h2 : ¬ (x ++ (y ++ rest)).length < 16 := by rw [List.length_append, List.length_append, hx, hy]; omega
  have ht : (x ++ (y ++ rest)).take 16 = x ++ y := by
    rw [← List.append_assoc]; exact List.take_left' (by rw [List.length_append, hx, hy])
  have e256 : 256 ^ y.length = 2 ^ 64 := by rw [hy]
  have bx : natBE x < 2 ^ 64 := by have := natBE_lt x; rwa [hx] at this
  have bY : natBE y < 2 ^ 64 := by have := natBE_lt y; rwa [hy] at this
  obtain ⟨e1, e2⟩ := two_digits bx bY
  have e3 : (natBE y).toUInt64.toNat = natBE y := toNat_toUInt64_of_lt bY
  simp only [absCaptureSpec, if_neg h1, if_neg h2, parse, split, List.foldl, Nat.zero_add, Nat.reduceAdd,
    Nat.reduceSub, Nat.sub_self, Nat.pow_zero, Nat.div_one, Nat.reduceDiv, ht, natBE_append, e256, e1, e2,
    ← toInt64_eq, e3]

theorem absCapture_unmarshal_eq (r : AbsCaptureTime) (raw : Bytes) :
    absCaptureUnmarshal r raw = specUnmarshal absCaptureSpec r raw := by
  -- the model matches on 8 bytes and then on 8 more; spelling out the lengths 0–7, 8–15 and ≥ 16 the same
  -- way makes every branch reduce, and on the two long ones the decoder lemmas apply
  match raw with
  | [] | [_] | [_, _] | [_, _, _] | [_, _, _, _] | [_, _, _, _, _] | [_, _, _, _, _, _] | [_, _, _, _, _, _, _] => rfl
  | a :: b :: c :: d :: e :: f :: g :: h :: rest =>
    match rest with
    | [] | [_] | [_, _] | [_, _, _] | [_, _, _, _] | [_, _, _, _, _] | [_, _, _, _, _, _] | [_, _, _, _, _, _, _] =>
      exact ((specUnmarshal_some (absCapture_decode_short [a, b, c, d, e, f, g, h] _ rfl (Nat.le_of_ble_eq_true rfl))
        r).trans (by rw [← rd64_natBE]; rfl)).symm
    | a' :: b' :: c' :: d' :: e' :: f' :: g' :: h' :: rest =>
      exact ((specUnmarshal_some (absCapture_decode_long [a, b, c, d, e, f, g, h] [a', b', c', d', e', f', g', h'] rest
        rfl rfl) r).trans (by rw [← rd64_natBE, ← rd64_natBE]; rfl)).symm

theorem absCapture_decode_render (v : AbsCaptureTime) (_ : absCaptureSpec.inRange v = true) :
    absCaptureSpec.decode (render (absCaptureSpec.layout v)) = some v := by
  obtain ⟨ts, off⟩ := v
  have hts := ts.toNat_lt
  cases off with
  | none =>
    obtain ⟨hl, hp⟩ := render_length_parse (absCaptureTime ts.toNat none) 8 rfl (fits_one hts)
    simp only [absCaptureTime, List.map] at hl hp
    simp only [absCaptureSpec, Option.map, absCaptureTime, hl, hp, Nat.lt_irrefl, Nat.reduceLT, if_false, if_true,
      toUInt64_toNat]
  | some o =>
    obtain ⟨hl, hp⟩ := render_length_parse [(64, ts.toNat), (64, o.toUInt64.toNat)] 16 rfl (fits_two hts o.toUInt64.toNat_lt)
    simp only [List.map] at hp
    simp only [absCaptureSpec, Option.map, absCaptureTime, int64_mod, hl, hp, Nat.lt_irrefl, Nat.reduceLT, if_false,
      toUInt64_toNat, toInt64_eq, Int64.toInt64_toUInt64]

theorem absCapture_facts : Facts absCapture absCaptureSpec :=
  ⟨absCapture_layout, (fun _ h => nomatch h), absCapture_unmarshal_eq, absCapture_decode_render⟩

theorem absCapture_decode_none (raw : Bytes) : absCaptureSpec.decode raw = none ↔ raw.length < 8 := by
  simp only [absCaptureSpec, parse, split]
  split
  · simp_all
  · split <;> simp_all

/-- the decoded offset is present exactly for the long form -/
theorem absCapture_decode_off {raw : Bytes} {v : AbsCaptureTime} (hd : absCaptureSpec.decode raw = some v) :
    v.off.isSome = decide (16 ≤ raw.length) := by
  simp only [absCaptureSpec, parse, split] at hd
  split at hd
  · cases hd
  split at hd
  · cases hd; exact (decide_eq_false (by omega)).symm
  · cases hd; exact (decide_eq_true (by omega)).symm

theorem absCapture_decode_take16 (raw : Bytes) (h : 16 ≤ raw.length) :
    absCaptureSpec.decode raw = absCaptureSpec.decode (raw.take 16) := by
  have h1 : ¬ raw.length < 8 := by omega
  have h3 : ¬ (raw.take 16).length < 8 := by rw [List.length_take]; omega
  simp only [absCaptureSpec, if_neg h1, if_neg (Nat.not_lt.mpr h), if_neg h3, if_neg (take_length_ge h),
    parse_take [64, 64] raw 16 (by decide)]

theorem absCapture_decode_take8 (raw : Bytes) (h : 8 ≤ raw.length) (h' : raw.length < 16) :
    absCaptureSpec.decode raw = absCaptureSpec.decode (raw.take 8) := by
  have h4 : (raw.take 8).length < 16 := by rw [List.length_take]; omega
  simp only [absCaptureSpec, if_neg (Nat.not_lt.mpr h), if_pos h', if_neg (take_length_ge h), if_pos h4,
    parse_take [64] raw 8 (by decide)]

end Rtp.Proofs.ExtCodecs
