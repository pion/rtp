/-
  Rtp/Proofs/PacketParse.lean — lemmas about the parsers of Rtp/Model/Packet.lean and their located
  variants (Rtp/Pred/C02.lean): never panic, the located variants project onto the model's parsers,
  `Header.Unmarshal` as one equation (`hdrUnmarshal_eq`) and its inversion, a used receiver contributes
  only its stale profile, every located value is the input bytes at its offset.
-/
import Rtp.Model.Packet
import Rtp.Pred.C02
import Rtp.Proofs.Lib.UInt
import Rtp.Proofs.Lib.Bytes
import Rtp.Proofs.Lib.Lists
import Rtp.Proofs.Lib.Res
namespace Rtp.Proofs.PacketParse
open Rtp Rtp.Model Rtp.Pred.C02

theorem parseOneByte_ne_panic (l : Bytes) : parseOneByte l ≠ .panic := by
  fun_induction parseOneByte l <;> simp_all

theorem parseTwoByte_ne_panic (l : Bytes) : parseTwoByte l ≠ .panic := by
  fun_induction parseTwoByte l <;> simp_all

theorem parseExtBlock_ne_panic (p : UInt16) (l : Bytes) : parseExtBlock p l ≠ .panic := by
  unfold parseExtBlock
  have h1 := parseOneByte_ne_panic l
  have h2 := parseTwoByte_ne_panic l
  split
  · split <;> simp_all
  · split
    · split <;> simp_all
    · simp

/-! ### forgetting the offsets gives the shared parsers -/

def fstL (x : List (Ext × Nat) × Nat) : List Ext × Nat := (x.1.map (·.1), x.2)

/- the located walk takes the branches of the shared one; in each, `ih` rewrites the recursive call -/
theorem parseOneByteL_fst (off : Nat) (l : Bytes) :
    (parseOneByteL off l).map fstL = parseOneByte l := by
  fun_induction parseOneByteL off l with
  | case1 off => rw [parseOneByte]; rfl
  | case2 off b rest hb ih => rw [parseOneByte, if_pos hb]; exact ih
  | case3 off b rest hb id hid =>
    rw [parseOneByte, if_neg hb]; simp only [id] at hid; simp only [hid, if_true]; rfl
  | case4 off b rest hb id len hid hlen =>
    rw [parseOneByte, if_neg hb]; simp only [id, len] at hid hlen; simp only [hid, hlen, if_true]; rfl
  | case5 off b rest hb id len hid hlen es left heq ih =>
    rw [parseOneByte, if_neg hb]; simp only [id, len] at hid hlen heq ih
    simp only [hid, hlen, if_false, ← ih, heq]; rfl
  | case6 off b rest hb id len hid hlen e heq ih =>
    rw [parseOneByte, if_neg hb]; simp only [id, len] at hid hlen heq ih
    simp only [hid, hlen, if_false, ← ih, heq]; rfl
  | case7 off b rest hb id len hid hlen heq ih =>
    rw [parseOneByte, if_neg hb]; simp only [id, len] at hid hlen heq ih
    simp only [hid, hlen, if_false, ← ih, heq]; rfl

theorem parseTwoByteL_fst (off : Nat) (l : Bytes) :
    (parseTwoByteL off l).map (fun es => es.map (·.1)) = parseTwoByte l := by
  fun_induction parseTwoByteL off l with
  | case1 off => rw [parseTwoByte.eq_def]; rfl
  | case2 off b rest hb ih => rw [parseTwoByte.eq_def]; simp only [hb, if_true]; exact ih
  | case3 off b hb => rw [parseTwoByte.eq_def]; simp only [hb]; rfl
  | case4 off b hb lb rest2 len hlen =>
    rw [parseTwoByte.eq_def]; simp only [len] at hlen; simp only [hb, hlen, if_true]; rfl
  | case5 off b hb lb rest2 len hlen es heq ih =>
    rw [parseTwoByte.eq_def]; simp only [len] at hlen heq ih
    simp only [hb, hlen, if_false, ← ih, heq]; rfl
  | case6 off b hb lb rest2 len hlen e heq ih =>
    rw [parseTwoByte.eq_def]; simp only [len] at hlen heq ih
    simp only [hb, hlen, if_false, ← ih, heq]; rfl
  | case7 off b hb lb rest2 len hlen heq ih =>
    rw [parseTwoByte.eq_def]; simp only [len] at hlen heq ih
    simp only [hb, hlen, if_false, ← ih, heq]; rfl

theorem parseExtBlockL_fst (p : UInt16) (off : Nat) (l : Bytes) :
    (parseExtBlockL p off l).map fstL = parseExtBlock p l := by
  unfold parseExtBlockL parseExtBlock
  split
  · rw [← parseOneByteL_fst off l]
    cases parseOneByteL off l <;> simp [Res.map, fstL]
  · split
    · rw [← parseTwoByteL_fst off l]
      cases parseTwoByteL off l <;> simp [Res.map, fstL]
    · simp [Res.map, fstL]

/-- the header read off the first twelve bytes and the CSRC words behind them; `prof` is the receiver's
    stale `ExtensionProfile` (it survives only with X = 0).  The last branch is never reached from
    `hdrUnmarshal_eq`: the length test comes first. -/
def fixedHdr (prof : UInt16) : Bytes → Header
  | b0 :: b1 :: s0 :: s1 :: t0 :: t1 :: t2 :: t3 :: c0 :: c1 :: c2 :: c3 :: rest12 =>
    { version := (b0 >>> 6) &&& 0x3
      padding := ((b0 >>> 5) &&& 0x1) > 0
      extension := ((b0 >>> 4) &&& 0x1) > 0
      marker := ((b1 >>> 7) &&& 0x1) > 0
      payloadType := b1 &&& 0x7F
      seq := rd16 s0 s1
      ts := rd32 t0 t1 t2 t3
      ssrc := rd32 c0 c1 c2 c3
      csrc := readCsrcs (b0 &&& 0x0F).toNat rest12
      extProfile := prof
      exts := [] }
  | _ => { extProfile := prof }

/-- the CSRC count in the first byte (`headD`: on the empty buffer the length test fails whatever it is) -/
def ccOf (buf : Bytes) : Nat := (buf.headD 0 &&& 0x0F).toNat

/-- the extension part of `hdrUnmarshal`, as a function of what follows the CSRC list at offset `n` -/
def readExt (h : Header) (n : Nat) (tail : Bytes) : Res (Header × Nat) :=
  match tail with
  | p0 :: p1 :: l0 :: l1 :: afterHdr =>
    if afterHdr.length < (rd16 l0 l1).toNat * 4 then .err .shortExt else
    match parseExtBlock (rd16 p0 p1) (afterHdr.take ((rd16 l0 l1).toNat * 4)) with
    | .ok (es, used) => .ok ({ h with extProfile := rd16 p0 p1, exts := es }, n + 4 + used)
    | .err e => .err e
    | .panic => .panic
  | _ => .err .shortExt

def readExtL (h : Header) (n : Nat) (tail : Bytes) : Res (Header × Nat × List Nat) :=
  match tail with
  | p0 :: p1 :: l0 :: l1 :: afterHdr =>
    if afterHdr.length < (rd16 l0 l1).toNat * 4 then .err .shortExt else
    match parseExtBlockL (rd16 p0 p1) (n + 4) (afterHdr.take ((rd16 l0 l1).toNat * 4)) with
    | .ok (es, used) =>
      .ok ({ h with extProfile := rd16 p0 p1, exts := es.map (·.1) }, n + 4 + used, es.map (·.2))
    | .err e => .err e
    | .panic => .panic
  | _ => .err .shortExt

theorem exists_cons12 (buf : Bytes) (h : 12 ≤ buf.length) :
    ∃ b0 b1 s0 s1 t0 t1 t2 t3 c0 c1 c2 c3 rest12,
      buf = b0 :: b1 :: s0 :: s1 :: t0 :: t1 :: t2 :: t3 :: c0 :: c1 :: c2 :: c3 :: rest12 := by
  obtain ⟨b0, l0, rfl, h0⟩ := exists_cons buf 11 h
  obtain ⟨b1, l1, rfl, h1⟩ := exists_cons l0 10 h0
  obtain ⟨s0, l2, rfl, h2⟩ := exists_cons l1 9 h1
  obtain ⟨s1, l3, rfl, h3⟩ := exists_cons l2 8 h2
  obtain ⟨t0, l4, rfl, h4⟩ := exists_cons l3 7 h3
  obtain ⟨t1, l5, rfl, h5⟩ := exists_cons l4 6 h4
  obtain ⟨t2, l6, rfl, h6⟩ := exists_cons l5 5 h5
  obtain ⟨t3, l7, rfl, h7⟩ := exists_cons l6 4 h6
  obtain ⟨c0, l8, rfl, h8⟩ := exists_cons l7 3 h7
  obtain ⟨c1, l9, rfl, h9⟩ := exists_cons l8 2 h8
  obtain ⟨c2, l10, rfl, h10⟩ := exists_cons l9 1 h9
  obtain ⟨c3, l11, rfl, h11⟩ := exists_cons l10 0 h10
  exact ⟨_, _, _, _, _, _, _, _, _, _, _, _, _, rfl⟩

theorem drop12 (a0 a1 a2 a3 a4 a5 a6 a7 a8 a9 a10 a11 : UInt8) (rest : Bytes) (k : Nat) :
    (a0 :: a1 :: a2 :: a3 :: a4 :: a5 :: a6 :: a7 :: a8 :: a9 :: a10 :: a11 :: rest).drop (12 + k) =
      rest.drop k := by
  rw [Nat.add_comm]; rfl

theorem hdrUnmarshal_eq (r : Header) (buf : Bytes) :
    hdrUnmarshal r buf =
      if buf.length < 12 + ccOf buf * 4 then .err .short
      else if (fixedHdr r.extProfile buf).extension then
        readExt (fixedHdr r.extProfile buf) (12 + ccOf buf * 4) (buf.drop (12 + ccOf buf * 4))
      else .ok (fixedHdr r.extProfile buf, 12 + ccOf buf * 4) := by
  rcases Nat.lt_or_ge buf.length 12 with hs | hs
  · rw [if_pos (Nat.lt_of_lt_of_le hs (Nat.le_add_right _ _))]
    unfold hdrUnmarshal
    split
    · rw [if_pos (by omega)]
    · rfl
  · obtain ⟨b0, b1, s0, s1, t0, t1, t2, t3, c0, c1, c2, c3, rest12, rfl⟩ := exists_cons12 buf hs
    rw [show ccOf (b0 :: b1 :: s0 :: s1 :: t0 :: t1 :: t2 :: t3 :: c0 :: c1 :: c2 :: c3 :: rest12) = (b0 &&& 0x0F).toNat
      from rfl, drop12]
    rw [hdrUnmarshal]
    rfl

theorem hdrUnmarshalL_eq (r : Header) (buf : Bytes) :
    hdrUnmarshalL r buf =
      if buf.length < 12 + ccOf buf * 4 then .err .short
      else if (fixedHdr r.extProfile buf).extension then
        readExtL (fixedHdr r.extProfile buf) (12 + ccOf buf * 4) (buf.drop (12 + ccOf buf * 4))
      else .ok (fixedHdr r.extProfile buf, 12 + ccOf buf * 4, []) := by
  rcases Nat.lt_or_ge buf.length 12 with hs | hs
  · rw [if_pos (Nat.lt_of_lt_of_le hs (Nat.le_add_right _ _))]
    unfold hdrUnmarshalL
    split
    · rw [if_pos (by omega)]
    · rfl
  · obtain ⟨b0, b1, s0, s1, t0, t1, t2, t3, c0, c1, c2, c3, rest12, rfl⟩ := exists_cons12 buf hs
    rw [show ccOf (b0 :: b1 :: s0 :: s1 :: t0 :: t1 :: t2 :: t3 :: c0 :: c1 :: c2 :: c3 :: rest12) = (b0 &&& 0x0F).toNat
      from rfl, drop12]
    rw [hdrUnmarshalL]
    rfl

theorem readExt_ne_panic (h : Header) (n : Nat) (tail : Bytes) : readExt h n tail ≠ .panic := by
  unfold readExt
  split
  · split
    · nofun
    · split
      · nofun
      · nofun
      · rename_i heq; exact absurd heq (parseExtBlock_ne_panic _ _)
  · nofun

theorem hdrUnmarshal_ne_panic (r : Header) (buf : Bytes) : hdrUnmarshal r buf ≠ .panic := by
  rw [hdrUnmarshal_eq]
  split
  · nofun
  · split
    · exact readExt_ne_panic _ _ _
    · nofun

def fstH (x : Header × Nat × List Nat) : Header × Nat := (x.1, x.2.1)

theorem readExtL_fst (h : Header) (n : Nat) (tail : Bytes) : (readExtL h n tail).map fstH = readExt h n tail := by
  unfold readExtL readExt
  split
  · split
    · rfl
    · rw [← parseExtBlockL_fst _ (n + 4)]
      cases parseExtBlockL _ _ _ <;> rfl
  · rfl

theorem hdrUnmarshalL_fst (r : Header) (buf : Bytes) :
    (hdrUnmarshalL r buf).map fstH = hdrUnmarshal r buf := by
  rw [hdrUnmarshalL_eq, hdrUnmarshal_eq]
  split
  · rfl
  · split
    · exact readExtL_fst _ _ _
    · rfl

theorem hdrUnmarshal_ok_iff (r : Header) (buf : Bytes) (h : Header) (n : Nat) :
    hdrUnmarshal r buf = .ok (h, n) ↔ ∃ locs, hdrUnmarshalL r buf = .ok (h, n, locs) := by
  rw [← hdrUnmarshalL_fst, Res.map_eq_ok_iff]
  exact ⟨fun ⟨⟨h', n', l⟩, hl, he⟩ => by cases he; exact ⟨l, hl⟩, fun ⟨l, hl⟩ => ⟨_, hl, rfl⟩⟩

/-! ### a used receiver only contributes its stale `ExtensionProfile`, and only while X = 0 -/

def withProfile (p : UInt16) (h : Header) : Header :=
  if h.extension then h else { h with extProfile := p }

theorem canonH_withProfile (p : UInt16) (h : Header) : Pred.C01.canonH (withProfile p h) = Pred.C01.canonH h := by
  unfold Pred.C01.canonH withProfile
  cases hx : h.extension <;> simp [hx]

theorem withProfile_exts (p : UInt16) (h : Header) : (withProfile p h).exts = h.exts := by
  unfold withProfile; split <;> rfl

theorem withProfile_extension (p : UInt16) (h : Header) : (withProfile p h).extension = h.extension := by
  unfold withProfile; split <;> rfl

theorem withProfile_padding (p : UInt16) (h : Header) : (withProfile p h).padding = h.padding := by
  unfold withProfile; split <;> rfl

/-- with the X bit the block's profile overwrites whatever the receiver held -/
theorem readExtL_receiver (h : Header) (p : UInt16) (hx : h.extension = true) (n : Nat) (tail : Bytes) :
    readExtL { h with extProfile := p } n tail = (readExtL h n tail).map (fun x => (withProfile p x.1, x.2)) := by
  unfold readExtL
  split
  · split
    · rfl
    · cases parseExtBlockL _ _ _ <;> simp only [Res.map, withProfile, hx, if_true]
  · rfl

theorem fixedHdr_exts (p : UInt16) (buf : Bytes) : (fixedHdr p buf).exts = [] := by
  unfold fixedHdr; split <;> rfl

theorem fixedHdr_prof (p q : UInt16) (buf : Bytes) : fixedHdr p buf = { fixedHdr q buf with extProfile := p } := by
  unfold fixedHdr; split <;> rfl

theorem hdrUnmarshalL_receiver (r : Header) (buf : Bytes) :
    hdrUnmarshalL r buf =
      (hdrUnmarshalL {} buf).map (fun x => (withProfile r.extProfile x.1, x.2)) := by
  rw [hdrUnmarshalL_eq, hdrUnmarshalL_eq, fixedHdr_prof r.extProfile ({} : Header).extProfile]
  split
  · rfl
  · by_cases hx : (fixedHdr ({} : Header).extProfile buf).extension = true
    · rw [if_pos hx, if_pos hx]
      exact readExtL_receiver _ r.extProfile hx _ _
    · rw [if_neg hx, if_neg hx]
      simp only [Res.map, withProfile, if_neg hx]

/-! ### located values are the input bytes at their offsets -/

/-- element `x.1` was taken from `buf` at offset `x.2`, inside `[lo, hi)` -/
def LocIn (buf : Bytes) (lo hi : Nat) (x : Ext × Nat) : Prop :=
  lo ≤ x.2 ∧ x.2 + x.1.payload.length ≤ hi ∧ x.1.payload = slice buf x.2 (x.2 + x.1.payload.length)

/-- `x` ends before `y` starts -/
def Before (x y : Ext × Nat) : Prop := x.2 + x.1.payload.length ≤ y.2

/-- `l` is the rest of the block, standing at offset `off` of `buf` with `tail` behind it; `left` is what the walk
    leaves unread.  Cases of the walk: empty, pad byte, reserved id (stop), short element, element followed by
    the three outcomes of the rest. -/
theorem parseOneByteL_spec (buf tail : Bytes) (off : Nat) (l : Bytes) :
    ∀ es left, buf.drop off = l ++ tail → parseOneByteL off l = .ok (es, left) →
      left ≤ l.length ∧ es.Pairwise Before ∧ ∀ x ∈ es, LocIn buf off (off + l.length - left) x := by
  fun_induction parseOneByteL off l with
  | case1 off => intro es left _ h; cases h; exact ⟨Nat.le_refl _, List.Pairwise.nil, nofun⟩
  | case2 off b rest hb ih =>
    intro es left hl h
    obtain ⟨h1, h2, h3⟩ := ih es left (drop_add_of_drop_eq 1 hl (Nat.le_add_left _ _)) h
    refine ⟨Nat.le_succ_of_le h1, h2, fun x hx => ?_⟩
    obtain ⟨a, b, c⟩ := h3 x hx
    exact ⟨by omega, by rw [List.length_cons]; omega, c⟩
  | case3 off b rest hb id hid => intro es left _ h; cases h; exact ⟨Nat.le_succ _, List.Pairwise.nil, nofun⟩
  | case4 => intro es left _ h; cases h
  | case5 off b rest hb id len hid hlen es' left' heq ih =>
    intro es left hl h
    cases h
    have hl1 := drop_add_of_drop_eq 1 hl (Nat.le_add_left _ _)
    have hlen' : len ≤ rest.length := Nat.le_of_not_lt hlen
    have hl' := drop_add_of_drop_eq len hl1 hlen'
    simp only [List.drop_one, List.tail_cons] at hl1 hl'
    obtain ⟨h1, h2, h3⟩ := ih es' left' hl' heq
    simp only [List.length_drop] at h1 h3
    have htl : (rest.take len).length = len := List.length_take_of_le hlen'
    refine ⟨by rw [List.length_cons]; omega, List.pairwise_cons.mpr ⟨fun y hy => ?_, h2⟩, fun x hx => ?_⟩
    · have := (h3 y hy).1
      simp only [Before, htl]
      omega
    · rcases List.mem_cons.mp hx with rfl | hx
      · refine ⟨Nat.le_add_right _ _, ?_, ?_⟩
        · simp only [htl, List.length_cons]; omega
        · rw [htl]; exact (slice_of_drop_eq len hl1 hlen').symm
      · obtain ⟨a, b, c⟩ := h3 x hx
        exact ⟨by omega, by rw [List.length_cons]; omega, c⟩
  | case6 => intro es left _ h; cases h
  | case7 => intro es left _ h; cases h

theorem parseTwoByteL_spec (buf tail : Bytes) (off : Nat) (l : Bytes) :
    ∀ es, buf.drop off = l ++ tail → parseTwoByteL off l = .ok es →
      es.Pairwise Before ∧ ∀ x ∈ es, LocIn buf off (off + l.length) x := by
  fun_induction parseTwoByteL off l with
  | case1 off => intro es _ h; cases h; exact ⟨List.Pairwise.nil, nofun⟩
  | case2 off b rest hb ih =>
    intro es hl h
    obtain ⟨h2, h3⟩ := ih es (drop_add_of_drop_eq 1 hl (Nat.le_add_left _ _)) h
    refine ⟨h2, fun x hx => ?_⟩
    obtain ⟨a, b, c⟩ := h3 x hx
    exact ⟨by omega, by rw [List.length_cons]; omega, c⟩
  | case3 => intro es _ h; cases h
  | case4 => intro es _ h; cases h
  | case5 off b hb lb rest2 len hlen es' heq ih =>
    intro es hl h
    cases h
    have hl2 := drop_add_of_drop_eq 2 hl (Nat.le_add_left _ _)
    have hlen' : len ≤ rest2.length := Nat.le_of_not_lt hlen
    have hl' := drop_add_of_drop_eq len hl2 hlen'
    simp only [List.drop_succ_cons, List.drop_zero] at hl2 hl'
    obtain ⟨h2, h3⟩ := ih es' hl' heq
    simp only [List.length_drop] at h3
    refine ⟨List.pairwise_cons.mpr ⟨fun y hy => ?_, h2⟩, fun x hx => ?_⟩
    · have := (h3 y hy).1
      simp only [Before, List.length_take]
      omega
    · rcases List.mem_cons.mp hx with rfl | hx
      · refine ⟨Nat.le_add_right _ _, ?_, ?_⟩
        · simp only [List.length_take, List.length_cons]; omega
        · simp only [List.length_take]
          rw [Nat.min_eq_left hlen']
          exact (slice_of_drop_eq len hl2 hlen').symm
      · obtain ⟨a, b, c⟩ := h3 x hx
        exact ⟨by omega, by simp only [List.length_cons]; omega, c⟩
  | case6 => intro es _ h; cases h
  | case7 => intro es _ h; cases h

theorem parseExtBlockL_spec (buf tail : Bytes) (p : UInt16) (off : Nat) (l : Bytes)
    (es : List (Ext × Nat)) (used : Nat) (hl : buf.drop off = l ++ tail)
    (h : parseExtBlockL p off l = .ok (es, used)) :
    used ≤ l.length ∧ es.Pairwise Before ∧ ∀ x ∈ es, LocIn buf off (off + used) x := by
  unfold parseExtBlockL at h
  split at h
  · split at h
    · rename_i es' left heq
      cases h
      obtain ⟨h1, h2, h3⟩ := parseOneByteL_spec buf tail off l _ left hl heq
      refine ⟨Nat.sub_le _ _, h2, fun x hx => ?_⟩
      obtain ⟨a, b, c⟩ := h3 x hx
      exact ⟨a, by omega, c⟩
    · cases h
    · cases h
  · split at h
    · split at h
      · rename_i es' heq
        cases h
        obtain ⟨h2, h3⟩ := parseTwoByteL_spec buf tail off l _ hl heq
        exact ⟨Nat.le_refl _, h2, h3⟩
      · cases h
      · cases h
    · cases h
      refine ⟨Nat.le_refl _, List.pairwise_singleton _ _, fun x hx => ?_⟩
      rw [List.mem_singleton.mp hx]
      exact ⟨Nat.le_refl _, Nat.le_refl _, by
        simpa using (slice_of_drop_eq l.length hl (Nat.le_refl _)).symm⟩

theorem zip_map_fst_snd {α β} (l : List (α × β)) : (l.map (·.1)).zip (l.map (·.2)) = l := by
  induction l with
  | nil => rfl
  | cons a l ih => simp [ih]

theorem readCsrcs_length_le (n : Nat) (l : Bytes) : (readCsrcs n l).length ≤ n := by
  fun_induction readCsrcs n l with
  | case1 n a b c d rest ih => simp only [List.length_cons]; omega
  | case2 => simp

theorem fixedHdr_fixed (prof : UInt16) (buf : Bytes) :
    (fixedHdr prof buf).version.toNat < 4 ∧ (fixedHdr prof buf).payloadType.toNat < 128 ∧
    (fixedHdr prof buf).csrc.length ≤ 15 := by
  unfold fixedHdr
  split
  · exact ⟨Nat.lt_succ_of_le (u8_and_le _ 3), Nat.lt_succ_of_le (u8_and_le _ 0x7F),
      Nat.le_trans (readCsrcs_length_le _ _) (u8_and_le _ 0x0F)⟩
  · exact ⟨Nat.zero_lt_succ 3, Nat.zero_lt_succ 127, Nat.zero_le 15⟩

theorem readExtL_ok {h0 : Header} {n : Nat} {tail : Bytes} {h : Header} {m : Nat} {locs : List Nat}
    (hok : readExtL h0 n tail = .ok (h, m, locs)) :
    ∃ p0 p1 l0 l1 after es used, tail = p0 :: p1 :: l0 :: l1 :: after ∧
      (rd16 l0 l1).toNat * 4 ≤ after.length ∧
      parseExtBlockL (rd16 p0 p1) (n + 4) (after.take ((rd16 l0 l1).toNat * 4)) = .ok (es, used) ∧
      h = { h0 with extProfile := rd16 p0 p1, exts := es.map (·.1) } ∧ m = n + 4 + used ∧
      locs = es.map (·.2) := by
  unfold readExtL at hok
  split at hok
  · split at hok
    · cases hok
    · split at hok
      · rename_i hlen _ es used hp
        cases hok
        exact ⟨_, _, _, _, _, es, used, rfl, Nat.le_of_not_lt hlen, hp, rfl, rfl, rfl⟩
      · cases hok
      · cases hok
  · cases hok

theorem readExt_ok {h0 : Header} {n : Nat} {tail : Bytes} {h : Header} {m : Nat}
    (hok : readExt h0 n tail = .ok (h, m)) :
    ∃ p0 p1 l0 l1 after es used, tail = p0 :: p1 :: l0 :: l1 :: after ∧
      (rd16 l0 l1).toNat * 4 ≤ after.length ∧
      parseExtBlock (rd16 p0 p1) (after.take ((rd16 l0 l1).toNat * 4)) = .ok (es, used) ∧
      h = { h0 with extProfile := rd16 p0 p1, exts := es } ∧ m = n + 4 + used := by
  rw [← readExtL_fst, Res.map_eq_ok_iff] at hok
  obtain ⟨⟨h', m', locs⟩, hl, he⟩ := hok
  obtain ⟨p0, p1, l0, l1, after, es, used, ht, hlen, hp, rfl, rfl, rfl⟩ := readExtL_ok hl
  cases he
  exact ⟨p0, p1, l0, l1, after, _, used, ht, hlen, by rw [← parseExtBlockL_fst _ (n + 4), hp]; rfl, rfl, rfl⟩

/-- Inversion of a successful `Header.Unmarshal`: without the X bit there are
    no elements and the header ends after the CSRC list; with it the elements come from one block parse at
    `start`, behind the 4-byte extension header. -/
theorem hdrUnmarshalL_inv (r : Header) (buf : Bytes) (h : Header) (n : Nat) (locs : List Nat)
    (hok : hdrUnmarshalL r buf = .ok (h, n, locs)) :
    ((h.extension = false ∧ h.exts = [] ∧ locs = [] ∧ 12 ≤ n ∧ n ≤ buf.length) ∨
     (h.extension = true ∧ ∃ start block tail es used, buf.drop start = block ++ tail ∧
        parseExtBlockL h.extProfile start block = .ok (es, used) ∧
        h.exts = es.map (·.1) ∧ locs = es.map (·.2) ∧ n = start + used ∧ 16 ≤ start ∧ start ≤ buf.length)) := by
  rw [hdrUnmarshalL_eq] at hok
  split at hok
  · cases hok
  · rename_i hcc
    by_cases hx : (fixedHdr r.extProfile buf).extension = true
    · rw [if_pos hx] at hok
      obtain ⟨p0, p1, l0, l1, after, es, used, htail, hl, hp, rfl, rfl, rfl⟩ := readExtL_ok hok
      have hlen := congrArg List.length htail
      rw [List.length_drop] at hlen
      simp only [List.length_cons] at hlen
      refine Or.inr ⟨hx, 12 + ccOf buf * 4 + 4, _, after.drop ((rd16 l0 l1).toNat * 4), es, used,
        ?_, hp, rfl, rfl, rfl, by omega, by omega⟩
      rw [← List.drop_drop, htail, List.take_append_drop]; rfl
    · rw [if_neg hx] at hok
      cases hok
      exact Or.inl ⟨Bool.eq_false_iff.mpr hx, fixedHdr_exts _ _, rfl, Nat.le_add_right _ _, Nat.le_of_not_lt hcc⟩

/-- what a successful `Header.Unmarshal` guarantees: the header length lies inside the input and
    after the 12 fixed bytes, there is one offset per extension element, every element value is the
    input bytes at its offset and lies between the extension header and the end of the header, and
    without the X bit there are no elements -/
theorem hdrUnmarshalL_bounds (r : Header) (buf : Bytes) (h : Header) (n : Nat) (locs : List Nat)
    (hok : hdrUnmarshalL r buf = .ok (h, n, locs)) :
    12 ≤ n ∧ n ≤ buf.length ∧ locs.length = h.exts.length ∧
    (∀ x ∈ h.exts.zip locs, LocIn buf 16 n x) ∧ (h.extension = false → h.exts = []) := by
  rcases hdrUnmarshalL_inv r buf h n locs hok with
    ⟨_, he, hl, h12, hn⟩ | ⟨hx, start, block, tail, es, used, hd, hp, he, hl, rfl, h16, hsb⟩
  · rw [he, hl]
    exact ⟨h12, hn, rfl, fun x hx => absurd hx List.not_mem_nil, fun _ => rfl⟩
  · obtain ⟨hu, _, hloc⟩ := parseExtBlockL_spec buf tail _ start block es used hd hp
    have hlen := congrArg List.length hd
    rw [List.length_drop, List.length_append] at hlen
    rw [he, hl, zip_map_fst_snd, List.length_map, List.length_map]
    refine ⟨by omega, by omega, rfl, fun x hxm => ?_, fun hx' => by rw [hx] at hx'; cases hx'⟩
    obtain ⟨a, b, c⟩ := hloc x hxm
    exact ⟨by omega, b, c⟩

/-- `Packet.Unmarshal` behind a decoded header, without the padding flag -/
theorem pktUnmarshal_nopad {r : Packet} {buf : Bytes} {h : Header} {n : Nat}
    (hh : hdrUnmarshal r.header buf = .ok (h, n)) (hp : h.padding = false) :
    pktUnmarshal r buf = .ok { header := h, payload := buf.drop n, paddingSize := 0 } := by
  simp only [pktUnmarshal, hh, hp, Bool.false_eq_true, if_false]

/-- … and with it: what follows the header is the payload, the filler and the count byte -/
theorem pktUnmarshal_pad {r : Packet} {buf : Bytes} {h : Header} {n : Nat}
    (hh : hdrUnmarshal r.header buf = .ok (h, n)) (hp : h.padding = true) (body f : Bytes) (c : UInt8)
    (hbuf : buf.drop n = body ++ (f ++ [c])) (hn : n ≤ buf.length) (hc : c.toNat = f.length + 1) :
    pktUnmarshal r buf = .ok { header := h, payload := body, paddingSize := c } := by
  have hlen := congrArg List.length hbuf
  simp only [List.length_drop, List.length_append, List.length_singleton] at hlen
  have hlast : buf.getLastD 0 = c := by
    rw [← List.take_append_drop n buf, hbuf, ← List.append_assoc, ← List.append_assoc]; simp
  simp only [pktUnmarshal, hh, hp, if_true, hlast, hc]
  rw [if_neg (by omega), if_neg (by omega)]
  have hs : slice buf n (buf.length - (f.length + 1)) = body := by
    rw [slice, hbuf, show buf.length - (f.length + 1) - n = body.length by omega, List.take_left]
  rw [hs]

theorem pktUnmarshal_ne_panic (r : Packet) (buf : Bytes) : pktUnmarshal r buf ≠ .panic := by
  unfold pktUnmarshal
  have := hdrUnmarshal_ne_panic r.header buf
  split
  · simp
  · contradiction
  · simp only []
    repeat' split
    all_goals simp

theorem pktUnmarshalL_fst (r : Packet) (buf : Bytes) :
    (pktUnmarshalL r buf).map (·.1) = pktUnmarshal r buf := by
  unfold pktUnmarshalL pktUnmarshal
  rw [← hdrUnmarshalL_fst]
  cases hdrUnmarshalL r.header buf with
  | err e => rfl
  | panic => rfl
  | ok x =>
    obtain ⟨h, n, locs⟩ := x
    simp only []
    generalize buf.getLastD 0 = ps
    by_cases hp : h.padding = true <;> by_cases h1 : buf.length ≤ n <;>
      by_cases h2 : buf.length < n + ps.toNat <;>
      simp [Res.map, fstH, hp, h1, h2]

theorem pktUnmarshalL_receiver (r : Packet) (buf : Bytes) :
    pktUnmarshalL r buf =
      (pktUnmarshalL {} buf).map
        (fun x => ({ x.1 with header := withProfile r.header.extProfile x.1.header }, x.2)) := by
  unfold pktUnmarshalL
  rw [hdrUnmarshalL_receiver r.header buf]
  cases hdrUnmarshalL ({} : Packet).header buf with
  | err e => rfl
  | panic => rfl
  | ok x =>
    obtain ⟨h, n, locs⟩ := x
    have hp := withProfile_padding r.header.extProfile h
    simp only []
    generalize buf.getLastD 0 = ps
    by_cases hp' : h.padding = true <;> by_cases h1 : buf.length ≤ n <;>
      by_cases h2 : buf.length < n + ps.toNat <;>
      simp [Res.map, hp, hp', h1, h2]

/-- what a successful `Packet.Unmarshal` guarantees beyond its header part -/
theorem pktUnmarshalL_bounds (r : Packet) (buf : Bytes) (p : Packet) (n : Nat) (locs : List Nat)
    (hok : pktUnmarshalL r buf = .ok (p, n, locs)) :
    hdrUnmarshalL r.header buf = .ok (p.header, n, locs) ∧
    n + p.payload.length + p.paddingSize.toNat = buf.length ∧
    p.payload = slice buf n (n + p.payload.length) := by
  unfold pktUnmarshalL at hok
  split at hok
  · simp at hok
  · simp at hok
  · rename_i h n' locs' hh
    have hb := (hdrUnmarshalL_bounds _ _ _ _ _ hh).2.1
    simp only [] at hok
    split at hok
    · split at hok
      · simp at hok
      · split at hok
        · simp at hok
        · simp only [Res.ok.injEq, Prod.mk.injEq] at hok
          obtain ⟨rfl, rfl, rfl⟩ := hok
          refine ⟨hh, ?_, ?_⟩
          · simp only [slice, List.length_take, List.length_drop]; omega
          · simp only [slice, List.length_take, List.length_drop]
            congr 1; omega
    · simp only [Res.ok.injEq, Prod.mk.injEq] at hok
      obtain ⟨rfl, rfl, rfl⟩ := hok
      refine ⟨hh, ?_, ?_⟩
      · simp only [List.length_drop, UInt8.toNat_zero]; omega
      · simp only [slice, List.length_drop]
        rw [List.take_of_length_le]
        simp only [List.length_drop]; omega

end Rtp.Proofs.PacketParse
