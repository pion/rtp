/-
  Rtp/Proofs/H264Step.lean — one callback invocation of `H264Payloader.Payload` (model `step`) at
  the level of NAL units: which units leave, in which RFC 6184 packets, and what stays pending.
-/
import Rtp.Proofs.H264Payloader
namespace Rtp.Proofs.H264
open Rtp Rtp.Model Rtp.Model.H264 Rtp.Spec.Rfc6184

theorem dropped_test (h : UInt8) :
    ((h &&& naluTypeBitmask) == audNALUType || (h &&& naluTypeBitmask) == fillerNALUType) =
      (hType h == 9 || hType h == 12) := by
  rw [type_test, type_test]; rfl

theorem sps_test (h : UInt8) : ((h &&& naluTypeBitmask) == spsNALUType) = (hType h == 7) := type_test h _

theorem pps_test (h : UInt8) : ((h &&& naluTypeBitmask) == ppsNALUType) = (hType h == 8) := type_test h _

/-- a packet's worth of units: (is it a STAP-A?, the units) -/
abbrev Group := Bool × List Bytes

def flatOf (gs : List Group) : List Bytes := gs.flatMap (·.2)

/-- the callback `Payload` hands to `emitNalus`, at the level of units: the units released by one
    step, grouped as they are packed, and the pending pair afterwards.  With `DisableStapA` every
    unit leaves at once; otherwise SPS and PPS wait for the next other unit and leave in front of
    it, as one STAP-A if it fits: 5 = its header octet and two 2-octet sizes. -/
def stepOut (disable : Bool) (mtu : Nat) (sps pps : Option Bytes) (n : Bytes) :
    List Group × (Option Bytes × Option Bytes) :=
  if isDropped n then ([], (sps, pps))
  else if disable then ([(false, [n])], (sps, pps))
  else if isSps n then ([], (some n, pps))
  else if isPps n then ([], (sps, some n))
  else match sps, pps with
    | some s, some p =>
      ((if 5 + s.length + p.length ≤ mtu then [(true, [s, p])] else [(false, [s]), (false, [p])]) ++
        [(false, [n])], (none, none))
    | _, _ => ([(false, [n])], (sps, pps))

def pendOk (o : Option Bytes) : Prop := ∀ s, o = some s → nalWF s = true ∧ isDropped s = false

structure StOk (st : PayState) : Prop where
  sps : pendOk st.sps
  pps : pendOk st.pps

theorem StOk.empty : StOk {} := ⟨(by intro s h; cases h), (by intro s h; cases h)⟩

/-- the outcome of a step is a list of RFC 6184 items, packed as `groups` says -/
structure StepPlan (out : List Bytes) (groups : List Group) : Prop where
  ex : ∃ plan : List Item, out = encode plan ∧ plan.all Item.wf = true ∧
        plan.all Rtp.Pred.C10.headsApply = true ∧ plan.map Item.group = groups

theorem StepPlan.nil : StepPlan [] [] := ⟨⟨[], rfl, rfl, rfl, rfl⟩⟩

theorem StepPlan.append {o1 o2 : List Bytes} {n1 n2 : List Group} (a : StepPlan o1 n1)
    (b : StepPlan o2 n2) : StepPlan (o1 ++ o2) (n1 ++ n2) := by
  obtain ⟨p1, e1, w1, h1, k1⟩ := a.ex
  obtain ⟨p2, e2, w2, h2, k2⟩ := b.ex
  exact ⟨⟨p1 ++ p2, by simp [encode, e1, e2], by simp [w1, w2], by simp [h1, h2], by simp [k1, k2]⟩⟩

theorem itemOf_not_stap (mtu : Nat) (n : Bytes) : (itemOf mtu n).isStap = false := by
  unfold itemOf
  split
  · rfl
  · split <;> rfl

theorem StepPlan.unit (mtu : Nat) (hm : 3 ≤ mtu) (n : Bytes) (hw : nalWF n = true) :
    StepPlan (singleOrFua mtu n) [(false, [n])] := by
  have hu := unitOk_of_wf n hw
  obtain ⟨w, ha, hn⟩ := itemOf_wf mtu hm n hu
  exact ⟨⟨[itemOf mtu n], by simp [encode, singleOrFua_eq mtu hm n hu], by simp [w], by simp [ha],
    by simp [Item.group, hn, itemOf_not_stap]⟩⟩

/-- `mtu < 65536` makes the two sizes fit their 16-bit fields -/
theorem StepPlan.stap (mtu : Nat) (hm2 : mtu < 65536) (s p : Bytes)
    (hfit : (stapA s p).length ≤ mtu) : StepPlan [stapA s p] [(true, [s, p])] := by
  have hl : (stapA s p).length = 5 + s.length + p.length := by
    simp [stapA, be16]; omega
  refine ⟨⟨[.stapA outputStapAHeader [s, p]], ?_, ?_, by simp [Rtp.Pred.C10.headsApply], by simp [Item.group, Item.isStap, Item.nals]⟩⟩
  · simp [encode, Item.encode, encStapBody, stapA, be16_size16 s.length (by omega),
      be16_size16 p.length (by omega)]
  · simp [Item.wf, show hType outputStapAHeader = 24 by decide]; omega

theorem payloadNoStap_unit (mtu : Nat) (s : Bytes) (hw : nalWF s = true) (hd : isDropped s = false) :
    payloadNoStap mtu s = singleOrFua mtu s := by
  obtain ⟨h, body, rfl, _⟩ := unitOk_of_wf s hw
  have hb := emitNalus_bare _ (nalOk_of_wf _ hw)
  simp only [isDropped, typeOf] at hd
  simp [payloadNoStap, hb, stepNoStap, dropped_test, hd]

/-- one step of the model against `stepOut`: what leaves is the encoding of legal items packed as
    `stepOut` says, the pending pair is `stepOut`'s, and it stays well-formed -/
theorem step_spec (disable : Bool) (mtu : Nat) (hm : 3 ≤ mtu) (hm2 : mtu < 65536) (st : PayState)
    (n : Bytes) (hw : nalWF n = true) (hst : StOk st) :
    StepPlan (step disable mtu st n).1 (stepOut disable mtu st.sps st.pps n).1 ∧
    ((step disable mtu st n).2.sps, (step disable mtu st n).2.pps) =
      (stepOut disable mtu st.sps st.pps n).2 ∧
    StOk (step disable mtu st n).2 := by

  obtain ⟨h, body, rfl, _⟩ := unitOk_of_wf n hw
  have hunit := StepPlan.unit mtu hm (h :: body) hw
  simp only [step, stepOut, isDropped, isSps, isPps, typeOf, dropped_test, sps_test, pps_test]
  by_cases hd : (hType h == 9 || hType h == 12) = true
  · simp only [hd, if_true]
    exact ⟨StepPlan.nil, trivial, hst⟩
  · simp only [hd, Bool.false_eq_true, if_false]
    have keeps : pendOk (some (h :: body)) := by
      intro s hs; cases hs; exact ⟨hw, by simpa [isDropped, typeOf] using hd⟩
    cases disable with
    | true =>
      -- with `DisableStapA` every branch sends the unit and leaves the state alone
      simp only [Bool.not_true, Bool.false_eq_true, if_false, if_true, ite_self]
      exact ⟨hunit, trivial, hst⟩
    | false =>
      simp only [Bool.not_false, if_true, Bool.false_eq_true, if_false]
      by_cases h7 : (hType h == 7) = true
      · simp only [h7, if_true]
        exact ⟨StepPlan.nil, trivial, ⟨keeps, hst.pps⟩⟩
      · simp only [h7, Bool.false_eq_true, if_false]
        by_cases h8 : (hType h == 8) = true
        · simp only [h8, if_true]
          exact ⟨StepPlan.nil, trivial, ⟨hst.sps, keeps⟩⟩
        · simp only [h8, Bool.false_eq_true, if_false]
          match st, hst with
          | ⟨none, _⟩, hst | ⟨some _, none⟩, hst => exact ⟨hunit, rfl, hst⟩
          | ⟨some s, some p⟩, hst =>
            obtain ⟨hs1, hs2⟩ := hst.sps s rfl
            obtain ⟨hp1, hp2⟩ := hst.pps p rfl
            refine ⟨StepPlan.append ?_ hunit, rfl, StOk.empty⟩
            have hl : (stapA s p).length = 5 + s.length + p.length := by
              simp [stapA, be16]; omega
            rw [hl]
            split
            · exact StepPlan.stap mtu hm2 s p (by omega)
            · rw [payloadNoStap_unit mtu s hs1 hs2, payloadNoStap_unit mtu p hp1 hp2]
              exact StepPlan.append (StepPlan.unit mtu hm s hs1) (StepPlan.unit mtu hm p hp1)

end Rtp.Proofs.H264
