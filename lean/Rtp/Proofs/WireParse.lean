/-
  Rtp/Proofs/WireParse.lean — parse-of-encode: what `hdrUnmarshal` / `pktUnmarshal` (Model/Packet)
  make of `Wire.encode` (Spec/Wire), with pad bytes anywhere between the elements.

  `wireOk` (elements `Item.ok1` / `Item.ok2`, block `blockOk`) is the widest set of descriptions the
  parser inverts: besides the RFC-legal elements it contains one-byte elements with id 0 and 2–16 bytes
  (header byte ≠ 0), which the parser treats as elements and which `c03_remarshal` therefore has to
  cover, and the reserved id 15.
-/
import Rtp.Proofs.PacketRtBits
import Rtp.Proofs.PacketParse
import Rtp.Spec.Wire
namespace Rtp.Proofs.Wire
open Rtp Rtp.Model Rtp.Spec.Wire
open Rtp.Proofs.PacketParse (readExt)

theorem b2n_eq (b : Bool) : b2n b = b.toNat := by cases b <;> rfl

/-- Elements the one-byte walk reads back.  Id 15 stops the walk; id 0 with one byte has header byte 0 and
    would be read as a pad.  (Declared in this namespace, not as a member of `Spec.Wire.Item`: write `Item.ok1 it`.) -/
def Item.ok1 : Item → Bool
  | .pad => true
  | .elem id d => id.toNat ≤ 14 && 1 ≤ d.length && d.length ≤ 16 && !(id == 0 && d.length == 1)

def Item.ok2 : Item → Bool
  | .pad => true
  | .elem id d => id != 0 && d.length ≤ 255

theorem parseOneByte_pads (k : Nat) : parseOneByte (rep k 0) = .ok ([], 0) := by
  induction k with
  | zero => simp [rep, parseOneByte]
  | succ k ih =>
    simp only [rep, List.replicate_succ]
    rw [parseOneByte]
    simpa [rep] using ih

theorem parseTwoByte_pads (k : Nat) : parseTwoByte (rep k 0) = .ok [] := by
  induction k with
  | zero => simp [rep, parseTwoByte]
  | succ k ih =>
    simp only [rep, List.replicate_succ]
    rw [parseTwoByte.eq_def]
    simpa [rep] using ih

/-- the header byte of an element the one-byte walk accepts: not the pad byte, id in the high nibble (not
    the reserved 15), length − 1 in the low one -/
theorem ok1_hdr {id : UInt8} {d : Bytes} (h : Item.ok1 (.elem id d) = true) :
    let b : UInt8 := (id.toNat * 16 + (d.length - 1)).toUInt8
    (b == 0) = false ∧ (b >>> 4) = id ∧ (id == 15) = false ∧ (b &&& 0x0F).toNat + 1 = d.length := by
  simp only [Item.ok1, Bool.and_eq_true, decide_eq_true_eq, Bool.not_eq_true'] at h
  obtain ⟨⟨⟨hid, h1⟩, h16⟩, hnz⟩ := h
  obtain ⟨a, b, c⟩ := PacketRt.hdr1_decode id.toNat (d.length - 1) (by omega) (by omega)
  refine ⟨beq_eq_false_iff_ne.mpr (fun hb => ?_), a.trans (toUInt8_toNat id),
    beq_eq_false_iff_ne.mpr (fun h15 => by rw [h15] at hid; exact absurd hid (by decide)), by rw [b]; omega⟩
  obtain ⟨h0, hl⟩ := c.mp hb
  have e0 : id = 0 := UInt8.toNat_inj.mp h0
  have e1 : d.length = 1 := by omega
  rw [e0, e1] at hnz
  cases hnz

theorem ok2_hdr {id : UInt8} {d : Bytes} (h : Item.ok2 (.elem id d) = true) :
    (id == 0) = false ∧ d.length.toUInt8.toNat = d.length := by
  simp only [Item.ok2, Bool.and_eq_true, decide_eq_true_eq, bne_iff_ne, ne_eq] at h
  exact ⟨beq_eq_false_iff_ne.mpr h.1, toNat_toUInt8_of_lt (Nat.lt_succ_of_le h.2)⟩

@[simp] theorem body1_nil : body1 [] = [] := rfl
@[simp] theorem body1_pad (r : List Item) : body1 (.pad :: r) = 0 :: body1 r := rfl
@[simp] theorem body1_elem (id : UInt8) (d : Bytes) (r : List Item) :
    body1 (.elem id d :: r) = (id.toNat * 16 + (d.length - 1)).toUInt8 :: (d ++ body1 r) := by
  simp [body1, Item.enc1]

@[simp] theorem body2_nil : body2 [] = [] := rfl
@[simp] theorem body2_pad (r : List Item) : body2 (.pad :: r) = 0 :: body2 r := rfl
@[simp] theorem body2_elem (id : UInt8) (d : Bytes) (r : List Item) :
    body2 (.elem id d :: r) = id :: d.length.toUInt8 :: (d ++ body2 r) := by
  simp [body2, Item.enc2]

/-- the reserved-id byte: never a pad, high nibble 15 -/
theorem stop_facts (n : Nat) (hn : n < 16) :
    let b : UInt8 := (15 * 16 + n).toUInt8
    (b == 0) = false ∧ (b >>> 4) = 15 := by
  obtain ⟨a, _, c⟩ := PacketRt.hdr1_decode 15 n (Nat.le_refl 15) (Nat.le_of_lt_succ hn)
  exact ⟨beq_eq_false_iff_ne.mpr (fun h => absurd (c.mp h).1 (by decide)), a⟩

/-- the one-byte walk stops at the reserved id and leaves everything behind it unread -/
theorem parseOneByte_stop (n : UInt8) (rest : Bytes) (k : Nat) (hn : n.toNat < 16) :
    parseOneByte (stopBytes (some (n, rest)) ++ rep k 0) = .ok ([], rest.length + k) := by
  obtain ⟨a, b⟩ := stop_facts n.toNat hn
  simp only [stopBytes, List.cons_append]
  rw [parseOneByte]
  simp only [a, b, Bool.false_eq_true, ↓reduceIte, beq_self_eq_true, List.length_append, rep, List.length_replicate]

/-- the one-byte walk over an encoded item list followed by any tail on which the walk finds no
    further element (alignment pads, or a reserved id and what follows it) -/
theorem parseOneByte_body (items : List Item) (tail : Bytes) (left : Nat) (h : items.all Item.ok1 = true)
    (ht : parseOneByte tail = .ok ([], left)) :
    parseOneByte (body1 items ++ tail) = .ok (elems items, left) := by
  induction items with
  | nil => simpa [elems] using ht
  | cons it r ih =>
    simp only [List.all_cons, Bool.and_eq_true] at h
    obtain ⟨hit, hr⟩ := h
    cases it with
    | pad =>
      simp only [body1_pad, List.cons_append, elems]
      rw [parseOneByte]
      simpa using ih hr
    | elem id d =>
      obtain ⟨fz, fa, h15, fb⟩ := ok1_hdr hit
      simp only [body1_elem, List.cons_append, List.append_assoc, elems]
      rw [parseOneByte]
      simp only [fz, fa, fb, h15, Bool.false_eq_true, ↓reduceIte]
      have hlen : ¬ (d ++ (body1 r ++ tail)).length < d.length := by simp
      simp only [hlen, ↓reduceIte, List.drop_left, List.take_left, ih hr]

theorem parseTwoByte_body (items : List Item) (k : Nat) (h : items.all Item.ok2 = true) :
    parseTwoByte (body2 items ++ rep k 0) = .ok (elems items) := by
  induction items with
  | nil => simpa [elems] using parseTwoByte_pads k
  | cons it r ih =>
    simp only [List.all_cons, Bool.and_eq_true] at h
    obtain ⟨hit, hr⟩ := h
    cases it with
    | pad =>
      simp only [body2_pad, List.cons_append, elems]
      rw [parseTwoByte.eq_def]
      simpa using ih hr
    | elem id d =>
      obtain ⟨hid', hl⟩ := ok2_hdr hit
      simp only [body2_elem, List.cons_append, List.append_assoc, elems]
      rw [parseTwoByte.eq_def]
      simp only [hid', Bool.false_eq_true, ↓reduceIte, hl]
      have hlen : ¬ (d ++ (body2 r ++ rep k 0)).length < d.length := by simp
      simp only [hlen, ↓reduceIte, List.drop_left, List.take_left, ih hr]

/-- `.legacy` only excludes `p = 0x1000` where `ExtBlock.WF` excludes 0x1000–0x100F: pion reads 0x1001–0x100F as a
    legacy block (finding `c03_twobyte_appbits`), and so does the model. -/
def blockOk : ExtBlock → Bool
  | .oneByte items stop => items.all Item.ok1 && stopWF stop && (body1 items ++ stopBytes stop).length ≤ maxBody
  | .twoByte a items => a == 0 && items.all Item.ok2 && (body2 items).length ≤ maxBody
  | .legacy p ws => p != 0xBEDE && p != 0x1000 && ws.length % 4 == 0 && ws.length ≤ maxBody

theorem padTo4_facts (n : Nat) : (n + padTo4 n) % 4 = 0 ∧ padTo4 n < 4 := by
  unfold padTo4; omega

theorem parseExtBlock_body (b : ExtBlock) (h : blockOk b = true) :
    parseExtBlock b.profile (b.body ++ rep (padTo4 b.body.length) 0) =
      .ok (b.elements, (b.body ++ rep (padTo4 b.body.length) 0).length - b.ignored) := by
  cases b with
  | oneByte items stop =>
    simp only [blockOk, Bool.and_eq_true] at h
    obtain ⟨⟨hi, hs⟩, _⟩ := h
    cases stop with
    | none =>
      have := parseOneByte_body items (rep (padTo4 (body1 items).length) 0) 0 hi (parseOneByte_pads _)
      simp only [parseExtBlock, ExtBlock.profile, ExtBlock.body, profileOneByte, beq_self_eq_true, ↓reduceIte,
        stopBytes, List.append_nil, this, ExtBlock.elements, ExtBlock.ignored, Nat.sub_zero]
    | some st =>
      obtain ⟨n, rest⟩ := st
      simp only [stopWF, decide_eq_true_eq] at hs
      have := parseOneByte_body items (stopBytes (some (n, rest)) ++ rep (padTo4 (body1 items ++ stopBytes (some (n, rest))).length) 0) _ hi
        (parseOneByte_stop n rest _ hs)
      simp only [parseExtBlock, ExtBlock.profile, ExtBlock.body, profileOneByte, beq_self_eq_true, ↓reduceIte,
        List.append_assoc, this, ExtBlock.elements, ExtBlock.ignored]
  | twoByte a items =>
    simp only [blockOk, Bool.and_eq_true, beq_iff_eq] at h
    obtain ⟨⟨ha, hi⟩, _⟩ := h
    subst ha
    have e1 : ((0x1000 + (0 : UInt8).toNat).toUInt16 == profileOneByte) = false := by decide
    have e2 : ((0x1000 + (0 : UInt8).toNat).toUInt16 == profileTwoByte) = true := by decide
    simp only [parseExtBlock, ExtBlock.profile, ExtBlock.body, e1, e2, ↓reduceIte,
      Bool.false_eq_true, parseTwoByte_body items _ hi, ExtBlock.elements, ExtBlock.ignored, Nat.sub_zero]
  | legacy p ws =>
    simp only [blockOk, Bool.and_eq_true, bne_iff_ne, ne_eq, beq_iff_eq, decide_eq_true_eq] at h
    obtain ⟨⟨⟨h1, h2⟩, h3⟩, _⟩ := h
    have e1 : (p == profileOneByte) = false := by simpa [profileOneByte] using h1
    have e2 : (p == profileTwoByte) = false := by simpa [profileTwoByte] using h2
    have e3 : padTo4 ws.length = 0 := by unfold padTo4; omega
    simp [parseExtBlock, ExtBlock.profile, ExtBlock.body, e1, e2, e3, ExtBlock.elements, ExtBlock.ignored, rep]

theorem readCsrcs_flatten (cs : List UInt32) (tail : Bytes) :
    readCsrcs cs.length ((cs.map be32).flatten ++ tail) = cs := by
  induction cs with
  | nil => cases tail <;> simp [readCsrcs]
  | cons c r ih =>
    simp only [List.map_cons, List.flatten_cons, be32, List.cons_append, List.nil_append, List.length_cons, readCsrcs, rd32_be32, ih]

theorem drop_csrc_bytes (cs : List UInt32) (tail : Bytes) :
    ((cs.map be32).flatten ++ tail).drop (cs.length * 4) = tail := by
  rw [← flatten_map_be32_length, List.drop_left]

/-- 254: the count byte of the RTP padding is `f.length + 1 ≤ 255` -/
def wireOk (w : Wire) : Bool :=
  w.version.toNat < 4 && w.pt.toNat < 128 && w.csrc.length ≤ 15 &&
  (match w.ext with | some b => blockOk b | none => true) &&
  (match w.pad with | some f => f.length ≤ 254 | none => true)

/-- the header `Header.Unmarshal` has to produce into receiver `r`: the receiver's profile
    survives when the packet has no extension -/
def hdrOf (r : Header) (w : Wire) : Header :=
  { w.toPacket.header with extProfile := match w.ext with | some b => b.profile | none => r.extProfile }

theorem ignored_le (b : ExtBlock) : b.ignored ≤ (b.body ++ rep (padTo4 b.body.length) 0).length := by
  cases b with
  | oneByte items stop =>
    cases stop with
    | none => simp [ExtBlock.ignored]
    | some st =>
      obtain ⟨n, rest⟩ := st
      simp only [ExtBlock.ignored, ExtBlock.body, stopBytes, List.length_append, List.length_cons, rep,
        List.length_replicate]
      omega
  | twoByte a items => simp [ExtBlock.ignored]
  | legacy p ws => simp [ExtBlock.ignored]

/-- block content, alignment pads, then anything: the 16-bit word count reads back as the length of the first
    two, and cutting there separates them from what follows -/
theorem block_cut (body rest : Bytes) (hbody : body.length ≤ maxBody) :
    ((body.length + padTo4 body.length) / 4).toUInt16.toNat * 4 = body.length + padTo4 body.length ∧
    ¬ (body ++ (rep (padTo4 body.length) 0 ++ rest)).length < body.length + padTo4 body.length ∧
    (body ++ (rep (padTo4 body.length) 0 ++ rest)).take (body.length + padTo4 body.length) =
      body ++ rep (padTo4 body.length) 0 ∧
    (body ++ (rep (padTo4 body.length) 0 ++ rest)).drop (body.length + padTo4 body.length) = rest := by
  obtain ⟨hm, hlt⟩ := padTo4_facts body.length
  have hlen : body.length + padTo4 body.length = (body ++ rep (padTo4 body.length) 0).length := by
    rw [List.length_append, rep_length]
  refine ⟨PacketRt.wordCount_roundtrip _ hm (by rw [maxBody] at hbody; omega), ?_, ?_, ?_⟩
  · rw [← List.append_assoc, List.length_append, ← hlen]; exact Nat.not_lt.mpr (Nat.le_add_right _ _)
  · rw [← List.append_assoc, hlen, List.take_left]
  · rw [← List.append_assoc, hlen, List.drop_left]

theorem body_le_of_blockOk (b : ExtBlock) (hb : blockOk b = true) : b.body.length ≤ maxBody := by
  cases b <;> (simp only [blockOk, Bool.and_eq_true, decide_eq_true_eq] at hb; exact hb.2)

theorem readExt_encode (h : Header) (n : Nat) (b : ExtBlock) (rest : Bytes) (hb : blockOk b = true) :
    readExt h n (b.encode ++ rest) =
      .ok ({ h with extProfile := b.profile, exts := b.elements }, n + b.encode.length - b.ignored) := by
  obtain ⟨hwords, hl, ht, _⟩ := block_cut b.body rest (body_le_of_blockOk b hb)
  simp only [ExtBlock.encode, be16, List.cons_append, List.nil_append, List.append_assoc, readExt, rd16_be16, hwords,
    hl, ↓reduceIte, ht, parseExtBlock_body b hb]
  have e : (b.body ++ rep (padTo4 b.body.length) 0).length ≥ b.ignored := ignored_le b
  simp only [List.length_cons]
  congr 2
  omega

/-- everything in front of the payload -/
def headBytes (w : Wire) : Bytes :=
  [ (w.version.toNat * 64 + b2n w.pad.isSome * 32 + b2n w.ext.isSome * 16 + w.csrc.length).toUInt8,
    (b2n w.marker * 128 + w.pt.toNat).toUInt8 ] ++
  be16 w.seq ++ be32 w.ts ++ be32 w.ssrc ++ (w.csrc.map be32).flatten ++ encodeExt w.ext

theorem encode_split (w : Wire) : w.encode = headBytes w ++ (w.payload ++ encodePad w.pad) := by
  simp [Wire.encode, headBytes]

theorem headBytes_length (w : Wire) : (headBytes w).length = w.extEnd := by
  simp only [headBytes, Wire.extEnd, be16, be32, List.length_append, List.length_cons, List.length_nil, flatten_map_be32_length]
  omega

theorem hdrUnmarshal_head (w : Wire) (r : Header) (h : wireOk w = true) (tail : Bytes) :
    hdrUnmarshal r (headBytes w ++ tail) = .ok (hdrOf r w, w.extEnd - w.ignored) := by
  simp only [wireOk, Bool.and_eq_true, decide_eq_true_eq] at h
  obtain ⟨⟨⟨⟨hv, hpt⟩, hcc⟩, hext⟩, hpad⟩ := h
  obtain ⟨f1, f2, f3, f4⟩ := PacketRt.byte0_decode w.version.toNat w.csrc.length w.pad.isSome w.ext.isSome hv hcc
  obtain ⟨g1, g2⟩ := PacketRt.byte1_decode w.pt.toNat w.marker hpt
  simp only [headBytes, b2n_eq, be16, be32, List.cons_append, List.nil_append, List.append_assoc]
  rw [PacketParse.hdrUnmarshal_eq, PacketParse.ccOf, List.headD_cons, f4, PacketParse.drop12, drop_csrc_bytes,
    if_neg (by simp only [List.length_cons, List.length_append, flatten_map_be32_length]; omega)]
  simp only [PacketParse.fixedHdr, f1, f2, f3, f4, g1, g2, readCsrcs_flatten, rd16_be16, rd32_be32, toUInt8_toNat]
  cases hx : w.ext with
  | none =>
    simp [hx, hdrOf, Wire.toPacket, Wire.extEnd, encodeExt, Wire.ignored]
    omega
  | some b =>
    simp only [hx] at hext
    simp only [Option.isSome_some, ↓reduceIte, encodeExt, readExt_encode _ _ b _ hext]
    simp [hdrOf, Wire.toPacket, hx, Wire.extEnd, encodeExt, Wire.ignored]
    omega

theorem hdrUnmarshal_encode (w : Wire) (r : Header) (h : wireOk w = true) :
    hdrUnmarshal r w.encode = .ok (hdrOf r w, w.extEnd - w.ignored) := by
  rw [encode_split, hdrUnmarshal_head w r h]

/-- general form: the payload starts `w.ignored` bytes before the end of the header bytes, so
    the unread block bytes come out in front of the payload -/
theorem pktUnmarshal_encode_gen (w : Wire) (r : Packet) (h : wireOk w = true) :
    pktUnmarshal r w.encode =
      .ok { header := hdrOf r.header w,
            payload := (headBytes w).drop (w.extEnd - w.ignored) ++ w.payload,
            paddingSize := w.toPacket.paddingSize } := by
  have hpad : (match w.pad with | some f => decide (f.length ≤ 254) | none => true) = true := by
    simp only [wireOk, Bool.and_eq_true] at h; exact h.2
  have hh := hdrUnmarshal_encode w r.header h
  have hnle : w.extEnd - w.ignored ≤ (headBytes w).length := by rw [headBytes_length]; exact Nat.sub_le _ _
  have hdrop : w.encode.drop (w.extEnd - w.ignored) =
      ((headBytes w).drop (w.extEnd - w.ignored) ++ w.payload) ++ encodePad w.pad := by
    rw [encode_split, List.drop_append_of_le_length hnle, List.append_assoc]
  cases hx : w.pad with
  | none =>
    rw [PacketParse.pktUnmarshal_nopad hh (by simp [hdrOf, Wire.toPacket, hx]), hdrop, hx]
    simp [encodePad, Wire.toPacket, hx]
  | some f =>
    simp only [hx, decide_eq_true_eq] at hpad
    rw [PacketParse.pktUnmarshal_pad hh (by simp [hdrOf, Wire.toPacket, hx]) _ f (f.length + 1).toUInt8 (by rw [hdrop, hx]; rfl)
      (by rw [encode_split, List.length_append]; omega) (toNat_toUInt8_of_lt (by omega))]
    simp [Wire.toPacket, hx]

theorem take_extEnd (w : Wire) : w.encode.take w.extEnd = headBytes w := by
  rw [encode_split, ← headBytes_length, List.take_left]

theorem pktUnmarshal_encode (w : Wire) (r : Packet) (h : wireOk w = true) (hu : w.ignored = 0) :
    pktUnmarshal r w.encode =
      .ok { header := hdrOf r.header w, payload := w.payload, paddingSize := w.toPacket.paddingSize } := by
  rw [pktUnmarshal_encode_gen w r h, hu, Nat.sub_zero, ← headBytes_length, List.drop_length, List.nil_append]

end Rtp.Proofs.Wire
