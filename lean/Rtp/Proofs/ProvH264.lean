/-
  Rtp/Proofs/ProvH264.lean — the provenance-level H264 payloader and depacketizer
  (Rtp/Model/ProvH264.lean).  Every fragment and every `Unmarshal` result is `PBytes.make` of what
  Model/H264.lean computes, so forgetting origins gives that model and everything handed out is
  `fresh`; the retained slices follow the value-level state and are `fresh` when the retention step
  copies.  The functions with suffix `G` take that step as a parameter: `keep` for SPS/PPS
  (`append([]byte{}, nalu...)` in the code, `id` for `p.spsNalu = nalu`), `store` for the FU-A buffer
  (`append(p.fuaBuffer, payload[2:]...)`).  What `keep`/`store` do to the contents is a hypothesis of
  the lemmas; what they do to the origin is asked only where ownership is concluded, so that the
  projection holds for a `keep` that does not copy.
-/
import Rtp.Model.ProvH264
import Rtp.Proofs.Prov
import Rtp.Proofs.Lib.Lists
namespace Rtp.Proofs.ProvH264
open Rtp Rtp.Model Rtp.Model.Prov Rtp.Model.H264 Rtp.Proofs.Prov

theorem pFuaLoop_eq (k : Nat) (ind typ : UInt8) (first : Bool) (rem : PBytes) :
    pFuaLoop k ind typ first rem = (fuaLoop k ind typ first rem.bytes).map PBytes.make := by
  fun_induction pFuaLoop k ind typ first rem with
  | case1 first rem h => rw [fuaLoop, dif_pos h]; rfl
  | case2 first rem h hdr ih => rw [fuaLoop, dif_neg h, ih]; rfl

theorem pSingleOrFua_eq (mtu : Nat) (nalu : PBytes) :
    pSingleOrFua mtu nalu = (singleOrFua mtu nalu.bytes).map PBytes.make := by
  obtain ⟨bs, o⟩ := nalu
  cases bs with
  | nil => rfl
  | cons b body =>
    simp only [pSingleOrFua, singleOrFua, pFuaLoop_eq]
    split
    · rfl
    · split <;> rfl

theorem pStepNoStap_eq (mtu : Nat) (nalu : PBytes) :
    pStepNoStap mtu nalu = (stepNoStap mtu nalu.bytes).map PBytes.make := by
  obtain ⟨bs, o⟩ := nalu
  cases bs with
  | nil => rfl
  | cons b body =>
    simp only [pStepNoStap, stepNoStap, pSingleOrFua_eq]
    split <;> rfl

theorem pPayloadNoStap_eq (mtu : Nat) (x : PBytes) :
    pPayloadNoStap mtu x = (payloadNoStap mtu x.bytes).map PBytes.make := by
  simp only [pPayloadNoStap, payloadNoStap, pEmitNalus_eq, List.flatMap_map, pStepNoStap_eq]
  split
  · rfl
  · exact List.map_flatMap.symm

theorem bytes_pStapA (s p : PBytes) : (pStapA s p).bytes = stapA s.bytes p.bytes := by
  simp [pStapA, stapA]

theorem pStapA_copy (s p : PBytes) : (pStapA s p).copy = PBytes.make (stapA s.bytes p.bytes) := by
  simp only [pStapA, stapA, PBytes.copy, PBytes.append, PBytes.make, List.cons_append, List.nil_append, List.append_assoc]

/-- an outcome of the provenance-level payloader that held `st`, against the value-level outcome: the
    fragments are new arrays with the same contents, the retained slices forget to the value-level
    state, and they are owned if those of `st` were and `keep` allocates -/
def StepTracks (keep : PBytes → PBytes) (st : PPayState) (r : List PBytes × PPayState)
    (v : List Bytes × PayState) : Prop :=
  r.1 = v.1.map PBytes.make ∧ r.2.forget = v.2 ∧
    ((∀ x, (keep x).origin = .fresh) → st.Owned → r.2.Owned)

theorem StepTracks.same (keep : PBytes → PBytes) (st : PPayState) (l : List Bytes) :
    StepTracks keep st (l.map PBytes.make, st) (l, st.forget) := ⟨rfl, rfl, fun _ hs => hs⟩

theorem StepTracks.forget {keep : PBytes → PBytes} {st : PPayState} {r : List PBytes × PPayState}
    {v : List Bytes × PayState} (h : StepTracks keep st r v) : forgetAll r.1 = v.1 ∧ r.2.forget = v.2 :=
  ⟨by rw [h.1, forgetAll_map_make], h.2.1⟩

theorem StepTracks.allOwned {keep : PBytes → PBytes} {st : PPayState} {r : List PBytes × PPayState}
    {v : List Bytes × PayState} (h : StepTracks keep st r v) : AllOwned r.1 := by
  rw [h.1]; exact allOwned_map_make _

section
variable (keep : PBytes → PBytes) (hk : ∀ x, (keep x).bytes = x.bytes)
include hk

theorem pStepG_tracks (disable : Bool) (mtu : Nat) (st : PPayState) (nalu : PBytes) :
    StepTracks keep st (pStepG keep disable mtu st nalu) (step disable mtu st.forget nalu.bytes) := by
  obtain ⟨bs, o⟩ := nalu
  cases bs with
  | nil => exact .same keep st []
  | cons b body =>
    simp only [pStepG, step, pSingleOrFua_eq, pPayloadNoStap_eq]
    refine ite_rel _ _ (.same keep st []) (ite_rel _ _ (ite_rel _ _ ?sps (.same keep st _))
      (ite_rel _ _ (ite_rel _ _ ?pps (.same keep st _)) ?other))
    case sps => exact ⟨rfl, by simp only [PPayState.forget, Option.map_some, hk], fun hk' hs => ⟨hk' _, hs.2⟩⟩
    case pps => exact ⟨rfl, by simp only [PPayState.forget, Option.map_some, hk], fun hk' hs => ⟨hs.1, hk' _⟩⟩
    case other =>
      match disable, st with
      | true, _ | false, ⟨none, _⟩ | false, ⟨some _, none⟩ => exact .same keep _ _
      | false, ⟨some s, some p⟩ =>
        refine ⟨?_, rfl, fun _ _ => ⟨trivial, trivial⟩⟩
        simp only [PPayState.forget, Option.map_some, bytes_pStapA, pStapA_copy]
        split <;> simp only [List.map_append, List.map_cons, List.map_nil]

theorem pStepsG_tracks (disable : Bool) (mtu : Nat) (st : PPayState) (ns : List PBytes) :
    StepTracks keep st (pStepsG keep disable mtu st ns) (steps disable mtu st.forget (forgetAll ns)) := by
  induction ns generalizing st with
  | nil => exact .same keep st []
  | cons n ns ih =>
    obtain ⟨h1, h2, h3⟩ := pStepG_tracks keep hk disable mtu st n
    obtain ⟨k1, k2, k3⟩ := ih (pStepG keep disable mtu st n).2
    rw [h2] at k1 k2
    refine ⟨?_, k2, fun hk' hs => k3 hk' (h3 hk' hs)⟩
    simp only [pStepsG, steps, forgetAll_cons, h1, k1, List.map_append]

theorem pPayloadG_tracks (disable : Bool) (mtu : UInt16) (st : PPayState) (i : Nat) (input : Bytes) :
    StepTracks keep st (pPayloadG keep disable mtu st i input) (payload disable mtu st.forget input) := by
  unfold pPayloadG payload
  split
  · exact .same keep st []
  · have := pStepsG_tracks keep hk disable mtu.toNat st (pEmitNalus (PBytes.ofInput i input))
    rwa [forgetAll_pEmitNalus] at this

theorem pPayloadRunG_spec (st : PPayState) (i : Nat) (calls : List (Bool × UInt16 × Bytes)) :
    (pPayloadRunG keep st i calls).1 = (payloadHist st.forget calls).map (·.map PBytes.make) ∧
    ((∀ x, (keep x).origin = .fresh) → st.Owned → (pPayloadRunG keep st i calls).2.Owned) := by
  induction calls generalizing st i with
  | nil => exact ⟨rfl, fun _ hs => hs⟩
  | cons c cs ih =>
    obtain ⟨d, m, inp⟩ := c
    obtain ⟨h1, h2, h3⟩ := pPayloadG_tracks keep hk d m st i inp
    obtain ⟨k1, k2⟩ := ih (pPayloadG keep d m st i inp).2 (i + 1)
    rw [h2] at k1
    refine ⟨?_, fun hk' hs => k2 hk' (h3 hk' hs)⟩
    simp only [pPayloadRunG, payloadHist, List.map_cons, h1, k1]

theorem forget_pPayloadRunG (st : PPayState) (i : Nat) (calls : List (Bool × UInt16 × Bytes)) :
    (pPayloadRunG keep st i calls).1.map forgetAll = payloadHist st.forget calls := by
  rw [(pPayloadRunG_spec keep hk st i calls).1, List.map_map]
  exact (List.map_congr_left fun l _ => forgetAll_map_make l).trans (List.map_id _)

theorem allOwned_pPayloadRunG (st : PPayState) (i : Nat) (calls : List (Bool × UInt16 × Bytes)) :
    ∀ o ∈ (pPayloadRunG keep st i calls).1, AllOwned o := by
  rw [(pPayloadRunG_spec keep hk st i calls).1]
  intro o ho
  obtain ⟨l, _, rfl⟩ := List.mem_map.mp ho
  exact allOwned_map_make l

end

/-- `doPackaging` appends to `buf`, in `buf`'s array -/
theorem pPackage_eq (avc : Bool) (buf nalu : PBytes) :
    pPackage avc buf nalu = ⟨buf.bytes ++ package avc nalu.bytes, buf.origin⟩ := by
  cases avc <;> simp only [pPackage, package, PBytes.append, List.append_assoc] <;> rfl

/-- the accumulating loop computes `result ++` what the value-level loop computes, in `result`'s array -/
theorem pStapLoop_eq (avc : Bool) (result rest : PBytes) :
    pStapLoop avc result rest =
      (stapLoop avc rest.bytes).map (fun b => ⟨result.bytes ++ b, result.origin⟩) := by
  fun_induction pStapLoop avc result rest with
  | case1 result rest a b tl h n hlt =>
    rw [h, stapLoop, if_pos hlt]; rfl
  | case2 result rest a b tl h n hlt ih =>
    have hd : (rest.drop (2 + n)).bytes = tl.drop n := by
      rw [bytes_drop, h, Nat.add_comm]; rfl
    have ht : ((rest.drop 2).take n).bytes = tl.take n := by rw [bytes_take, bytes_drop, h]; rfl
    rw [ih, h, stapLoop, if_neg hlt, hd, pPackage_eq, ht]
    cases stapLoop avc (tl.drop n) <;> simp only [Res.map, List.append_assoc] <;> rfl
  | case3 result rest hne =>
    have : stapLoop avc rest.bytes = .ok [] := by
      rw [stapLoop]
      exact hne
    rw [this]
    simp [Res.map]

/-- an outcome of the provenance-level `Unmarshal` on a receiver holding `buf`, against the value-level
    outcome: the result is a new array with the same contents, the buffers agree, and the new buffer is
    owned if `buf` was and `store` writes into the array of the buffer it is given -/
def Tracks (store : PBytes → PBytes → PBytes) (buf : PBytes) (r : Res PBytes × PBytes) (v : Res Bytes × Bytes) :
    Prop :=
  r.1 = v.1.map PBytes.make ∧ r.2.bytes = v.2 ∧
    ((∀ b x, (store b x).origin = b.origin) → buf.Owned → r.2.Owned)

theorem Tracks.same (store : PBytes → PBytes → PBytes) (buf : PBytes) (r : Res Bytes) :
    Tracks store buf (r.map PBytes.make, buf) (r, buf.bytes) := ⟨rfl, rfl, fun _ hb => hb⟩

theorem Tracks.forget {store : PBytes → PBytes → PBytes} {buf : PBytes} {r : Res PBytes × PBytes}
    {v : Res Bytes × Bytes} (h : Tracks store buf r v) : (r.1.map PBytes.bytes, r.2.bytes) = v := by
  rw [h.1, h.2.1, map_bytes_map_make]

section
variable (store : PBytes → PBytes → PBytes) (hs : ∀ buf x, (store buf x).bytes = buf.bytes ++ x.bytes)
include hs

theorem pUnmarshalG_tracks (avc : Bool) (buf : PBytes) (i : Nat) (payload : Bytes) :
    Tracks store buf (pUnmarshalG store avc buf i payload) (unmarshal avc buf.bytes payload) := by
  match payload with
  | [] => exact .same store buf (.err .short)
  | [b0] =>
    simp only [pUnmarshalG, unmarshal, pPackage_eq, pStapLoop_eq]
    exact ite_rel _ _ (.same store buf (.ok _)) (ite_rel _ _ (.same store buf (stapLoop avc _))
      (ite_rel _ _ (.same store buf (.err .short)) (.same store buf (.err .other))))
  | b0 :: b1 :: body =>
    simp only [pUnmarshalG, unmarshal, pPackage_eq, pStapLoop_eq]
    refine ite_rel _ _ (.same store buf (.ok _)) (ite_rel _ _ (.same store buf (stapLoop avc _))
      (ite_rel _ _ (ite_rel _ _ ?_ ?_) (.same store buf (.err .other))))
    · refine ⟨?_, rfl, fun _ _ => rfl⟩
      simp only [hs, apply_ite PBytes.bytes]; rfl
    · refine ⟨rfl, ?_, fun hst hb => ?_⟩
      · simp only [hs, apply_ite PBytes.bytes]; rfl
      · simp only [hst, PBytes.Owned]; split
        · rfl
        · exact hb

theorem pRunG_spec (avc : Bool) (buf : PBytes) (i : Nat) (ps : List Bytes) :
    (pRunG store avc buf i ps).1 = (run avc buf.bytes ps).1.map (·.map PBytes.make) ∧
    (pRunG store avc buf i ps).2.bytes = (run avc buf.bytes ps).2 ∧
    ((∀ b x, (store b x).origin = b.origin) → buf.Owned → (pRunG store avc buf i ps).2.Owned) := by
  induction ps generalizing buf i with
  | nil => exact ⟨rfl, rfl, fun _ hb => hb⟩
  | cons p ps ih =>
    obtain ⟨h1, h2, h3⟩ := pUnmarshalG_tracks store hs avc buf i p
    obtain ⟨k1, k2, k3⟩ := ih (pUnmarshalG store avc buf i p).2 (i + 1)
    rw [h2] at k1 k2
    refine ⟨?_, k2, fun hst hb => k3 hst (h3 hst hb)⟩
    simp only [pRunG, run, List.map_cons, h1, k1]

theorem forget_pRunG (avc : Bool) (buf : PBytes) (i : Nat) (ps : List Bytes) :
    ((pRunG store avc buf i ps).1.map (·.map PBytes.bytes), (pRunG store avc buf i ps).2.bytes) =
      run avc buf.bytes ps := by
  obtain ⟨h1, h2, _⟩ := pRunG_spec store hs avc buf i ps
  rw [h1, h2, List.map_map]
  exact Prod.ext ((List.map_congr_left fun r _ => map_bytes_map_make r).trans (List.map_id _)) rfl

theorem results_owned_pRunG (avc : Bool) (buf : PBytes) (i : Nat) (ps : List Bytes) :
    ∀ res ∈ (pRunG store avc buf i ps).1, ∀ r, res = .ok r → r.Owned := by
  rw [(pRunG_spec store hs avc buf i ps).1]
  intro res hres r hr
  obtain ⟨v, _, rfl⟩ := List.mem_map.mp hres
  exact owned_of_map_make hr

end

end Rtp.Proofs.ProvH264
