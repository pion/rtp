/-
  Rtp/Proofs/SequencerConc.lean — the small-step interleaving semantics of Rtp/Model/Sequencer.lean
  (C07, `c07_interleaving`): two invariants, kept by every micro-step (`step_keeps`, `run_keeps`).

  `Inv`, in words: replaying the log `lin` (calls in unlock order) on the sequential model from the
  initial state succeeds and ends in a state σ such that — when the mutex is free the shared fields
  ARE σ; when thread i holds it they are what i's progress through the method body makes of σ.
  Tickets: every logged call drew `before` before any later-logged call drew `after`.
  `ProgInv`: what a thread has logged, followed by what it still has to do, is its program.
-/
import Rtp.Model.Sequencer
import Rtp.Pred.C07
import Rtp.Proofs.Lib.Lists
namespace Rtp.Proofs.SequencerConc
open Rtp Rtp.Model Rtp.Model.SeqConc Rtp.Spec.Counter Rtp.Pred.C07

def key (c : SeqCall) : Op × Nat := (c.op, c.res)

/-- `Pred.C07.replayOk` with the end state returned, which is what the invariant relates the shared
    fields to -/
def replayK (s : SeqState) : List (Op × Nat) → Option SeqState
  | [] => some s
  | (op, r) :: cs => if r = (s.step op).1 then replayK (s.step op).2 cs else none

theorem replayK_append (s : SeqState) (l : List (Op × Nat)) (op : Op) (r : Nat) :
    replayK s (l ++ [(op, r)]) =
      (replayK s l).bind fun σ => if r = (σ.step op).1 then some (σ.step op).2 else none := by
  induction l generalizing s with
  | nil => simp [replayK]
  | cons c cs ih =>
    obtain ⟨o, r'⟩ := c
    simp only [List.cons_append, replayK]
    split
    · exact ih _
    · rfl

theorem replayOk_of_replayK (s : SeqState) (L : List SeqCall) (σ : SeqState)
    (h : replayK s (L.map key) = some σ) : replayOk s L = true := by
  induction L generalizing s with
  | nil => rfl
  | cons c cs ih =>
    simp only [List.map_cons, key, replayK] at h
    split at h
    · rename_i hr
      simp only [replayOk, hr, beq_self_eq_true, Bool.true_and]
      exact ih _ h
    · cases h

theorem replayOk_run (s : SeqState) (L : List SeqCall) (h : replayOk s L = true) :
    L.map (·.res) = s.run (L.map (·.op)) := by
  induction L generalizing s with
  | nil => rfl
  | cons c cs ih =>
    simp only [replayOk, Bool.and_eq_true, beq_iff_eq] at h
    simp only [List.map_cons, SeqState.run, h.1, ih _ h.2]

theorem rtOk_iff (m : Nat) (L : List SeqCall) :
    rtOk m L = true ↔ (∀ c ∈ L, m < c.after) ∧ L.Pairwise (fun a b => a.before < b.after) := by
  induction L generalizing m with
  | nil => simp [rtOk]
  | cons c cs ih =>
    simp only [rtOk, Bool.and_eq_true, decide_eq_true_eq, ih, List.mem_cons, forall_eq_or_imp,
      List.pairwise_cons]
    constructor
    · rintro ⟨h1, h2, h3⟩
      exact ⟨⟨h1, fun d hd => by have := h2 d hd; omega⟩, fun d hd => by have := h2 d hd; omega, h3⟩
    · rintro ⟨⟨h1, h2⟩, h3, h4⟩
      exact ⟨h1, fun d hd => by have := h2 d hd; have := h3 d hd; omega, h4⟩

def inCS : PC → Bool
  | .locked _ | .gotSeq _ _ | .wrote _ | .rocRead _ | .rocGot _ _ | .retRead _ | .ready _ _ => true
  | _ => false

/-- the `before` ticket a thread is holding (0: none) -/
def ticket : PC → Nat
  | .called b | .locked b | .gotSeq b _ | .wrote b | .rocRead b | .rocGot b _ | .retRead b | .ready b _ => b
  | _ => 0

/-- what the lock holder's progress through the method body has made of the state σ it found -/
def CSRel (t : Thread) (σ st : SeqState) : Prop :=
  match t.pc, t.todo with
  | .locked _, _ :: _ => st = σ
  | .gotSeq _ v, .next :: _ => st = σ ∧ v = σ.seq
  | .wrote _, .next :: _ => st = { seq := σ.seq + 1, roc := σ.roc }
  | .rocRead _, .next :: _ => st = { seq := σ.seq + 1, roc := σ.roc } ∧ σ.seq + 1 = 0
  | .rocGot _ t, .next :: _ => st = { seq := σ.seq + 1, roc := σ.roc } ∧ σ.seq + 1 = 0 ∧ t = σ.roc
  | .retRead _, .next :: _ => st = σ.next.2
  | .ready _ res, op :: _ => st = (σ.step op).2 ∧ res = (σ.step op).1
  | _, _ => False

theorem CSRel_inCS {t : Thread} {σ st : SeqState} (h : CSRel t σ st) : inCS t.pc = true := by
  obtain ⟨pc, todo⟩ := t
  cases pc with
  | idle | called _ | unlocked _ => exact h.elim
  | _ => rfl

/-- the shared fields, given that the logged calls have produced σ -/
def Shared (s : Sys) (σ : SeqState) : Prop :=
  match s.holder with
  | none => s.st = σ
  | some h => CSRel (s.thr h) σ s.st

/-- `stamps`, `pairs`: the tickets of logged calls are in real-time order; `after = 0` means "not yet
    returned" (tickets start at 1).  `pending`, `unl`: the logged calls that have not returned are exactly
    those of the threads at `unlocked`, entry for entry. -/
structure Inv (s0 : SeqState) (s : Sys) : Prop where
  replay : ∃ σ, replayK s0 (s.lin.map key) = some σ ∧ Shared s σ
  mutex : ∀ j, inCS (s.thr j).pc = true → s.holder = some j
  tick : ∀ j, ticket (s.thr j).pc ≤ s.clock
  stamps : ∀ m (h : m < s.lin.length), s.lin[m].before ≤ s.clock ∧ s.lin[m].after ≤ s.clock ∧
    (s.lin[m].after ≠ 0 → s.lin[m].before < s.lin[m].after)
  pairs : ∀ a b (_ : a < b) (hb : b < s.lin.length), s.lin[b].after ≠ 0 → s.lin[a].before < s.lin[b].after
  pending : ∀ m (h : m < s.lin.length), s.lin[m].after = 0 → (s.thr s.lin[m].g).pc = .unlocked m
  unl : ∀ j k, (s.thr j).pc = .unlocked k → ∃ h : k < s.lin.length, s.lin[k].g = j ∧ s.lin[k].after = 0

theorem inv_init (s0 : SeqState) (prog : Nat → List SeqOp) : Inv s0 (Sys.init s0 prog) where
  replay := ⟨s0, rfl, rfl⟩
  mutex := by intro j h; simp [Sys.init, inCS] at h
  tick := by intro j; simp [Sys.init, ticket]
  stamps := by intro m h; simp [Sys.init] at h
  pairs := by intro a b _ hb; simp [Sys.init] at hb
  pending := by intro m h; simp [Sys.init] at h
  unl := by intro j k h; simp [Sys.init] at h

@[simp] theorem setThr_self (s : Sys) (i : Nat) (t : Thread) : s.setThr i t i = t := by simp [Sys.setThr]
theorem setThr_ne (s : Sys) (i j : Nat) (t : Thread) (h : j ≠ i) : s.setThr i t j = s.thr j := by
  simp [Sys.setThr, h]

theorem holder_ne {s0 : SeqState} {s : Sys} (inv : Inv s0 s) (i : Nat) (hi : inCS (s.thr i).pc = false) :
    s.holder ≠ some i := by
  intro hh
  obtain ⟨σ, _, hs⟩ := inv.replay
  simp only [Shared, hh] at hs
  have := CSRel_inCS hs
  rw [hi] at this; cases this

/-- moving a thread that is outside its critical section, without touching the shared fields or
    the mutex, keeps `Shared` -/
theorem shared_outside {s0 : SeqState} {s : Sys} (inv : Inv s0 s) (i : Nat) (t : Thread)
    (hi : inCS (s.thr i).pc = false) (c : Nat) (l : List SeqCall) (σ : SeqState) (hs : Shared s σ) :
    Shared { st := s.st, holder := s.holder, clock := c, thr := s.setThr i t, lin := l } σ := by
  have hne := holder_ne inv i hi
  unfold Shared at hs ⊢
  cases hho : s.holder with
  | none => simpa [hho] using hs
  | some h =>
    have : h ≠ i := by intro e; apply hne; rw [hho, e]
    simp only [hho] at hs ⊢
    rw [setThr_ne _ _ _ _ this]; exact hs

/-- `pending`, `unl`, `mutex`, `tick` after thread `i` has moved to `t`, each under the condition on the
    step that it needs (here: `i` was not at `unlocked`) -/
theorem pending_keep {s0 : SeqState} {s : Sys} (inv : Inv s0 s) (i : Nat) (t : Thread)
    (hold : ∀ k, (s.thr i).pc ≠ .unlocked k) :
    ∀ m (h : m < s.lin.length), s.lin[m].after = 0 → (s.setThr i t s.lin[m].g).pc = .unlocked m := by
  intro m h ha
  have := inv.pending m h ha
  by_cases hg : s.lin[m].g = i
  · rw [hg] at this; exact absurd this (hold m)
  · rw [setThr_ne _ _ _ _ hg]; exact this

theorem unl_keep {s0 : SeqState} {s : Sys} (inv : Inv s0 s) (i : Nat) (t : Thread)
    (hnew : ∀ k, t.pc ≠ .unlocked k) :
    ∀ j k, (s.setThr i t j).pc = .unlocked k → ∃ h : k < s.lin.length, s.lin[k].g = j ∧ s.lin[k].after = 0 := by
  intro j k h
  by_cases hj : j = i
  · subst hj; rw [setThr_self] at h; exact absurd h (hnew k)
  · rw [setThr_ne _ _ _ _ hj] at h; exact inv.unl j k h

theorem mutex_keep {s0 : SeqState} {s : Sys} (inv : Inv s0 s) (i : Nat) (t : Thread) (h' : Option Nat)
    (hi : inCS t.pc = true → h' = some i) (ho : ∀ j, j ≠ i → s.holder = some j → h' = some j) :
    ∀ j, inCS (s.setThr i t j).pc = true → h' = some j := by
  intro j h
  by_cases hj : j = i
  · subst hj; rw [setThr_self] at h; exact hi h
  · rw [setThr_ne _ _ _ _ hj] at h; exact ho j hj (inv.mutex j h)

theorem tick_keep {s0 : SeqState} {s : Sys} (inv : Inv s0 s) (i : Nat) (t : Thread) (c : Nat)
    (hc : s.clock ≤ c) (hi : ticket t.pc ≤ c) : ∀ j, ticket (s.setThr i t j).pc ≤ c := by
  intro j
  by_cases hj : j = i
  · subst hj; rw [setThr_self]; exact hi
  · rw [setThr_ne _ _ _ _ hj]; exact Nat.le_trans (inv.tick j) hc

/-- `idle → called`: draw the `before` ticket -/
theorem inv_call {s0 : SeqState} {s : Sys} (inv : Inv s0 s) (i : Nat) (todo : List SeqOp)
    (hpc : (s.thr i).pc = .idle) :
    Inv s0 { s with clock := s.clock + 1, thr := s.setThr i { pc := .called (s.clock + 1), todo := todo } } where
  replay := by
    obtain ⟨σ, h1, h2⟩ := inv.replay
    exact ⟨σ, h1, shared_outside inv i _ (by rw [hpc]; rfl) _ _ σ h2⟩
  mutex := mutex_keep inv i _ _ (fun h => by cases h) (fun _ _ h => h)
  tick := tick_keep inv i _ _ (Nat.le_succ _) (Nat.le_refl _)
  stamps := by
    intro m h
    obtain ⟨h1, h2, h3⟩ := inv.stamps m h
    exact ⟨Nat.le_succ_of_le h1, Nat.le_succ_of_le h2, h3⟩
  pairs := inv.pairs
  pending := pending_keep inv i _ (by intro k hk; rw [hpc] at hk; cases hk)
  unl := unl_keep inv i _ (fun _ hk => by cases hk)

/-- `called → locked`: acquire the free mutex -/
theorem inv_lock {s0 : SeqState} {s : Sys} (inv : Inv s0 s) (i b : Nat) (op : SeqOp) (rest : List SeqOp)
    (hpc : (s.thr i).pc = .called b) (hfree : s.holder = none) :
    Inv s0 { s with holder := some i, thr := s.setThr i { pc := .locked b, todo := op :: rest } } where
  replay := by
    obtain ⟨σ, h1, h2⟩ := inv.replay
    refine ⟨σ, h1, ?_⟩
    simp only [Shared, hfree] at h2
    simp [Shared, CSRel, h2]
  mutex := mutex_keep inv i _ _ (fun _ => rfl) (fun _ _ h => by rw [hfree] at h; cases h)
  tick := tick_keep inv i _ _ (Nat.le_refl _) (by have := inv.tick i; rw [hpc] at this; exact this)
  stamps := inv.stamps
  pairs := inv.pairs
  pending := pending_keep inv i _ (by intro k hk; rw [hpc] at hk; cases hk)
  unl := unl_keep inv i _ (fun _ hk => by cases hk)

/-- a micro-step of the lock holder inside the method body (one access to a shared field): the new
    program counter and the new shared fields.  The seven arms are those of `Sys.step` between `locked`
    and `ready`; `step_keeps` checks the agreement arm by arm (`rfl`). -/
def body : PC → List SeqOp → SeqState → Option (PC × SeqState)
  | .locked b, .next :: _, st => some (.gotSeq b st.seq, st)
  | .locked b, .roc :: _, st => some (.ready b st.roc.toNat, st)
  | .gotSeq b t, _, st => some (.wrote b, { st with seq := t + 1 })
  | .wrote b, _, st => some (if st.seq == 0 then .rocRead b else .retRead b, st)
  | .rocRead b, _, st => some (.rocGot b st.roc, st)
  | .rocGot b t, _, st => some (.retRead b, { st with roc := t + 1 })
  | .retRead b, _, st => some (.ready b st.seq.toNat, st)
  | _, _, _ => none

theorem body_inCS {pc : PC} {todo : List SeqOp} {st : SeqState} {x : PC × SeqState}
    (h : body pc todo st = some x) : inCS pc = true := by
  cases pc with
  | idle | called _ | ready _ _ | unlocked _ => cases h
  | _ => rfl

/-- the body keeps `CSRel`: each access does to the shared fields what the sequential `step`
    does to σ, piece by piece -/
theorem body_rel {t : Thread} {pc' : PC} {σ st st' : SeqState} (hr : CSRel t σ st)
    (h : body t.pc t.todo st = some (pc', st')) :
    CSRel { pc := pc', todo := t.todo } σ st' ∧ inCS pc' = true ∧ ticket pc' = ticket t.pc := by
  obtain ⟨pc, todo⟩ := t
  -- `CSRel` holds only with a call in progress, and past `locked` only inside `next`
  cases todo with
  | nil => cases pc <;> exact hr.elim
  | cons op rest =>
  cases op with
  | roc =>
    cases pc with
    | locked b =>
      have hr : st = σ := hr
      cases h; subst hr
      exact ⟨⟨rfl, rfl⟩, rfl, rfl⟩
    | idle | called _ | ready _ _ | unlocked _ => cases h
    | _ => exact hr.elim
  | next =>
    cases pc with
    | idle | called _ | ready _ _ | unlocked _ => cases h
    | locked b =>
      have hr : st = σ := hr
      cases h; subst hr
      exact ⟨⟨rfl, rfl⟩, rfl, rfl⟩
    | gotSeq b v =>
      obtain ⟨h1, h2⟩ : st = σ ∧ v = σ.seq := hr
      cases h; subst h1 h2
      exact ⟨rfl, rfl, rfl⟩
    | wrote b =>
      have hr : st = { seq := σ.seq + 1, roc := σ.roc } := hr
      cases h; subst hr
      by_cases hz : (σ.seq + 1 == 0) = true
      · rw [show (({ seq := σ.seq + 1, roc := σ.roc } : SeqState).seq == 0) = true from hz, if_pos rfl]
        exact ⟨⟨rfl, eq_of_beq hz⟩, rfl, rfl⟩
      · rw [show (({ seq := σ.seq + 1, roc := σ.roc } : SeqState).seq == 0) = false from Bool.eq_false_iff.mpr hz,
          if_neg Bool.false_ne_true]
        refine ⟨?_, rfl, rfl⟩
        show _ = SeqState.mk _ (if (σ.seq + 1 == 0) = true then _ else _)
        rw [if_neg hz]
    | rocRead b =>
      obtain ⟨h1, h2⟩ : st = { seq := σ.seq + 1, roc := σ.roc } ∧ σ.seq + 1 = 0 := hr
      cases h; subst h1
      exact ⟨⟨rfl, h2, rfl⟩, rfl, rfl⟩
    | rocGot b v =>
      obtain ⟨h1, h2, h3⟩ : st = { seq := σ.seq + 1, roc := σ.roc } ∧ σ.seq + 1 = 0 ∧ v = σ.roc := hr
      cases h; subst h1 h3
      refine ⟨?_, rfl, rfl⟩
      show _ = SeqState.mk _ (if (σ.seq + 1 == 0) = true then _ else _)
      rw [if_pos (by rw [h2]; rfl)]
    | retRead b =>
      have hr : st = σ.next.2 := hr
      cases h; subst hr
      exact ⟨⟨rfl, rfl⟩, rfl, rfl⟩

theorem inv_body {s0 : SeqState} {s : Sys} (inv : Inv s0 s) (i : Nat) (pc' : PC) (st' : SeqState)
    (h : body (s.thr i).pc (s.thr i).todo s.st = some (pc', st')) :
    Inv s0 { s with st := st', thr := s.setThr i { pc := pc', todo := (s.thr i).todo } } := by
  have hin := body_inCS h
  have hh := inv.mutex i hin
  obtain ⟨σ, h1, h2⟩ := inv.replay
  rw [Shared, hh] at h2
  obtain ⟨hrel, hin', htick⟩ := body_rel h2 h
  exact {
    replay := ⟨σ, h1, by simp only [Shared, hh, setThr_self]; exact hrel⟩
    mutex := mutex_keep inv i _ _ (fun _ => hh) (fun _ _ h => h)
    tick := tick_keep inv i _ _ (Nat.le_refl _) (by rw [show ticket pc' = _ from htick]; exact inv.tick i)
    stamps := inv.stamps
    pairs := inv.pairs
    pending := pending_keep inv i _ (by intro k hk; rw [hk] at hin; cases hin)
    unl := unl_keep inv i _ (by intro k hk; rw [show pc' = _ from hk] at hin'; cases hin') }

/-- `ready → unlocked`: release the mutex; the call is logged -/
theorem inv_unlock {s0 : SeqState} {s : Sys} (inv : Inv s0 s) (i b res : Nat) (op : SeqOp) (rest : List SeqOp)
    (hpc : (s.thr i).pc = .ready b res) (htodo : (s.thr i).todo = op :: rest) :
    Inv s0 { s with holder := none,
                    lin := s.lin ++ [{ g := i, op := op, before := b, after := 0, res := res }],
                    thr := s.setThr i { pc := .unlocked s.lin.length, todo := rest } } where
  replay := by
    obtain ⟨σ, h1, h2⟩ := inv.replay
    have hh := inv.mutex i (by rw [hpc]; rfl)
    simp only [Shared, hh, CSRel, hpc, htodo] at h2
    refine ⟨(σ.step op).2, ?_, ?_⟩
    · simp only [List.map_append, List.map_cons, List.map_nil, key, replayK_append, h1, Option.bind_some,
        h2.2, if_true]
    · simp only [Shared]; exact h2.1
  mutex := mutex_keep inv i _ _ (fun h => by cases h) (fun j hj h => by
    rw [inv.mutex i (by rw [hpc]; rfl)] at h; cases h; exact absurd rfl hj)
  tick := tick_keep inv i _ _ (Nat.le_refl _) (Nat.zero_le _)
  stamps := forall_getElem_concat (P := fun _ (c : SeqCall) => c.before ≤ s.clock ∧ c.after ≤ s.clock ∧ (c.after ≠ 0 → c.before < c.after))
    inv.stamps ⟨by have := inv.tick i; rw [hpc] at this; exact this, Nat.zero_le _, fun h => absurd rfl h⟩
  pairs := by
    intro a c hac hc
    simp only [List.length_append, List.length_cons, List.length_nil] at hc
    by_cases hm : c < s.lin.length
    · simp only [List.getElem_append_left hm, List.getElem_append_left (show a < s.lin.length by omega)]
      exact inv.pairs a c hac hm
    · have : c = s.lin.length := by omega
      subst this
      simp
  pending := forall_getElem_concat (P := fun m (c : SeqCall) => c.after = 0 → (s.setThr i _ c.g).pc = .unlocked m)
    (pending_keep inv i _ (by intro k hk; rw [hpc] at hk; cases hk)) (fun _ => by rw [setThr_self])
  unl := by
    intro j k h
    by_cases hj : j = i
    · subst hj
      simp only [setThr_self, PC.unlocked.injEq] at h
      subst h
      exact ⟨by simp, by simp⟩
    · simp only [setThr_ne _ _ _ _ hj] at h
      obtain ⟨hk, h1, h2⟩ := inv.unl j k h
      exact ⟨by simp; omega, by simp only [List.getElem_append_left hk]; exact ⟨h1, h2⟩⟩

theorem before_modify_after (l : List SeqCall) (k c m : Nat) (h : m < (l.modify k (fun x => { x with after := c })).length) :
    ((l.modify k (fun x => { x with after := c }))[m]).before = (l[m]'(List.length_modify .. ▸ h)).before := by
  rw [List.getElem_modify]; split <;> rfl

/-- `unlocked → idle`: return; draw the `after` ticket -/
theorem inv_return {s0 : SeqState} {s : Sys} (inv : Inv s0 s) (i k : Nat) (todo : List SeqOp)
    (hpc : (s.thr i).pc = .unlocked k) :
    Inv s0 { s with clock := s.clock + 1,
                    lin := s.lin.modify k (fun c => { c with after := s.clock + 1 }),
                    thr := s.setThr i { pc := .idle, todo := todo } } where
  replay := by
    obtain ⟨σ, h1, h2⟩ := inv.replay
    refine ⟨σ, ?_, shared_outside inv i _ (by rw [hpc]; rfl) _ _ σ h2⟩
    show replayK s0 (List.map key (s.lin.modify k _)) = some σ
    rw [map_modify_of_proj key (fun c => { c with after := s.clock + 1 }) (fun a => rfl)]; exact h1
  mutex := mutex_keep inv i _ _ (fun h => by cases h) (fun _ _ h => h)
  tick := tick_keep inv i _ _ (Nat.le_succ _) (Nat.zero_le _)
  stamps := forall_getElem_modify
    (P := fun _ (c : SeqCall) => c.before ≤ s.clock + 1 ∧ c.after ≤ s.clock + 1 ∧ (c.after ≠ 0 → c.before < c.after))
    (fun m h _ => ⟨Nat.le_succ_of_le (inv.stamps m h).1, Nat.le_succ_of_le (inv.stamps m h).2.1, (inv.stamps m h).2.2⟩)
    (fun h => ⟨Nat.le_succ_of_le (inv.stamps k h).1, Nat.le_refl _, fun _ => Nat.lt_succ_of_le (inv.stamps k h).1⟩)
  pairs := by
    intro a c hac hc hne
    have hc' : c < s.lin.length := List.length_modify .. ▸ hc
    have ec := List.getElem_modify (fun c : SeqCall => { c with after := s.clock + 1 }) k s.lin c hc
    rw [ec] at hne
    rw [before_modify_after s.lin k (s.clock + 1) a (Nat.lt_trans hac hc), ec]
    by_cases hk : k = c
    · rw [if_pos hk]; exact Nat.lt_succ_of_le (inv.stamps a (Nat.lt_trans hac hc')).1
    · rw [if_neg hk] at hne ⊢; exact inv.pairs a c hac hc' hne
  pending := forall_getElem_modify (P := fun m (c : SeqCall) => c.after = 0 → (s.setThr i _ c.g).pc = .unlocked m)
    (fun m h hmk ha => by
      have old := inv.pending m h ha
      by_cases hg : s.lin[m].g = i
      · rw [hg, hpc] at old; cases old; exact absurd rfl hmk
      · rw [setThr_ne _ _ _ _ hg]; exact old)
    (fun _ ha => absurd ha (Nat.succ_ne_zero _))
  unl := by
    intro j q h
    by_cases hj : j = i
    · subst hj; simp at h
    · simp only [setThr_ne _ _ _ _ hj] at h
      obtain ⟨hq, h1, h2⟩ := inv.unl j q h
      obtain ⟨hk, g1, _⟩ := inv.unl i k hpc
      have hne : k ≠ q := by intro e; subst e; rw [g1] at h1; exact hj h1.symm
      exact ⟨by simpa using hq, by rw [List.getElem_modify, if_neg hne]; exact ⟨h1, h2⟩⟩

/-- at a quiescent point the log is a linearization of everything that has been called -/
theorem inv_quiescent {s0 : SeqState} {s : Sys} (inv : Inv s0 s) (hq : s.Quiescent) :
    isLinearization s0 s.lin = true := by
  have hafter : ∀ m (h : m < s.lin.length), s.lin[m].after ≠ 0 := by
    intro m h h0
    have := inv.pending m h h0
    rw [hq] at this; cases this
  obtain ⟨σ, hσ, _⟩ := inv.replay
  simp only [isLinearization, Bool.and_eq_true, List.all_eq_true, decide_eq_true_eq]
  refine ⟨⟨?_, replayOk_of_replayK _ _ _ hσ⟩, ?_⟩
  · intro c hc
    obtain ⟨m, hm, rfl⟩ := List.mem_iff_getElem.mp hc
    exact (inv.stamps m hm).2.2 (hafter m hm)
  · rw [rtOk_iff]
    constructor
    · intro c hc
      obtain ⟨m, hm, rfl⟩ := List.mem_iff_getElem.mp hc
      have := hafter m hm; omega
    · rw [List.pairwise_iff_getElem]
      intro a b ha hb hab
      exact inv.pairs a b hab hb (hafter b hb)

def tag (c : SeqCall) : Nat × Op := (c.g, c.op)

/-- the calls thread `i` has completed (unlocked), in order -/
def doneBy (s : Sys) (i : Nat) : List Op := ((s.lin.map tag).filter (fun x => x.1 == i)).map (·.2)

def ProgInv (prog : Nat → List SeqOp) (s : Sys) : Prop := ∀ j, doneBy s j ++ (s.thr j).todo = prog j

/-- a micro-step that moves thread `i` without touching its `todo` or the log's tags -/
theorem prog_keep {prog : Nat → List SeqOp} {s : Sys} (pinv : ProgInv prog s) (i : Nat) (pc : PC)
    (s' : Sys) (hl : s'.lin.map tag = s.lin.map tag) (ht : s'.thr = s.setThr i { pc := pc, todo := (s.thr i).todo }) :
    ProgInv prog s' := by
  intro j
  have := pinv j
  rw [doneBy, hl, ht]
  by_cases hj : j = i
  · subst hj; rw [setThr_self]; exact this
  · rw [setThr_ne _ _ _ _ hj]; exact this

theorem prog_unlock {prog : Nat → List SeqOp} {s : Sys} (pinv : ProgInv prog s) (i b res : Nat) (op : SeqOp)
    (rest : List SeqOp) (htodo : (s.thr i).todo = op :: rest) :
    ProgInv prog { s with holder := none,
                          lin := s.lin ++ [{ g := i, op := op, before := b, after := 0, res := res }],
                          thr := s.setThr i { pc := .unlocked s.lin.length, todo := rest } } := by
  intro j
  have := pinv j
  by_cases hj : j = i
  · subst hj
    simp only [doneBy, List.map_append, List.filter_append, htodo] at this ⊢
    simp [tag, ← this]
  · simp only [doneBy, List.map_append, List.filter_append, setThr_ne _ _ _ _ hj] at this ⊢
    have hne : (i == j) = false := by simp; omega
    simp [tag, hne, this]

/-- every micro-step preserves both invariants: the one case analysis of `Sys.step` -/
theorem step_keeps {s0 : SeqState} {prog : Nat → List SeqOp} {s s' : Sys} (inv : Inv s0 s) (pinv : ProgInv prog s)
    (i : Nat) (h : s.step i = some s') : Inv s0 s' ∧ ProgInv prog s' := by
  unfold Sys.step at h
  split at h
  · rename_i op rest hpc htodo
    cases h; rw [← htodo]
    exact ⟨inv_call inv i _ hpc, prog_keep pinv i _ _ rfl rfl⟩
  · rename_i b op rest hpc htodo
    split at h
    · rename_i hfree
      cases h
      exact ⟨inv_lock inv i b op rest hpc hfree, by rw [← htodo]; exact prog_keep pinv i _ _ rfl rfl⟩
    · cases h
  · rename_i b rest hpc htodo
    cases h; rw [← htodo]
    exact ⟨inv_body inv i _ _ (by rw [hpc, htodo]; rfl), prog_keep pinv i _ _ rfl rfl⟩
  · rename_i b rest hpc htodo
    cases h; rw [← htodo]
    exact ⟨inv_body inv i _ _ (by rw [hpc, htodo]; rfl), prog_keep pinv i _ _ rfl rfl⟩
  · rename_i b t hpc
    cases h; exact ⟨inv_body inv i _ _ (by rw [hpc]; rfl), prog_keep pinv i _ _ rfl rfl⟩
  · rename_i b hpc
    cases h; exact ⟨inv_body inv i _ _ (by rw [hpc]; rfl), prog_keep pinv i _ _ rfl rfl⟩
  · rename_i b hpc
    cases h; exact ⟨inv_body inv i _ _ (by rw [hpc]; rfl), prog_keep pinv i _ _ rfl rfl⟩
  · rename_i b t hpc
    cases h; exact ⟨inv_body inv i _ _ (by rw [hpc]; rfl), prog_keep pinv i _ _ rfl rfl⟩
  · rename_i b hpc
    cases h; exact ⟨inv_body inv i _ _ (by rw [hpc]; rfl), prog_keep pinv i _ _ rfl rfl⟩
  · rename_i b res op rest hpc htodo
    cases h; exact ⟨inv_unlock inv i b res op rest hpc htodo, prog_unlock pinv i b res op rest htodo⟩
  · rename_i k hpc
    cases h
    exact ⟨inv_return inv i k _ hpc, prog_keep pinv i _ _
      (map_modify_of_proj tag (fun c => { c with after := s.clock + 1 }) (fun a => rfl) _ _) rfl⟩
  · cases h

theorem prog_init (s0 : SeqState) (prog : Nat → List SeqOp) : ProgInv prog (Sys.init s0 prog) := by
  intro j; simp [doneBy, Sys.init]

theorem run_keeps {s0 : SeqState} {prog : Nat → List SeqOp} {s s' : Sys} (inv : Inv s0 s) (pinv : ProgInv prog s)
    (sched : List Nat) (h : s.run sched = some s') : Inv s0 s' ∧ ProgInv prog s' := by
  induction sched generalizing s with
  | nil => cases h; exact ⟨inv, pinv⟩
  | cons i is ih =>
    rw [Sys.run] at h
    split at h
    · rename_i s1 hs
      obtain ⟨h1, h2⟩ := step_keeps inv pinv i hs
      exact ih h1 h2 h
    · cases h

end Rtp.Proofs.SequencerConc
