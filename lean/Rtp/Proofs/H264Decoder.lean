/-
  Rtp/Proofs/H264Decoder.lean — the receiver model decodes what the RFC 6184 encoder of
  Spec/Rfc6184.lean produces, for every packetisation plan (towards `c10_decoder`).
-/
import Rtp.Proofs.H264Basic
import Rtp.Pred.C10
namespace Rtp.Proofs.H264
open Rtp Rtp.Model Rtp.Model.H264 Rtp.Spec.Rfc6184

theorem stapLoop_enc (avc : Bool) (ns : List Bytes) (h : ∀ n ∈ ns, n.length < 65536) :
    stapLoop avc (encStapBody ns) = .ok (ns.flatMap (package avc)) := by
  induction ns with
  | nil => simp [encStapBody, stapLoop]
  | cons n ns ih =>
    have hn := h n (by simp)
    have ih' := ih (fun m hm => h m (by simp [hm]))
    simp only [encStapBody, size16, List.cons_append, List.nil_append]
    rw [stapLoop]
    simp only [rd16_size16 n.length hn, List.length_append, List.drop_left, List.take_left]
    rw [if_neg (by omega), ih']
    simp

theorem item_wf_cases (it : Item) (hw : it.wf = true) :
    (∃ h body, it = .single (h :: body) ∧ 1 ≤ hType h ∧ hType h ≤ 23) ∨
    (∃ sh n ns, it = .stapA sh (n :: ns) ∧ hType sh = 24 ∧ ∀ m ∈ n :: ns, m.length < 65536) ∨
    (∃ h c c2 cs, it = .fuA h (c :: c2 :: cs) ∧ hF h = 0) := by
  match it, hw with
  | .single [], hw => cases hw
  | .single (h :: body), hw => exact .inl ⟨h, body, rfl, of_decide_eq_true hw⟩
  | .stapA sh [], hw => simp [Item.wf] at hw
  | .stapA sh (n :: ns), hw =>
    simp only [Item.wf, Bool.and_eq_true, List.all_eq_true, decide_eq_true_eq] at hw
    exact .inr (.inl ⟨sh, n, ns, rfl, hw.1.1, hw.2⟩)
  | .fuA h [], hw | .fuA h [_], hw => simp [Item.wf] at hw
  | .fuA h (c :: c2 :: cs), hw =>
    simp only [Item.wf, Bool.and_eq_true, decide_eq_true_eq] at hw
    exact .inr (.inr ⟨h, c, c2, cs, rfl, hw.1⟩)

theorem encFu_cons_cons (ind : UInt8) (typ : Nat) (first : Bool) (c : Bytes) (cs : List Bytes)
    (h : cs ≠ []) :
    encFu ind typ first (c :: cs) = (ind :: fuHdr first false typ :: c) :: encFu ind typ false cs := by
  cases cs with
  | nil => exact absurd rfl h
  | cons c2 cs2 => rfl

theorem encFu_length (ind : UInt8) (typ : Nat) (first : Bool) (cs : List Bytes) :
    (encFu ind typ first cs).length = cs.length := by
  induction cs generalizing first with
  | nil => rfl
  | cons c cs ih => cases cs with
    | nil => rfl
    | cons c2 cs2 => simp only [encFu_cons_cons _ _ _ _ _ (List.cons_ne_nil c2 cs2), List.length_cons, ih]

/-- continuation fragments of a unit whose earlier payload bytes are in the buffer -/
theorem run_encFu_cont (avc : Bool) (ind : UInt8) (typ : Nat) (hi : hType ind = 28) (ht : typ < 32)
    (cs : List Bytes) (hc : cs ≠ []) (buf : Bytes) :
    (run avc buf (encFu ind typ false cs)).1 =
      List.replicate (cs.length - 1) (.ok []) ++
        [.ok (package avc (((ind &&& naluRefIdcBitmask) ||| ((fuHdr false true typ) &&& naluTypeBitmask)) ::
          (buf ++ cs.flatten)))] := by
  induction cs generalizing buf with
  | nil => exact absurd rfl hc
  | cons c cs ih =>
    cases cs with
    | nil =>
      simp only [encFu, run, unmarshal_fua avc buf ind _ c hi, fuS_fuHdr _ _ _ ht, fuE_fuHdr _ _ _ ht]
      simp
    | cons c2 cs2 =>
      simp only [encFu, run, unmarshal_fua avc buf ind _ c hi, fuS_fuHdr _ _ _ ht, fuE_fuHdr _ _ _ ht,
        Bool.false_eq_true, if_false]
      rw [ih (List.cons_ne_nil _ _) (buf ++ c)]
      simp [List.replicate_succ]

/-- what the receiver returns for the payloads of one item: nothing until the last one, which
    delivers the item's units -/
def itemResults (avc : Bool) (it : Item) : List (Res Bytes) :=
  List.replicate (it.encode.length - 1) (.ok []) ++ [.ok (it.nals.flatMap (package avc))]

theorem run_item (avc : Bool) (it : Item) (hw : it.wf = true) (buf : Bytes) :
    (run avc buf it.encode).1 = itemResults avc it := by
  rcases item_wf_cases it hw with ⟨h, body, rfl, ht⟩ | ⟨sh, n, ns, rfl, ht, hl⟩ | ⟨h, c, c2, cs2, rfl, hF0⟩
  · simp [itemResults, Item.encode, Item.nals, run, unmarshal_single avc buf h body ht]
  · simp [itemResults, Item.encode, Item.nals, run, unmarshal_stap avc buf _ _ ht, stapLoop_enc avc _ hl]
  · have hi : hType (mkHdr (hF h) (hNri h) 28) = 28 := hType_mkHdr _ _ 28 (by decide)
    have ht := hType_lt h
    have hc := run_encFu_cont avc _ (hType h) hi ht (c2 :: cs2) (List.cons_ne_nil _ _) c
    rw [rebuild_hdr false true h hF0] at hc
    simp only [itemResults, Item.encode, Item.nals, encFu, run, unmarshal_fua avc buf _ _ c hi,
      fuS_fuHdr _ _ _ ht, fuE_fuHdr _ _ _ ht, if_true, List.nil_append, Bool.false_eq_true, if_false,
      List.length_cons, Nat.add_sub_cancel]
    rw [hc, encFu_length]
    simp [List.replicate_succ]

/-- a whole plan through the receiver: the results do not depend on the buffer it starts from -/
theorem run_encode (avc : Bool) (plan : List Item) (hw : plan.all Item.wf = true) (buf : Bytes) :
    (run avc buf (encode plan)).1 = plan.flatMap (itemResults avc) := by
  induction plan generalizing buf with
  | nil => rfl
  | cons it plan ih =>
    simp only [List.all_cons, Bool.and_eq_true] at hw
    rw [encode, List.flatMap_cons, run_append, run_item avc it hw.1, ← encode, ih hw.2, List.flatMap_cons]

theorem frame_eq (avc : Bool) (nals : List Bytes) : frame avc nals = nals.flatMap (package avc) := by
  cases avc <;> rfl

/-- the same in the form the C10 predicate asks for -/
theorem run_encode_frame (avc : Bool) (plan : List Item) (hw : plan.all Item.wf = true) (buf : Bytes) :
    (∀ r ∈ (run avc buf (encode plan)).1, r.isOk = true) ∧
    (run avc buf (encode plan)).1.flatMap Rtp.Pred.C10.resBytes = frame avc (plan.flatMap Item.nals) := by
  rw [run_encode avc plan hw, frame_eq]
  constructor
  · intro r hr
    obtain ⟨it, _, hr⟩ := List.mem_flatMap.mp hr
    rcases List.mem_append.mp hr with hr | hr
    · rw [(List.mem_replicate.mp hr).2]; rfl
    · rw [List.mem_singleton.mp hr]; rfl
  · rw [List.flatMap_assoc, List.flatMap_assoc]
    congr 1; funext it
    simp [itemResults, List.flatMap_replicate, Rtp.Pred.C10.resBytes]

theorem isPartitionHead_fua (ind fh : UInt8) (c : Bytes) (hi : hType ind = 28) :
    isPartitionHead (ind :: fh :: c) = fuS fh := by
  have e : ind &&& naluTypeBitmask = 28 := UInt8.toNat_inj.mp ((hType_mask ind).symm.trans hi)
  rw [isPartitionHead, e, fuS_mask]; rfl

theorem isPartitionHead_other (h b : UInt8) (tl : Bytes) (ht : hType h ≠ 28 ∧ hType h ≠ 29) :
    isPartitionHead (h :: b :: tl) = true := by
  have e1 : fuaNALUType.toNat = 28 := rfl
  have e2 : fubNALUType.toNat = 29 := rfl
  rw [isPartitionHead, type_test, type_test, if_neg]
  rw [Bool.or_eq_true, beq_iff_eq, beq_iff_eq, e1, e2]
  omega

theorem heads_encFu_cont (ind : UInt8) (typ : Nat) (hi : hType ind = 28) (ht : typ < 32) (cs : List Bytes) :
    (encFu ind typ false cs).map isPartitionHead = List.replicate cs.length false := by
  induction cs with
  | nil => rfl
  | cons c cs ih =>
    cases cs with
    | nil => simp only [encFu, List.map_cons, isPartitionHead_fua _ _ _ hi, fuS_fuHdr _ _ _ ht]; rfl
    | cons c2 cs2 =>
      rw [encFu_cons_cons _ _ _ _ _ (List.cons_ne_nil _ _), List.map_cons, ih, isPartitionHead_fua _ _ _ hi,
        fuS_fuHdr _ _ _ ht]
      rfl

theorem heads_item (it : Item) (hw : it.wf = true) (ha : Rtp.Pred.C10.headsApply it = true) :
    it.encode.map isPartitionHead = it.heads := by
  rcases item_wf_cases it hw with ⟨h, body, rfl, ht⟩ | ⟨sh, n, ns, rfl, ht, _⟩ | ⟨h, c, c2, cs2, rfl, _⟩
  · -- `headsApply` excludes the one-byte unit, on which IsPartitionHead is false
    match body, ha with
    | b1 :: tl, _ =>
      simp only [Item.encode, Item.heads, List.map_cons, List.map_nil, isPartitionHead_other h b1 tl (by omega)]
  · simp only [Item.encode, Item.heads, encStapBody, size16, List.cons_append, List.map_cons, List.map_nil,
      isPartitionHead_other sh _ _ (by omega)]
  · have hi : hType (mkHdr (hF h) (hNri h) 28) = 28 := hType_mkHdr _ _ 28 (by decide)
    have ht := hType_lt h
    rw [Item.encode, encFu_cons_cons _ _ _ _ _ (List.cons_ne_nil _ _), List.map_cons,
      heads_encFu_cont _ (hType h) hi ht, isPartitionHead_fua _ _ _ hi, fuS_fuHdr _ _ _ ht]
    rfl

theorem heads_plan (plan : List Item) (hw : plan.all Item.wf = true)
    (ha : plan.all Rtp.Pred.C10.headsApply = true) :
    (encode plan).map isPartitionHead = plan.flatMap Item.heads := by
  induction plan with
  | nil => rfl
  | cons it plan ih =>
    simp only [List.all_cons, Bool.and_eq_true] at hw ha
    simp only [encode, List.flatMap_cons, List.map_append, heads_item it hw.1 ha.1]
    rw [← ih hw.2 ha.2]; rfl

end Rtp.Proofs.H264
