/-
  Rtp/Proofs/ProvAV1Pay.lean — the provenance-level AV1 payloader (Rtp/Model/ProvAV1Pay.lean):
  forgetting origins gives the byte-level model `AV1B.payloadB` (Model/AV1PayBytes.lean) step by
  step, and every packet of the result has the origin of the allocation that started it (the
  stores into byte 0 and the `append`s keep the array).
-/
import Rtp.Model.ProvAV1Pay
import Rtp.Proofs.ProvVPx
import Rtp.Proofs.AV1Pay
namespace Rtp.Proofs.ProvAV1Pay
open Rtp Rtp.Model Rtp.Model.Prov Rtp.Model.AV1 Rtp.Model.AV1B Rtp.Model.AV1P Rtp.Proofs.Prov
open Rtp.Proofs.ProvVPx (AllFrom)

@[simp] theorem bytes_pOrHdr (m : UInt8) (p : PBytes) : (pOrHdr m p).bytes = orHdr m p.bytes := rfl
@[simp] theorem origin_pOrHdr (m : UInt8) (p : PBytes) : (pOrHdr m p).origin = p.origin := rfl

theorem forget_pSetY (ps : List PBytes) : forgetAll (pSetY ps) = setYB (forgetAll ps) := by
  cases ps <;> rfl

theorem from_pSetY (o : Origin) (ps : List PBytes) (h : AllFrom o ps) : AllFrom o (pSetY ps) := by
  cases ps with
  | nil => exact h
  | cons p ps =>
    intro x hx
    simp only [pSetY, List.mem_cons] at hx
    rcases hx with rfl | hx
    · exact h p (List.mem_cons_self ..)
    · exact h x (List.mem_cons_of_mem _ hx)

theorem allFrom_cons {o : Origin} {x : PBytes} {l : List PBytes} (hx : x.origin = o) (hl : AllFrom o l) :
    AllFrom o (x :: l) := by
  intro y hy
  simp only [List.mem_cons] at hy
  rcases hy with rfl | hy
  · exact hx
  · exact hl y hy

section
variable (mk : Bytes → PBytes) (hm : ∀ c, (mk c).bytes = c)
include hm

theorem forget_pFragLoop (mtu : Nat) (isLast : Bool) (fuel : Nat) (rem : PBytes) (wrote : Nat)
    (ps : List PBytes) (cnt : Nat) :
    (forgetAll (pFragLoop mk mtu isLast fuel rem wrote ps cnt).1,
      (pFragLoop mk mtu isLast fuel rem wrote ps cnt).2) =
      fragLoopB mtu isLast fuel rem.bytes wrote (forgetAll ps) cnt := by
  induction fuel generalizing rem wrote ps cnt with
  | zero => rfl
  | succ fuel ih =>
    rw [pFragLoop, fragLoopB]
    by_cases h1 : rem.bytes.isEmpty = true
    · rw [if_pos h1, if_pos h1]
    · rw [if_neg h1, if_neg h1]
      dsimp only
      have hps : forgetAll (if (wrote != 0) = true then pSetY ps else ps) =
          (if (wrote != 0) = true then setYB (forgetAll ps) else forgetAll ps) := by
        split
        · exact forget_pSetY ps
        · rfl
      by_cases h2 : (isLast || decide (rem.bytes.length ≥ mtu - 1)) = true
      · rw [if_pos h2, if_pos h2, ih]
        simp only [forgetAll_cons, bytes_append, bytes_take, bytes_drop, hm, hps, List.cons_append,
          List.nil_append]
      · rw [if_neg h2, if_neg h2, ih]
        simp only [forgetAll_cons, bytes_append, bytes_take, bytes_drop, hm, hps, List.cons_append,
          List.nil_append]

theorem forget_pBasePk (ps : List PBytes) (newSeq startNew : Bool) (mtu count : Nat) :
    ((pBasePk mk ps newSeq startNew mtu count).1.bytes,
      forgetAll (pBasePk mk ps newSeq startNew mtu count).2.1,
      (pBasePk mk ps newSeq startNew mtu count).2.2) =
      basePkB (forgetAll ps) newSeq startNew mtu count := by
  cases ps with
  | nil => simp [pBasePk, basePkB, hm]
  | cons q qs =>
    simp only [pBasePk, basePkB, forgetAll_cons]
    split <;> simp [hm]

theorem forget_pAppendObu (ps : List PBytes) (obu : PBytes) (newSeq isLast startNew : Bool)
    (mtu count : Nat) :
    (forgetAll (pAppendObu mk ps obu newSeq isLast startNew mtu count).1,
      (pAppendObu mk ps obu newSeq isLast startNew mtu count).2) =
      appendObuB (forgetAll ps) obu.bytes newSeq isLast startNew mtu count := by
  have hb := forget_pBasePk mk hm ps newSeq startNew mtu count
  simp only [Prod.ext_iff] at hb
  unfold pAppendObu appendObuB
  dsimp only
  rw [← hb.1, ← hb.2.1, ← hb.2.2]
  split
  · rw [forget_pFragLoop mk hm]
    simp only [forgetAll_cons, bytes_append, bytes_take, bytes_drop, bytes_pOrHdr]
  · split
    · rw [forget_pFragLoop mk hm]
      simp only [forgetAll_cons, bytes_append, bytes_take, bytes_drop, List.append_assoc]
    · rw [forget_pFragLoop mk hm]
      simp only [forgetAll_cons]

end

theorem pWalk_eq (fuel : Nat) (data : PBytes) :
    pWalk fuel data = (walk fuel data.bytes).map (fun hb => (hb.1, (⟨hb.2, data.origin⟩ : PBytes))) := by
  induction fuel generalizing data with
  | zero => rfl
  | succ fuel ih =>
    rw [pWalk, walk]
    cases parseObuHeader data.bytes with
    | ok h =>
      dsimp only
      by_cases h1 : h.hasSize = true
      · rw [if_pos h1, if_pos h1]
        generalize hr : readLebGo (data.drop h.size).bytes = r
        have hr' : readLebGo (data.bytes.drop h.size) = r := hr
        rw [hr']
        cases r with
        | none => rfl
        | some vk =>
          obtain ⟨v, k⟩ := vk
          dsimp only
          by_cases h2 : v.toNat > ((data.bytes.drop h.size).drop k).length
          · have h2' : v.toNat > ((data.drop h.size).drop k).bytes.length := h2
            rw [if_pos h2, if_pos h2']; rfl
          · have h2' : ¬ v.toNat > ((data.drop h.size).drop k).bytes.length := h2
            rw [if_neg h2, if_neg h2', ih]; rfl
      · rw [if_neg h1, if_neg h1]; rfl
    | err e => rfl
    | panic => rfl

/-! one iteration of `pStep` in the two halves of `stepB_eq` (AV1Pay.lean): `pStepFlush` and
    `pStepRest` are `stepFlushB` and `stepRestB` with origins -/

def pStepFlush (mk : Bytes → PBytes) (mtu : Nat) (s : PStP) (h : ObuHeader) : PStP :=
  let need := needNew s.cur h
  if s.pending.bytes.isEmpty then
    if need then { s with startNew := true, cur := none } else s
  else
    let r := pAppendObu mk s.out s.pending s.newSeq need s.startNew mtu s.count
    let s := { s with out := r.1, count := r.2, pending := PBytes.nil, startNew := need }
    if need then { s with newSeq := false, cur := none } else s

def pStepRest (s : PStP) (hb : ObuHeader × PBytes) : PStP :=
  let h := hb.1
  let s : PStP := match h.ext with | some e => { s with cur := some e } | none => s
  if dropped h then s
  else { s with pending := PBytes.make (obuBytes h hb.2.bytes), newSeq := h.type == obuSequenceHeader }

theorem pStep_eq (mk : Bytes → PBytes) (mtu : Nat) (s : PStP) (hb : ObuHeader × PBytes) :
    pStep mk mtu s hb = pStepRest (pStepFlush mk mtu s hb.1) hb := rfl

theorem forget_pStepRest (s : PStP) (hb : ObuHeader × PBytes) :
    (pStepRest s hb).forget = stepRestB s.forget (hb.1, hb.2.bytes) := by
  unfold pStepRest stepRestB
  dsimp only
  cases hb.1.ext <;> (dsimp only; split <;> rfl)

theorem pStepRest_out (s : PStP) (hb : ObuHeader × PBytes) : (pStepRest s hb).out = s.out := by
  unfold pStepRest
  dsimp only
  cases hb.1.ext <;> (dsimp only; split <;> rfl)

section
variable (mk : Bytes → PBytes) (hm : ∀ c, (mk c).bytes = c)
include hm

theorem forget_pStep (mtu : Nat) (s : PStP) (hb : ObuHeader × PBytes) :
    (pStep mk mtu s hb).forget = stepB mtu s.forget (hb.1, hb.2.bytes) := by
  have ha := forget_pAppendObu mk hm s.out s.pending s.newSeq (needNew s.cur hb.1) s.startNew mtu s.count
  simp only [Prod.ext_iff] at ha
  have hflush : (pStepFlush mk mtu s hb.1).forget = stepFlushB mtu s.forget hb.1 := by
    unfold pStepFlush stepFlushB
    simp only [PStP.forget]
    rw [← ha.1, ← ha.2]
    by_cases h1 : s.pending.bytes.isEmpty = true <;> by_cases h2 : needNew s.cur hb.1 = true <;>
      simp only [h1, h2, if_true, Bool.false_eq_true, if_false, bytes_nil]
  rw [pStep_eq, stepB_eq, forget_pStepRest, hflush]

theorem forget_pFinish (mtu : Nat) (s : PStP) :
    forgetAll (pFinish mk mtu s) = finishB mtu s.forget := by
  have ha := forget_pAppendObu mk hm s.out s.pending s.newSeq true s.startNew mtu s.count
  simp only [Prod.ext_iff] at ha
  unfold pFinish finishB
  by_cases h1 : s.pending.bytes.isEmpty = true
  · have h1' : s.forget.pending.isEmpty = true := h1
    rw [if_pos h1, if_pos h1']; rfl
  · have h1' : ¬ s.forget.pending.isEmpty = true := h1
    rw [if_neg h1, if_neg h1']; exact ha.1

theorem forget_foldl_pStep (mtu : Nat) (o : Origin) (l : List (ObuHeader × Bytes)) (s : PStP) :
    ((l.map (fun hb => (hb.1, (⟨hb.2, o⟩ : PBytes)))).foldl (pStep mk mtu) s).forget =
      l.foldl (stepB mtu) s.forget := by
  induction l generalizing s with
  | nil => rfl
  | cons hb l ih =>
    simp only [List.map_cons, List.foldl_cons, ih, forget_pStep mk hm]

end

theorem forgetAll_reverse (l : List PBytes) : forgetAll l.reverse = (forgetAll l).reverse := by
  simp [forgetAll]

theorem forget_pPayloadG (alloc : Alloc) (ha : ∀ p c, (alloc p c).bytes = c) (mtu : UInt16) (i : Nat)
    (payload : Option Bytes) :
    forgetAll (pPayloadG alloc mtu i payload) = payloadB mtu (payload.getD []) := by
  unfold pPayloadG payloadB
  dsimp only
  by_cases h1 : (decide (mtu.toNat ≤ 1) || (payload.getD []).isEmpty) = true
  · have h1' : (decide (mtu.toNat ≤ 1) || (PBytes.ofInput i (payload.getD [])).bytes.isEmpty) = true := h1
    rw [if_pos h1, if_pos h1']; rfl
  · have h1' : ¬ (decide (mtu.toNat ≤ 1) || (PBytes.ofInput i (payload.getD [])).bytes.isEmpty) = true := h1
    rw [if_neg h1, if_neg h1', forgetAll_reverse, forget_pFinish _ (ha _), pWalk_eq,
      forget_foldl_pStep _ (ha _)]
    rfl

/-! ### origins: every packet is an allocation `mk …` plus stores and appends -/

section
variable (mk : Bytes → PBytes) (o : Origin) (hm : ∀ c, (mk c).origin = o)
include hm

theorem from_pFragLoop (mtu : Nat) (isLast : Bool) (fuel : Nat) (rem : PBytes) (wrote : Nat)
    (ps : List PBytes) (cnt : Nat) (hps : AllFrom o ps) :
    AllFrom o (pFragLoop mk mtu isLast fuel rem wrote ps cnt).1 := by
  induction fuel generalizing rem wrote ps cnt with
  | zero => exact hps
  | succ fuel ih =>
    rw [pFragLoop]
    have hps' : AllFrom o (if (wrote != 0) = true then pSetY ps else ps) := by
      split
      · exact from_pSetY o ps hps
      · exact hps
    split
    · exact hps
    · dsimp only
      split <;> exact ih _ _ _ _ (allFrom_cons (by simp [hm]) hps')

theorem from_pBasePk (ps : List PBytes) (newSeq startNew : Bool) (mtu count : Nat) (hps : AllFrom o ps) :
    (pBasePk mk ps newSeq startNew mtu count).1.origin = o ∧
      AllFrom o (pBasePk mk ps newSeq startNew mtu count).2.1 := by
  cases ps with
  | nil => exact ⟨hm _, hps⟩
  | cons q qs =>
    simp only [pBasePk]
    split
    · exact ⟨hm _, hps⟩
    · exact ⟨hps q (List.mem_cons_self ..), fun x hx => hps x (List.mem_cons_of_mem _ hx)⟩

theorem from_pAppendObu (ps : List PBytes) (obu : PBytes) (newSeq isLast startNew : Bool)
    (mtu count : Nat) (hps : AllFrom o ps) :
    AllFrom o (pAppendObu mk ps obu newSeq isLast startNew mtu count).1 := by
  have hb := from_pBasePk mk o hm ps newSeq startNew mtu count hps
  unfold pAppendObu
  dsimp only
  split
  · exact from_pFragLoop mk o hm _ _ _ _ _ _ _ (allFrom_cons (by simp [hb.1]) hb.2)
  · split
    · exact from_pFragLoop mk o hm _ _ _ _ _ _ _ (allFrom_cons (by simp [hb.1]) hb.2)
    · exact from_pFragLoop mk o hm _ _ _ _ _ _ _ (allFrom_cons hb.1 hb.2)

theorem from_pStep (mtu : Nat) (s : PStP) (hb : ObuHeader × PBytes) (hs : AllFrom o s.out) :
    AllFrom o (pStep mk mtu s hb).out := by
  have ha := from_pAppendObu mk o hm s.out s.pending s.newSeq (needNew s.cur hb.1) s.startNew mtu s.count hs
  rw [pStep_eq, pStepRest_out]
  unfold pStepFlush
  dsimp only
  split
  · split <;> exact hs
  · split <;> exact ha

theorem from_foldl_pStep (mtu : Nat) (l : List (ObuHeader × PBytes)) (s : PStP) (hs : AllFrom o s.out) :
    AllFrom o (l.foldl (pStep mk mtu) s).out := by
  induction l generalizing s with
  | nil => exact hs
  | cons hb l ih => exact ih _ (from_pStep mk o hm mtu s hb hs)

theorem from_pFinish (mtu : Nat) (s : PStP) (hs : AllFrom o s.out) : AllFrom o (pFinish mk mtu s) := by
  unfold pFinish
  split
  · exact hs
  · exact from_pAppendObu mk o hm _ _ _ _ _ _ _ hs

end

theorem from_pPayloadG (alloc : Alloc) (o : Origin) (mtu : UInt16) (i : Nat) (payload : Option Bytes)
    (ha : ∀ c, (alloc (PBytes.ofInput i (payload.getD [])) c).origin = o) :
    AllFrom o (pPayloadG alloc mtu i payload) := by
  unfold pPayloadG
  dsimp only
  split
  · intro x hx; cases hx
  · intro x hx
    rw [List.mem_reverse] at hx
    exact from_pFinish _ o ha _ _ (from_foldl_pStep _ o ha _ _ _ (by intro x hx; cases hx)) x hx

theorem bytes_allocMake (p : PBytes) (c : Bytes) : (allocMake p c).bytes = c := rfl
theorem origin_allocMake (p : PBytes) (c : Bytes) : (allocMake p c).origin = .fresh := rfl
theorem bytes_allocInSpare (p : PBytes) (c : Bytes) : (allocInSpare p c).bytes = c := by
  simp [allocInSpare]
theorem origin_allocInSpare (p : PBytes) (c : Bytes) : (allocInSpare p c).origin = p.origin := rfl

end Rtp.Proofs.ProvAV1Pay
