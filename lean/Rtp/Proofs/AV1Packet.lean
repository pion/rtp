/-
  Rtp/Proofs/AV1Packet.lean — the list model of AV1Packet.Unmarshal has no panic result: its
  `.panic` arm only passes on what parseBody returns, and parseBody returns none.
-/
import Rtp.Model.AV1Obs
namespace Rtp.Model.AV1
open Rtp Rtp.Model

theorem parseBodyLoop_ne_panic (w : UInt8) (fuel i : Nat) (rest : Bytes) (acc : List Bytes) :
    parseBodyLoop w fuel i rest acc ≠ .panic := by
  induction fuel generalizing i rest acc with
  | zero => simp [parseBodyLoop]
  | succ f ih =>
    unfold parseBodyLoop
    split
    · simp
    · split
      · exact ih _ _ _
      · split
        · simp
        · dsimp only
          split
          · simp
          · exact ih _ _ _

theorem pktUnmarshal_ne_panic (p : PktSt) (payload : Option Bytes) :
    (pktUnmarshal p payload).1 ≠ .panic := by
  unfold pktUnmarshal
  split
  · simp
  · simp
  · simp
  · dsimp only
    split
    · simp
    · split
      · simp
      · split
        · simp
        · simp
        · rename_i h; exact absurd h (parseBodyLoop_ne_panic _ _ _ _ _)

end Rtp.Model.AV1
