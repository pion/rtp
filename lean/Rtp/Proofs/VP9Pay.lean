/-
  Rtp/Proofs/VP9Pay.lean — lemmas about VP9Payloader: fragment sizes in every state (C08), and the
  round trip through VP9Packet (C12).
-/
import Rtp.Proofs.VP9
namespace Rtp.Proofs.VP9
open Rtp Rtp.Model Rtp.Bits Rtp.Pred Rtp.Proofs.Vpx

theorem flexFrags_mem (pid : UInt16) : ∀ (cs : List Bytes) (first : Bool),
    ∀ f ∈ vp9FlexFrags pid first cs, ∃ c ∈ cs, f.length = 3 + c.length := by
  intro cs
  induction cs with
  | nil => intro first f hf; simp [vp9FlexFrags] at hf
  | cons c cs ih =>
    intro first f hf
    simp only [vp9FlexFrags, List.mem_cons] at hf
    rcases hf with rfl | hf
    · exact ⟨c, List.mem_cons_self, by simp [vp9Hdr3]; omega⟩
    · obtain ⟨c', hc', hl⟩ := ih false f hf
      exact ⟨c', List.mem_cons_of_mem _ hc', hl⟩

theorem flexible_frag (pid : UInt16) (mtu : Nat) (payload : Bytes) :
    ∀ f ∈ vp9PayloadFlexible pid mtu payload, f.length ≤ mtu ∧ f ≠ [] := by
  intro f hf
  unfold vp9PayloadFlexible at hf
  split at hf
  · simp at hf
  · rename_i hc
    simp only [Bool.or_eq_true, decide_eq_true_eq, not_or, Nat.not_le] at hc
    obtain ⟨c, hc', hl⟩ := flexFrags_mem pid _ true f hf
    have := (chunks_mem (mtu - 3) (by omega) payload c hc').2
    constructor
    · omega
    · intro h; rw [h] at hl; simp at hl; omega

theorem nonFlexLoop_frag (pid : UInt16) (mtu : Nat) (nonKey : Bool) (w h : UInt16) (fuel : Nat) (first : Bool)
    (rem : Bytes) : ∀ res, vp9NonFlexLoop pid mtu nonKey w h fuel first rem = some res →
      ∀ f ∈ res, f.length ≤ mtu ∧ f ≠ [] := by
  fun_induction vp9NonFlexLoop pid mtu nonKey w h fuel first rem with
  | case1 | case2 => intro res hres f hf; cases hres; cases hf
  | case3 | case4 => intro res hres; cases hres
  | case5 fuel first rem he withSS hs hm cur b0 out rest hl ih =>
    intro res hres f hf
    cases hres
    rcases List.mem_cons.mp hf with rfl | hf
    · -- `hs` octets of descriptor, then at most `mtu - hs` octets of the frame
      have hlen : out.length = hs + (rem.take cur).length := by
        simp only [out, hs, withSS, List.length_append]
        by_cases hc : (!nonKey && first) = true
        · rw [if_pos hc, if_pos hc]; rfl
        · rw [if_neg hc, if_neg hc]; rfl
      have hpos : 0 < hs := by simp only [hs]; split <;> decide
      rw [List.length_take] at hlen
      exact ⟨by omega, fun h0 => by rw [h0, List.length_nil] at hlen; omega⟩
    · exact ih rest hl f hf

theorem nonFlexible_frag (pid : UInt16) (mtu : Nat) (payload : Bytes) :
    ∀ f ∈ vp9PayloadNonFlexible pid mtu payload, f.length ≤ mtu ∧ f ≠ [] := by
  intro f hf
  unfold vp9PayloadNonFlexible at hf
  split at hf
  · rename_i hd _
    cases hl : vp9NonFlexLoop pid mtu hd.NonKeyFrame hd.width hd.height payload.length true payload with
    | none => simp [hl] at hf
    | some res =>
      simp only [hl, Option.getD_some] at hf
      exact nonFlexLoop_frag pid mtu _ _ _ _ _ _ res hl f hf
  · simp at hf

theorem payload_fst (st : VP9Pay) (mtu : UInt16) (i : Option Bytes) :
    (vp9Payload st mtu i).1 =
      if st.flexible then
        vp9PayloadFlexible (if st.initialized then st.pictureID else st.init &&& 0x7FFF) mtu.toNat (i.getD [])
      else
        vp9PayloadNonFlexible (if st.initialized then st.pictureID else st.init &&& 0x7FFF) mtu.toNat (i.getD []) := by
  unfold vp9Payload
  cases st.initialized <;> rfl

theorem payload_frag (st : VP9Pay) (mtu : UInt16) (i : Option Bytes) :
    ∀ f ∈ (vp9Payload st mtu i).1, f.length ≤ mtu.toNat ∧ f ≠ [] := by
  intro f hf
  rw [payload_fst] at hf
  split at hf
  · exact flexible_frag _ _ _ f hf
  · exact nonFlexible_frag _ _ _ f hf

theorem histOk_vp9 : ∀ (calls : List (UInt16 × Option Bytes)) (st : VP9Pay),
    C08.histOk false calls ((vp9PayloadHist st calls).map PayObs.ofFrags) = true := by
  intro calls
  induction calls with
  | nil => intro st; rfl
  | cons call cs ih =>
    intro st
    obtain ⟨m, i⟩ := call
    simp only [vp9PayloadHist, List.map_cons, C08.histOk, ih, Bool.and_true]
    exact C08.callOk_frags m i _ (payload_frag st m i)

/-! ### C12: the payloader's descriptors are encodings of the payload-descriptor grammar -/

open Rtp.Spec.Vp9Rtp in
/-- the descriptor VP9Payloader puts on a packet: I with the 15-bit id, P (non-flexible non-key
    frames), F (flexible mode), B, E, Z (non-flexible mode) and, on the first packet of a
    non-flexible key frame, the one-layer scalability structure with the coded size -/
def payDesc (flex nonKey first last withSS : Bool) (pid w h : UInt16) : Descriptor :=
  { p := !flex && nonKey, f := flex, b := first, e := last, z := !flex, picId := some (true, pid),
    ss := if withSS then
        some { ns := 0, res := some [(w, h)], pg := some [{ tid := 0, u := true, pdiffs := [1] }] }
      else none }

theorem payDesc_wf (flex nonKey first last withSS : Bool) (pid w h : UInt16) (hp : pid < 32768) :
    (payDesc flex nonKey first last withSS pid w h).WF 5 = true := by
  cases flex <;> cases nonKey <;> cases withSS <;>
    simp [payDesc, Spec.Vp9Rtp.Descriptor.WF, Spec.Vp9Rtp.SS.WF, Spec.Vp9Rtp.PG.WF, hp]

open Rtp.Spec.Vp9Rtp in
theorem ss_encode (w h : UInt16) :
    vp9SS w h =
      encSS (some { ns := 0, res := some [(w, h)], pg := some [{ tid := 0, u := true, pdiffs := [1] }] }) := by
  simp only [vp9SS, low8, encSS, encRes, encPGs, encPG, Option.isSome_some, List.length_cons, List.length_nil,
    List.cons_append, List.nil_append, List.append_nil, List.cons.injEq, true_and, and_true]
  decide

open Rtp.Spec.Vp9Rtp in
theorem payDesc_encode (flex nonKey first last withSS : Bool) (pid w h : UInt16) :
    (payDesc flex nonKey first last withSS pid w h).encode =
      (bit true 0x80 ||| bit (!flex && nonKey) 0x40 ||| bit false 0x20 ||| bit flex 0x10 ||| bit first 0x08 |||
        bit last 0x04 ||| bit withSS 0x02 ||| bit (!flex) 0x01) ::
      ((0x80 : UInt8) ||| (pid >>> 8).toUInt8) :: pid.toUInt8 :: (if withSS then vp9SS w h else []) := by
  cases withSS
  · simp only [payDesc, Descriptor.encode, encPicId, encLayer, encPDiffs, encSS, ite_self, Bool.false_eq_true,
      if_false, Option.isSome_some, Option.isSome_none, List.append_nil]
  · simp only [payDesc, Descriptor.encode, encPicId, encLayer, encPDiffs, ss_encode, ite_self,
      if_true, Option.isSome_some, Option.isSome_none, List.append_nil, List.cons_append, List.nil_append]

theorem flex_hdr (first last : Bool) (pid : UInt16) :
    vp9Hdr3 ((0x90 : UInt8) ||| (if first then 0x08 else 0) ||| (if last then 0x04 else 0)) pid =
      (payDesc true false first last false pid 0 0).encode := by
  rw [payDesc_encode, vp9Hdr3, UInt8.or_comm (pid >>> 8).toUInt8]
  congr 1
  revert first last; decide

theorem nonflex_hdr (nonKey first last withSS : Bool) (pid w h : UInt16) :
    vp9Hdr3 ((0x81 : UInt8) ||| (if nonKey then 0x40 else 0) ||| (if first then 0x08 else 0) |||
        (if last then 0x04 else 0) ||| (if withSS then 0x02 else 0)) pid ++
      (if withSS then vp9SS w h else []) =
      (payDesc false nonKey first last withSS pid w h).encode := by
  rw [payDesc_encode, vp9Hdr3, UInt8.or_comm (pid >>> 8).toUInt8]
  simp only [List.cons_append, List.nil_append]
  congr 1
  revert nonKey first last withSS; decide

/-- what one receiver reports for a packet with descriptor `payDesc …` carrying chunk `c` -/
def fragObsOf (flex nonKey first last withSS : Bool) (pid w h : UInt16) (c : Bytes) : C12.FragObs :=
  { bytes := (payDesc flex nonKey first last withSS pid w h).encode ++ c, res := .ok c,
    md := C12.expected (payDesc flex nonKey first last withSS pid w h), head := first }

theorem obs_one (flex nonKey first last withSS : Bool) (pid w h : UInt16) (hp : pid < 32768)
    (c : Bytes) (fs : List Bytes) (p : VP9Packet) :
    C12.obsFrags p (((payDesc flex nonKey first last withSS pid w h).encode ++ c) :: fs) =
      (fragObsOf flex nonKey first last withSS pid w h c ::
        (C12.obsFrags (C12.expected (payDesc flex nonKey first last withSS pid w h)) fs).1,
       (C12.obsFrags (C12.expected (payDesc flex nonKey first last withSS pid w h)) fs).2) := by
  simp only [C12.obsFrags, unmarshal_encode _ (payDesc_wf flex nonKey first last withSS pid w h hp),
    head_encode, Res.coarse]
  rfl

theorem picId_toNat {pid : Nat} (hp : pid < 32768) : pid.toUInt16.toNat = pid :=
  toNat_toUInt16_of_lt (Nat.lt_trans hp (by decide))

theorem picId_lt {pid : Nat} (hp : pid < 32768) : pid.toUInt16 < 32768 := by
  rw [UInt16.lt_iff_toNat_lt, picId_toNat hp]; exact hp

theorem fragOk_of (flex nonKey first last withSS : Bool) (pid : Nat) (w h : UInt16) (c : Bytes)
    (hp : pid < 32768) (info : Option (Bool × UInt16 × UInt16))
    (hinfo : flex = false → ∀ nk w' h', info = some (nk, w', h') → nk = nonKey) :
    C12.fragOk flex pid info (fragObsOf flex nonKey first last withSS pid.toUInt16 w h c) = true := by
  -- the second octet on the wire is `0x80 | id >> 8`: M is set
  have hb : (((payDesc flex nonKey first last withSS pid.toUInt16 w h).encode ++ c).getD 1 0 &&& 0x80 != 0) = true := by
    rw [payDesc_encode]
    show (((0x80 : UInt8) ||| (pid.toUInt16 >>> 8).toUInt8) &&& 0x80 != 0) = true
    rw [(pic15 _ (picId_lt hp)).1]; rfl
  simp only [C12.fragOk, fragObsOf, hb, Res.isOk, Bool.true_and, Bool.and_true]
  cases flex
  · rcases info with _ | ⟨nk, w', h'⟩
    · simp [C12.expected, payDesc, picId_toNat hp]
    · simp [C12.expected, payDesc, picId_toNat hp, hinfo rfl nk w' h' rfl]
  · simp [C12.expected, payDesc, picId_toNat hp]

/-! ### one frame

  `Parts flex pid info first o bytes`: the observations `o` are right packet by packet, marked as
  the packets of a frame whose first one has B = `first`, and carry `bytes`. -/

def Parts (flex : Bool) (pid : Nat) (info : Option (Bool × UInt16 × UInt16)) (first : Bool)
    (o : List C12.FragObs) (bytes : Bytes) : Prop :=
  o.all (C12.fragOk flex pid info) = true ∧ C12.marks first o = true ∧
    (o.map C12.fragPayload).flatten = bytes

theorem Parts.nil (flex : Bool) (pid : Nat) (info : Option (Bool × UInt16 × UInt16)) (first : Bool) :
    Parts flex pid info first [] [] := ⟨rfl, rfl, rfl⟩

theorem Parts.cons {flex : Bool} {pid : Nat} {info : Option (Bool × UInt16 × UInt16)} {o : List C12.FragObs}
    {rest : Bytes} (nonKey first last withSS : Bool) (w h : UInt16) (c : Bytes) (hp : pid < 32768)
    (hinfo : flex = false → ∀ nk w' h', info = some (nk, w', h') → nk = nonKey)
    (ho : Parts flex pid info false o rest) (hl : last = o.isEmpty) :
    Parts flex pid info first (fragObsOf flex nonKey first last withSS pid.toUInt16 w h c :: o) (c ++ rest) := by
  obtain ⟨h1, h2, h3⟩ := ho
  refine ⟨?_, ?_, ?_⟩
  · rw [List.all_cons, h1, fragOk_of flex nonKey first last withSS pid w h c hp info hinfo]; rfl
  · simp only [C12.marks, h2, ← hl, fragObsOf, C12.expected, payDesc, beq_self_eq_true, Bool.and_self]
  · rw [List.map_cons, List.flatten_cons, h3]; rfl

/-- a non-empty frame in parts is a frame the predicate accepts; `hss`: the structure on a key frame -/
theorem Parts.frameOk {flex : Bool} {pid : Nat} {info : Option (Bool × UInt16 × UInt16)} {o : List C12.FragObs}
    {frame : Bytes} (ho : Parts flex pid info true o frame) (hne : frame ≠ [])
    (hss : flex = false → ∀ w h, info = some (false, w, h) → ∀ f ∈ o.head?, C12.ssOk w h f = true) :
    C12.frameOk flex pid info frame o = true := by
  obtain ⟨h1, h2, h3⟩ := ho
  cases o with
  | nil => exact absurd h3.symm hne
  | cons f fs =>
    simp only [C12.frameOk, List.isEmpty_cons, Bool.not_false, h1, h2, h3, beq_self_eq_true, Bool.true_and]
    cases flex with
    | true => rfl
    | false =>
      rcases info with _ | ⟨_ | _, w, h⟩
      · rfl
      · exact hss rfl w h rfl f rfl
      · rfl

theorem flexFrags_parts (pid : Nat) (hp : pid < 32768) (info : Option (Bool × UInt16 × UInt16)) :
    ∀ (cs : List Bytes) (first : Bool) (p : VP9Packet),
      Parts true pid info first (C12.obsFrags p (vp9FlexFrags pid.toUInt16 first cs)).1 cs.flatten ∧
      (C12.obsFrags p (vp9FlexFrags pid.toUInt16 first cs)).1.isEmpty = cs.isEmpty := by
  intro cs
  induction cs with
  | nil => intro first p; exact ⟨Parts.nil _ _ _ _, rfl⟩
  | cons c cs ih =>
    intro first p
    simp only [vp9FlexFrags, flex_hdr, obs_one true false first cs.isEmpty false _ 0 0 (picId_lt hp)]
    obtain ⟨ho, he⟩ := ih false (C12.expected (payDesc true false first cs.isEmpty false pid.toUInt16 0 0))
    exact ⟨Parts.cons false first _ false 0 0 c hp (fun h => nomatch h) ho he.symm, rfl⟩

theorem flex_frameOk (pid : Nat) (hp : pid < 32768) (info : Option (Bool × UInt16 × UInt16))
    (mtu : Nat) (frame : Bytes) (hm : 3 < mtu) (hf : frame ≠ []) (p : VP9Packet) :
    C12.frameOk true pid info frame
      (C12.obsFrags p (vp9PayloadFlexible pid.toUInt16 mtu frame)).1 = true := by
  have hc : ¬ (decide (mtu ≤ 3) || frame.isEmpty) = true := by
    rw [Bool.or_eq_true, decide_eq_true_eq, List.isEmpty_iff]
    exact fun h => h.elim (Nat.not_le_of_lt hm) hf
  rw [vp9PayloadFlexible, if_neg hc]
  have ho := (flexFrags_parts pid hp info (vpxChunks (mtu - 3) frame) true p).1
  rw [chunks_flatten _ (Nat.sub_pos_of_lt hm)] at ho
  exact ho.frameOk hf (fun h => nomatch h)

/-- The non-flexible loop.  Only the first packet of a key frame carries the scalability structure and needs
    `11 < mtu`; the recursion continues with `first = false` and needs `3 < mtu`, hence both bounds.
    Besides `Parts`: emptiness (for the E mark of the packet before) and the structure on the first packet. -/
theorem nonFlexLoop_parts (pid : Nat) (hp : pid < 32768) (mtu : Nat) (nonKey : Bool) (w h : UInt16) (h3 : 3 < mtu)
    (info : Option (Bool × UInt16 × UInt16)) (hinfo : ∀ nk w' h', info = some (nk, w', h') → nk = nonKey) :
    ∀ (fuel : Nat) (first : Bool) (rem : Bytes) (p : VP9Packet), rem.length ≤ fuel →
      (if (!nonKey && first) = true then 11 else 3) < mtu →
      ∃ res, vp9NonFlexLoop pid.toUInt16 mtu nonKey w h fuel first rem = some res ∧
        Parts false pid info first (C12.obsFrags p res).1 rem ∧
        (C12.obsFrags p res).1.isEmpty = rem.isEmpty ∧
        ((!nonKey && first) = true → ∀ f ∈ (C12.obsFrags p res).1.head?, C12.ssOk w h f = true) := by
  intro fuel
  induction fuel with
  | zero =>
    intro first rem p hl _
    have : rem = [] := List.length_eq_zero_iff.mp (Nat.le_zero.mp hl)
    subst this
    exact ⟨[], rfl, Parts.nil _ _ _ _, rfl, fun _ f hf => nomatch hf⟩
  | succ n ih =>
    intro first rem p hl hm
    by_cases he : rem.isEmpty = true
    · have : rem = [] := List.isEmpty_iff.mp he
      subst this
      exact ⟨[], rfl, Parts.nil _ _ _ _, rfl, fun _ f hf => nomatch hf⟩
    · have hpos : 0 < rem.length := List.length_pos_iff.mpr (fun h0 => he (List.isEmpty_iff.mpr h0))
      generalize hcur : min (mtu - (if (!nonKey && first) = true then 11 else 3)) rem.length = cur
      have hc0 : 0 < cur := by omega
      -- E is set on the packet that takes the rest of the frame
      have hlast : (rem.length == cur) = (rem.drop cur).isEmpty := by
        rw [Bool.eq_iff_iff, beq_iff_eq, List.isEmpty_iff, List.drop_eq_nil_iff]; omega
      obtain ⟨rest, hrest, ho, hemp, _⟩ := ih false (rem.drop cur)
        (C12.expected (payDesc false nonKey first (rem.length == cur) (!nonKey && first) pid.toUInt16 w h))
        (by rw [List.length_drop]; omega) (by simpa using h3)
      refine ⟨_, (by
        simp only [vp9NonFlexLoop, he, Nat.not_le_of_lt hm, Bool.false_eq_true, if_false, hcur, hrest]
        exact rfl), ?_⟩
      rw [nonflex_hdr, obs_one false nonKey first _ _ _ w h (picId_lt hp)]
      refine ⟨?_, (eq_false_of_ne_true he).symm, ?_⟩
      · have := Parts.cons (first := first) nonKey _ (!nonKey && first) w h (rem.take cur) hp (fun _ => hinfo)
          ho (hlast.trans hemp.symm)
        rwa [List.take_append_drop] at this
      · intro hss f hf
        cases hf
        simp [hss, C12.ssOk, fragObsOf, C12.expected, payDesc]

/-- The header facts the non-flexible statement needs about one call.  They hold of every call
    (`c12_hdrFacts`, from the parser's correctness); here they are a hypothesis, which keeps the payloader's
    proofs apart from those of the header parser. -/
def HdrFacts (c : C12.Call) : Prop :=
  ∀ nk w h, C12.frameInfo c = some (nk, w, h) →
    ∃ hd, vp9HeaderUnmarshal (c.frame.getD []) = .ok hd ∧ hd.NonKeyFrame = nk ∧
      (nk = false → hd.width = w ∧ hd.height = h)

theorem nonflex_frameOk (pid : Nat) (hp : pid < 32768) (c : C12.Call) (hh : HdrFacts c)
    (hprop : C12.proper false c = true) (p : VP9Packet) :
    C12.frameOk false pid (C12.frameInfo c) (c.frame.getD [])
      (C12.obsFrags p (vp9PayloadNonFlexible pid.toUInt16 c.mtu.toNat (c.frame.getD []))).1 = true := by
  simp only [C12.proper, Bool.false_eq_true, if_false, Bool.and_eq_true, Bool.not_eq_true',
    List.isEmpty_eq_false_iff] at hprop
  obtain ⟨hne, hinfo⟩ := hprop
  cases hfi : C12.frameInfo c with
  | none => simp [hfi] at hinfo
  | some t =>
    obtain ⟨nk, w, h⟩ := t
    simp only [hfi, decide_eq_true_eq] at hinfo
    obtain ⟨hd, hok, hnk, hwh⟩ := hh nk w h hfi
    have h3 : 3 < c.mtu.toNat := by cases nk <;> simp at hinfo <;> omega
    have hfirst : (if (!hd.NonKeyFrame && true) = true then 11 else 3) < c.mtu.toNat := by
      rw [hnk]; cases nk <;> simp at hinfo ⊢ <;> omega
    obtain ⟨res, hres, ho, _, hss⟩ := nonFlexLoop_parts pid hp c.mtu.toNat hd.NonKeyFrame hd.width hd.height h3
      (some (nk, w, h)) (fun nk' w' h' he => by cases he; exact hnk.symm)
      (c.frame.getD []).length true (c.frame.getD []) p (Nat.le_refl _) hfirst
    simp only [vp9PayloadNonFlexible, hok, hres, Option.getD_some]
    refine ho.frameOk hne (fun _ w' h' hi f hf => ?_)
    cases hi
    rw [← (hwh rfl).1, ← (hwh rfl).2]
    exact hss (by rw [hnk]; rfl) f hf

/-- an initialised payloader whose next frame gets picture id `pid` -/
def ini (flex : Bool) (init : UInt16) (pid : Nat) : VP9Pay :=
  { flexible := flex, init := init, pictureID := pid.toUInt16, initialized := true }

theorem picId_next (pid : Nat) (hp : pid < 32768) :
    (if pid.toUInt16 + 1 ≥ 0x8000 then (0 : UInt16) else pid.toUInt16 + 1) = ((pid + 1) % 32768).toUInt16 := by
  have hadd : (pid.toUInt16 + 1).toNat = pid + 1 := by
    rw [UInt16.toNat_add, picId_toNat hp]; exact Nat.mod_eq_of_lt (Nat.lt_trans (Nat.succ_lt_succ hp) (by decide))
  have hge : (pid.toUInt16 + 1 ≥ 0x8000) ↔ 32768 ≤ pid + 1 := by
    rw [ge_iff_le, UInt16.le_iff_toNat_le, hadd]; rfl
  rw [eq_toUInt16_iff]
  by_cases h : 32768 ≤ pid + 1
  · rw [if_pos (hge.mpr h), (Nat.le_antisymm hp h : pid + 1 = 32768)]; rfl
  · have hlt := Nat.lt_of_not_le h
    rw [if_neg (mt hge.mp h), hadd, Nat.mod_eq_of_lt hlt, Nat.mod_eq_of_lt (Nat.lt_trans hlt (by decide))]

theorem mask15 (x : UInt16) : x &&& 0x7FFF = (x.toNat % 32768).toUInt16 := by
  rw [eq_toUInt16_iff, u16_and_mask x 0x7FFF 15 rfl]
  exact (Nat.mod_eq_of_lt (Nat.lt_trans (Nat.mod_lt _ (by decide)) (by decide))).symm

/-- setting the exported field leaves the picture-id state alone -/
theorem payloadF_ini (flex0 flex : Bool) (init : UInt16) (pid : Nat) (hp : pid < 32768) (mtu : UInt16)
    (i : Option Bytes) :
    vp9PayloadF (ini flex0 init pid) flex mtu i =
      ((if flex then vp9PayloadFlexible pid.toUInt16 mtu.toNat (i.getD [])
        else vp9PayloadNonFlexible pid.toUInt16 mtu.toNat (i.getD [])),
       ini flex init ((pid + 1) % 32768)) := by
  simp only [vp9PayloadF, vp9Payload, ini, if_true, picId_next pid hp]

/-- the first call of a new payloader sets the id to `init mod 2^15` and goes on as an initialised one -/
theorem payloadF_first (flex0 flex : Bool) (init : UInt16) (mtu : UInt16) (i : Option Bytes) :
    vp9PayloadF { flexible := flex0, init := init } flex mtu i =
      vp9PayloadF (ini flex0 init (init.toNat % 32768)) flex mtu i := by
  simp only [vp9PayloadF, vp9Payload, ini, Bool.false_eq_true, if_false, if_true, mask15]

/-- every initialised payloader state (whatever `FlexibleMode` was before, picture id `pid`), every
    receiver state, every history of (flag, call) pairs -/
theorem rtFlip_from (init : UInt16) : ∀ (calls : List (Bool × C12.Call)) (flex0 : Bool) (pid : Nat) (p : VP9Packet),
    pid < 32768 → (∀ fc ∈ calls, fc.1 = false → HdrFacts fc.2) →
    C12.rtFlipFrom pid calls (C12.obsRtFlipFrom (ini flex0 init pid) p calls) = true := by
  intro calls
  induction calls with
  | nil => intro _ pid p _ _; rfl
  | cons fc cs ih =>
    intro flex0 pid p hp hh
    obtain ⟨flex, c⟩ := fc
    simp only [C12.obsRtFlipFrom, payloadF_ini flex0 flex init pid hp, C12.rtFlipFrom]
    have hrest : ∀ p', C12.rtFlipFrom ((pid + 1) % 32768) cs
        (C12.obsRtFlipFrom (ini flex init ((pid + 1) % 32768)) p' cs) = true :=
      fun p' => ih flex _ p' (Nat.mod_lt _ (by decide)) (fun c' hc' => hh c' (List.mem_cons_of_mem _ hc'))
    cases hprop : C12.proper flex c
    · simp only [Bool.not_false, Bool.true_or, Bool.true_and]
      exact hrest _
    · simp only [Bool.not_true, Bool.false_or, Bool.and_eq_true]
      refine ⟨?_, hrest _⟩
      cases flex
      · exact nonflex_frameOk pid hp c (hh (false, c) List.mem_cons_self rfl) hprop p
      · simp only [C12.proper, if_true, Bool.and_eq_true, Bool.not_eq_true', List.isEmpty_eq_false_iff,
          decide_eq_true_eq] at hprop
        exact flex_frameOk pid hp _ _ _ hprop.2 hprop.1 p

theorem obsRtFlipFrom_first (flex0 : Bool) (init : UInt16) (p : VP9Packet) (calls : List (Bool × C12.Call)) :
    C12.obsRtFlipFrom { flexible := flex0, init := init } p calls =
      C12.obsRtFlipFrom (ini flex0 init (init.toNat % 32768)) p calls := by
  cases calls with
  | nil => rfl
  | cons c cs => obtain ⟨f, c⟩ := c; simp only [C12.obsRtFlipFrom, payloadF_first]

theorem rtFlip_obsRtFlip (init : UInt16) (calls : List (Bool × C12.Call))
    (hh : ∀ fc ∈ calls, fc.1 = false → HdrFacts fc.2) :
    C12.rtFlip init calls (C12.obsRtFlip init calls) = true := by
  unfold C12.rtFlip C12.obsRtFlip
  rw [obsRtFlipFrom_first]
  exact rtFlip_from init calls false _ {} (Nat.mod_lt _ (by decide)) hh

/-- a history whose flag never changes is a history in the sense of `C12.rt` -/
theorem rtFlipFrom_const (flex : Bool) : ∀ (calls : List C12.Call) (pid : Nat) (o : List (List C12.FragObs)),
    C12.rtFlipFrom pid (calls.map (fun c => (flex, c))) o = C12.rtFrom flex pid calls o := by
  intro calls
  induction calls with
  | nil => intro pid o; cases o <;> rfl
  | cons c cs ih =>
    intro pid o
    cases o with
    | nil => rfl
    | cons o os => simp only [List.map_cons, C12.rtFlipFrom, C12.rtFrom, ih]

theorem obsRtFlipFrom_const (flex : Bool) : ∀ (calls : List C12.Call) (st : VP9Pay) (p : VP9Packet),
    C12.obsRtFlipFrom st p (calls.map (fun c => (flex, c))) =
      C12.obsRtFrom { st with flexible := flex } p calls := by
  intro calls
  induction calls with
  | nil => intro st p; rfl
  | cons c cs ih =>
    intro st p
    have h2 : ∀ st' : VP9Pay, st'.flexible = flex → ({ st' with flexible := flex } : VP9Pay) = st' := by
      intro st' h; cases st'; simp_all
    have h3 : (vp9Payload { st with flexible := flex } c.mtu c.frame).2.flexible = flex := by
      simp only [vp9Payload]; split <;> rfl
    simp only [List.map_cons, C12.obsRtFlipFrom, C12.obsRtFrom, vp9PayloadF]
    rw [ih, h2 _ h3]

theorem rt_obsRt (flex : Bool) (init : UInt16) (calls : List C12.Call)
    (hh : ∀ c ∈ calls, flex = false → HdrFacts c) :
    C12.rt flex init calls (C12.obsRt flex init calls) = true := by
  have h := rtFlip_obsRtFlip init (calls.map (fun c => (flex, c))) (by
    intro fc hfc hf
    obtain ⟨c, hc, rfl⟩ := List.mem_map.mp hfc
    exact hh c hc hf)
  unfold C12.rtFlip C12.obsRtFlip at h
  rw [rtFlipFrom_const, obsRtFlipFrom_const] at h
  exact h

end Rtp.Proofs.VP9
