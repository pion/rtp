/-
  Rtp/Proofs/HeaderExt.lean — the accessors of Rtp/Model/HeaderExt.lean refine Rtp/Spec/OrderedMap.lean:
  an element list is an association list (`get_map`, `set_map`, `eraseExt_eq`), one operation is one
  `State.step` (`step_refines`), a history gives the specification's trace (`modelTrace`,
  `trace_refines`).  On the model's own observation the read and history clauses of Pred/C05.lean
  therefore hold, and the predicate comes down to its final clause (`foldOk_model`, `pred_eq_finalOk`).
-/
import Rtp.Proofs.HeaderExtSpec
import Rtp.Pred.C05
namespace Rtp.Proofs.HeaderExt
open Rtp Rtp.Model Rtp.Pred.C05
open Rtp.Spec.OrderedMap (Map Op)
-- `OM.get` etc. serve in statements; `simp`/`unfold` need the real names `Spec.OrderedMap.get` etc.
namespace OM
export Rtp.Spec.OrderedMap (keys get set del has apply accepts selectProfile State reads trace oneByte twoByte)
end OM

theorem get_map (es : List Ext) (id : UInt8) :
    OM.get (es.map toPair) id = (es.find? (·.id == id)).map (·.payload) := by
  induction es with
  | nil => rfl
  | cons e es ih =>
    simp only [List.map_cons, toPair, OM.get, List.find?_cons]
    cases h : e.id == id <;> simp
    · simpa [toPair] using ih

theorem set_map (es : List Ext) (id : UInt8) (v : Bytes) :
    OM.set (es.map toPair) id v = (upsertExt es id v).map toPair := by
  induction es with
  | nil => rfl
  | cons e es ih =>
    simp only [List.map_cons, toPair, OM.set, upsertExt]
    cases h : e.id == id <;> simp [toPair]
    · simpa [toPair] using ih

theorem eraseExt_eq (es : List Ext) (id : UInt8) :
    (eraseExt es id).map (·.map toPair) =
      if OM.has (es.map toPair) id then some (OM.del (es.map toPair) id) else none := by
  induction es with
  | nil => rfl
  | cons e es ih =>
    have hc : ∀ o : Option (List Ext),
        (o.map (e :: ·)).map (·.map toPair) = (o.map (·.map toPair)).map ((e.id, e.payload) :: ·) :=
      fun o => by cases o <;> rfl
    rw [List.map_cons, toPair, HeaderExtSpec.has_cons, eraseExt]
    cases h : e.id == id
    · simp only [Bool.false_eq_true, if_false, Bool.false_or, hc, ih, OM.del, h]
      split <;> rfl
    · simp only [if_true, Option.map_some, Bool.true_or, OM.del, h]

/-- read `if c then some _ else r` as `!c && r`: both sides are then the same conjunction of bounds,
    up to the two spellings of the profile constants, which `rfl` identifies -/
theorem validate_accepts (p : UInt16) (id : UInt8) (len : Nat) :
    (validateExt p id len).isNone = OM.accepts p id len := by
  simp only [validateExt, Spec.OrderedMap.accepts, apply_ite Option.isNone, Option.isNone_some, Option.isNone_none,
    Bool.if_false_left, Bool.and_true, Bool.decide_eq_true, Bool.not_or, UInt8.lt_iff_toNat_lt, ← decide_not,
    Nat.not_lt, bne, Bool.not_not, Bool.and_assoc]
  rfl

theorem ids_view (h : Header) : getExtensionIDs h = OM.keys (view h) := by
  unfold getExtensionIDs view
  cases h.extension
  · rfl
  · simp [OM.keys, toPair, Function.comp_def]

theorem get_view (h : Header) (id : UInt8) : getExtension h id = OM.get (view h) id := by
  unfold getExtension view
  cases h.extension
  · rfl
  · simp only [Bool.not_true, Bool.false_eq_true, if_false, if_true, get_map]

theorem readsOk_model (h : Header) (extra : List UInt8) :
    readsOk (view h) extra (modelReads h extra) = true := by
  simp only [readsOk, modelReads, ids_view, get_view, beq_self_eq_true, Bool.and_self]

/-- the profile SetExtension validates against -/
def setProfile (h : Header) (len : Nat) : UInt16 :=
  if h.extension then h.extProfile else OM.selectProfile h.extProfile len

theorem setExtension_eq (h : Header) (id : UInt8) (v : Bytes) :
    setExtension h id v =
      match validateExt (setProfile h v.length) id v.length with
      | some e => (some e, h)
      | none =>
        if !h.extension then
          (none, { h with extension := true, extProfile := setProfile h v.length,
                          exts := h.exts ++ [{ id := id, payload := v }] })
        else (none, { h with exts := upsertExt h.exts id v }) := by
  unfold setExtension setProfile Spec.OrderedMap.selectProfile
  rfl

theorem step_err_unchanged (h : Header) (op : Op) (e : Err) (h' : Header)
    (hs : modelStep h op = (some e, h')) : h' = h := by
  cases op with
  | set id v =>
    rw [modelStep, setExtension_eq] at hs
    split at hs
    · exact (Prod.mk.inj hs).2.symm
    · split at hs <;> cases hs
  | del id =>
    rw [modelStep, delExtension] at hs
    split at hs
    · exact (Prod.mk.inj hs).2.symm
    · split at hs
      · exact (Prod.mk.inj hs).2.symm
      · cases hs

/-- each accessor refines `State.step` of the specification, and leaves no ghost elements.
    SetExtension validates against `setProfile` and then upserts (X on) or appends to the list
    (X off), which `noGhost` makes the empty list, so that too is an upsert; DelExtension is
    `eraseExt_eq`. -/
theorem step_refines (h : Header) (op : Op) (hg : noGhost h = true) :
    (modelStep h op).1.isNone = ((abs h).step op).1 ∧
    abs (modelStep h op).2 = ((abs h).step op).2 ∧
    noGhost (modelStep h op).2 = true := by
  cases op with
  | set id v =>
    rw [modelStep, setExtension_eq]
    simp only [Spec.OrderedMap.State.step, abs, setProfile, ← validate_accepts]
    by_cases hx : h.extension = true
    · simp only [hx, if_true, Bool.not_true, Bool.false_eq_true, if_false]
      cases hv : validateExt h.extProfile id v.length with
      | some e => simp [hx, hg]
      | none => simp [set_map, noGhost]
    · have hx' : h.extension = false := by simpa using hx
      have hn : h.exts = [] := by simpa [noGhost, hx'] using hg
      simp only [hx', Bool.false_eq_true, if_false, Bool.not_false, if_true]
      cases hv : validateExt (OM.selectProfile h.extProfile v.length) id v.length with
      | some e => simp [hx', hg]
      | none => simp [hn, toPair, OM.set, noGhost]
  | del id =>
    have he := eraseExt_eq h.exts id
    simp only [modelStep, delExtension, Spec.OrderedMap.State.step, abs]
    by_cases hx : h.extension = true
    · by_cases hh : OM.has (h.exts.map toPair) id = true
      · simp only [hh, if_true, Option.map_eq_some_iff] at he
        obtain ⟨es', he, hd⟩ := he
        simp [he, hd, hh, hx, noGhost]
      · simp only [hh, Bool.false_eq_true, if_false, Option.map_eq_none_iff] at he
        simp [he, hh, hx, hg]
    · have hx' : h.extension = false := by simpa using hx
      simp [hx', hg]

theorem view_abs (h : Header) : view h = (abs h).view := rfl

/-- in the specification an accepted operation changes the visible map by `apply` -/
theorem spec_step_view (s : OM.State) (op : Op) (hg : s.enabled = false → s.items = [])
    (hok : (s.step op).1 = true) : (s.step op).2.view = OM.apply s.view op := by
  obtain ⟨en, prof, items⟩ := s
  simp only at hg
  cases op with
  | set id v =>
    simp only [Spec.OrderedMap.State.step] at hok ⊢
    generalize (if en = true then prof else OM.selectProfile prof v.length) = p at hok ⊢
    by_cases ha : OM.accepts p id v.length = true
    · simp only [ha, if_true, Spec.OrderedMap.State.view, OM.apply]
      cases en
      · simp [hg rfl]
      · simp
    · simp [ha] at hok
  | del id =>
    simp only [Spec.OrderedMap.State.step] at hok ⊢
    by_cases hc : (en && OM.has items id) = true
    · simp only [hc, if_true, Spec.OrderedMap.State.view, OM.apply]
      simp only [Bool.and_eq_true] at hc
      simp [hc.1]
    · simp [hc] at hok

/-- an accepted operation changes the visible map exactly as the specification says -/
theorem step_view (h : Header) (op : Op) (hg : noGhost h = true)
    (hok : (modelStep h op).1 = none) : view (modelStep h op).2 = OM.apply (view h) op := by
  obtain ⟨h1, h2, _⟩ := step_refines h op hg
  rw [hok] at h1
  rw [view_abs, h2, view_abs]
  refine spec_step_view (abs h) op ?_ h1.symm
  intro hx
  simp only [abs] at hx ⊢
  simpa [noGhost, hx] using hg

theorem modelSteps_cons (h : Header) (op : Op) (ops : List Op) :
    modelSteps h (op :: ops) =
      ({ res := resOfErr (modelStep h op).1, reads := modelReads (modelStep h op).2 [op.id] } ::
        (modelSteps (modelStep h op).2 ops).1, (modelSteps (modelStep h op).2 ops).2) := rfl

theorem modelSteps_inv {P : Header → Prop} (hstep : ∀ h op, P h → P (modelStep h op).2)
    (ops : List Op) (h : Header) (hp : P h) : P (modelSteps h ops).2 := by
  induction ops generalizing h with
  | nil => exact hp
  | cons op ops ih => rw [modelSteps_cons]; exact ih _ (hstep h op hp)

/-- the model's history satisfies the fold of the predicate, and ends in the map the final
    header shows -/
theorem foldOk_model (ops : List Op) : ∀ (h : Header), noGhost h = true →
    foldOk (view h) (h.extension, h.extProfile) ops (modelSteps h ops).1 =
      some (view (modelSteps h ops).2) ∧
    noGhost (modelSteps h ops).2 = true := by
  induction ops with
  | nil => intro h hg; exact ⟨rfl, hg⟩
  | cons op ops ih =>
    intro h hg
    rw [modelSteps_cons]
    obtain ⟨_, _, hg'⟩ := step_refines h op hg
    obtain ⟨ih1, ih2⟩ := ih (modelStep h op).2 hg'
    refine ⟨?_, ih2⟩
    simp only [foldOk]
    cases he : (modelStep h op).1 with
    | none =>
      simp only [resOfErr]
      rw [← step_view h op hg he, readsOk_model]
      simpa [modelReads] using ih1
    | some e =>
      have hu : (modelStep h op).2 = h :=
        step_err_unchanged h op e _ (by rw [← he])
      simp only [resOfErr]
      rw [hu] at ih1 ⊢
      rw [readsOk_model]
      simpa [modelReads] using ih1

theorem wf_iff (s : Start) : wf s = true ↔ ∃ h, startHeader s = some h ∧ noGhost h = true := by
  unfold wf
  cases startHeader s <;> simp

/-- the read and history clauses hold of the model's own observation (`readsOk_model`,
    `foldOk_model`): the final clause is what is left of the predicate -/
theorem pred_eq_finalOk (s : Start) (ops : List Op) (h : Header) (hs : startHeader s = some h)
    (hg : noGhost h = true) :
    pred s ops (modelObs s ops) = finalOk (view (modelSteps h ops).2) (modelFinal (modelSteps h ops).2) := by
  have hstart : (if h.extension = true then List.map (fun e => (e.id, e.payload)) h.exts else []) = view h := rfl
  have hinit : ((modelReads h []).x, (modelReads h []).profile) = (h.extension, h.extProfile) := rfl
  simp only [pred, holds, modelObs, hs, hstart, Bool.not_true, Bool.false_or, readsOk_model, Bool.true_and, hinit,
    (foldOk_model ops h hg).1]

/-- what a successful fold says at the surface: one observation per operation, none of them a panic -/
theorem foldOk_shape (ops : List Op) (m : Map) (prev : Bool × UInt16) (steps : List StepObs) (mf : Map)
    (h : foldOk m prev ops steps = some mf) : steps.length = ops.length ∧ ∀ s ∈ steps, s.res ≠ .panic := by
  -- cases of `foldOk`: both lists empty; a panic; accepted with reads ok / not ok; refused with
  -- reads ok / not ok; lists of different length
  fun_induction foldOk m prev ops steps with
  | case1 => simp
  | case2 => cases h
  | case3 m prev op ops s ss u hr m' hro ih =>
    obtain ⟨h1, h2⟩ := ih h
    exact ⟨by simp [h1], List.forall_mem_cons.mpr ⟨by simp [hr], h2⟩⟩
  | case4 => cases h
  | case5 m prev op ops s ss e hr hro ih =>
    obtain ⟨h1, h2⟩ := ih h
    exact ⟨by simp [h1], List.forall_mem_cons.mpr ⟨by simp [hr], h2⟩⟩
  | case6 => cases h
  | case7 => cases h

/-- the trace the model produces: per operation accepted?, ids, and GetExtension for every listed
    id and the operation's id (nil and empty distinguished) -/
def modelTrace (h : Header) : List Op → List (Bool × List UInt8 × List (UInt8 × Option Bytes))
  | [] => []
  | op :: ops =>
    let r := modelStep h op
    let ids := getExtensionIDs r.2
    (r.1.isNone, ids, (ids ++ [op.id]).map fun id => (id, getExtension r.2 id)) :: modelTrace r.2 ops

theorem trace_refines (ops : List Op) : ∀ (h : Header), noGhost h = true →
    modelTrace h ops = OM.trace (abs h) ops := by
  induction ops with
  | nil => intro h _; rfl
  | cons op ops ih =>
    intro h hg
    obtain ⟨h1, h2, hg'⟩ := step_refines h op hg
    simp only [modelTrace, Spec.OrderedMap.trace, ih (modelStep h op).2 hg', ← h2, ← h1, ← view_abs,
      Spec.OrderedMap.reads, ids_view, get_view]

end Rtp.Proofs.HeaderExt
