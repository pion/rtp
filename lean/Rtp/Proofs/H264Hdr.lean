/-
  Rtp/Proofs/H264Hdr.lean — the octets of RFC 6184 as numbers: the fields of `mkHdr` and `fuHdr`
  (Spec/Rfc6184.lean), 16-bit sizes, the masks and comparisons of the Go code in those terms, and the
  header octet FU-A reassembly puts together (`rebuild_hdr`).
-/
import Rtp.Proofs.Lib.BitField
import Rtp.Proofs.Lib.BigEndian
import Rtp.Model.H264
import Rtp.Spec.Rfc6184
namespace Rtp.Proofs.H264
open Rtp Rtp.Model Rtp.Model.H264 Rtp.Spec.Rfc6184

theorem hF_lt (h : UInt8) : hF h < 2 := by have := h.toNat_lt; simp only [hF]; omega
theorem hNri_lt (h : UInt8) : hNri h < 4 := by simp only [hNri]; omega
theorem hType_lt (h : UInt8) : hType h < 32 := Nat.mod_lt _ (by decide)

/-- the kinds `Unmarshal` tells apart: single unit, STAP-A, FU-A, everything else -/
theorem type_cases (h : UInt8) :
    (1 ≤ hType h ∧ hType h ≤ 23) ∨ hType h = 24 ∨ hType h = 28 ∨ (hType h = 0 ∨ 25 ≤ hType h ∧ hType h ≠ 28) := by
  omega

theorem mkHdr_toNat (f nri typ : Nat) (hf : f < 2) (hn : nri < 4) (ht : typ < 32) :
    (mkHdr f nri typ).toNat = f * 128 + nri * 32 + typ := toNat_toUInt8_of_lt (by omega)

theorem hType_mkHdr (f nri typ : Nat) (ht : typ < 32) : hType (mkHdr f nri typ) = typ := by
  simp only [hType, mkHdr, toNat_toUInt8]
  omega

theorem hF_mkHdr (f nri typ : Nat) (hf : f < 2) (hn : nri < 4) (ht : typ < 32) : hF (mkHdr f nri typ) = f := by
  rw [hF, mkHdr_toNat f nri typ hf hn ht]; omega

theorem hNri_mkHdr (f nri typ : Nat) (hf : f < 2) (hn : nri < 4) (ht : typ < 32) :
    hNri (mkHdr f nri typ) = nri := by
  rw [hNri, mkHdr_toNat f nri typ hf hn ht]; omega

theorem mkHdr_eta (h : UInt8) : mkHdr (hF h) (hNri h) (hType h) = h := by
  have h1 : h.toNat % (32 * 4) = h.toNat % 32 + 32 * (h.toNat / 32 % 4) := Nat.mod_mul
  have h2 := Nat.div_add_mod h.toNat 128
  have : hF h * 128 + hNri h * 32 + hType h = h.toNat := by
    rw [hF, hNri, hType]
    generalize h.toNat / 128 = a at *
    generalize h.toNat / 32 % 4 = b at *
    generalize h.toNat % 32 = c at *
    omega
  rw [mkHdr, this, toUInt8_toNat]

theorem mkHdr_retype (h : UInt8) (t typ : Nat) (ht : t < 32) :
    mkHdr (hF (mkHdr (hF h) (hNri h) t)) (hNri (mkHdr (hF h) (hNri h) t)) typ = mkHdr (hF h) (hNri h) typ := by
  rw [hF_mkHdr _ _ _ (hF_lt h) (hNri_lt h) ht, hNri_mkHdr _ _ _ (hF_lt h) (hNri_lt h) ht]

theorem fuHdr_toNat (s e : Bool) (typ : Nat) (ht : typ < 32) :
    (fuHdr s e typ).toNat = s.toNat * 128 + e.toNat * 64 + typ := by
  have := s.toNat_le; have := e.toNat_le
  rw [fuHdr, ite_eq_toNat_mul, ite_eq_toNat_mul, toNat_toUInt8_of_lt (by omega)]

theorem fuS_fuHdr (s e : Bool) (typ : Nat) (ht : typ < 32) : fuS (fuHdr s e typ) = s := by
  have := s.toNat_le; have := e.toNat_le
  rw [fuS, fuHdr_toNat s e typ ht]; exact beq_one_of_eq_toNat (by omega)

theorem fuE_fuHdr (s e : Bool) (typ : Nat) (ht : typ < 32) : fuE (fuHdr s e typ) = e := by
  have := s.toNat_le; have := e.toNat_le
  rw [fuE, fuHdr_toNat s e typ ht]; exact beq_one_of_eq_toNat (by omega)

theorem hType_fuHdr (s e : Bool) (typ : Nat) (ht : typ < 32) : hType (fuHdr s e typ) = typ := by
  rw [hType, fuHdr_toNat s e typ ht]; omega

/-- R, bit 5 of an FU header, is written as 0 -/
theorem rbit_fuHdr (s e : Bool) (typ : Nat) (ht : typ < 32) :
    ((fuHdr s e typ).toNat / 32 % 2 == 0) = true := by
  have := e.toNat_le
  rw [fuHdr_toNat s e typ ht, beq_iff_eq]; omega

/-- the FU header is determined by its S, E, type fields when R = 0 -/
theorem fuHdr_of_fields {fh : UInt8} {s e : Bool} {t : Nat} (hS : fuS fh = s) (hE : fuE fh = e)
    (hT : hType fh = t) (hR : fh.toNat / 32 % 2 = 0) : fh = fuHdr s e t := by
  subst hS hE hT
  revert fh
  apply Rtp.Bits.forall_u8; decide +kernel

theorem size16_val (n : Nat) (hn : n < 65536) :
    ((n / 256).toUInt8).toNat * 256 + ((n % 256).toUInt8).toNat = n := by
  rw [toNat_toUInt8, toNat_toUInt8, Nat.mod_mod, Nat.mod_eq_of_lt (Nat.div_lt_of_lt_mul hn)]
  exact Nat.div_add_mod' n 256

theorem rd16_size16 (n : Nat) (hn : n < 65536) :
    (rd16 (n / 256).toUInt8 (n % 256).toUInt8).toNat = n := by
  rw [rd16_toNat]; exact size16_val n hn

theorem be16_size16 (n : Nat) (hn : n < 65536) : be16 n.toUInt16 = size16 n := by
  rw [be16_eq, toNat_toUInt16_of_lt hn, size16, toUInt8_mod]

theorem size16_of_bytes (a b : UInt8) : size16 (a.toNat * 256 + b.toNat) = [a, b] := by
  have ha := a.toNat_lt
  have hb := b.toNat_lt
  have hlt : a.toNat * 256 + b.toNat < 65536 := by omega
  have e : (a.toNat * 256 + b.toNat).toUInt16 = rd16 a b := by
    rw [eq_comm, eq_toUInt16_iff, rd16_toNat, Nat.mod_eq_of_lt hlt]
  rw [← be16_size16 _ hlt, e, be16_rd16]

theorem hType_mask (h : UInt8) : hType h = (h &&& naluTypeBitmask).toNat :=
  (u8_and_mask h naluTypeBitmask 5 rfl).symm

theorem fuS_mask (h : UInt8) : fuS h = (h &&& fuStartBitmask != 0) := by
  rw [u8_bit h fuStartBitmask 7 rfl, fuS, Nat.mod_eq_of_lt]
  have := h.toNat_lt; omega

theorem fuE_mask (h : UInt8) : fuE h = (h &&& fuEndBitmask != 0) := (u8_bit h fuEndBitmask 6 rfl).symm

theorem type_test (h n : UInt8) : ((h &&& naluTypeBitmask) == n) = (hType h == n.toNat) := by
  rw [hType_mask, Bool.eq_iff_iff, beq_iff_eq, beq_iff_eq, UInt8.toNat_inj]

theorem single_test (h : UInt8) :
    (decide (0 < (h &&& naluTypeBitmask)) && decide ((h &&& naluTypeBitmask) < 24)) =
      decide (1 ≤ hType h ∧ hType h ≤ 23) := by
  rw [hType_mask, Bool.eq_iff_iff, Bool.and_eq_true, decide_eq_true_iff, decide_eq_true_iff, decide_eq_true_iff,
    UInt8.lt_iff_toNat_lt, UInt8.lt_iff_toNat_lt]
  exact and_congr Iff.rfl Nat.lt_succ_iff

/-- FU-A reassembly takes NRI from the indicator and the five type bits from the FU header; F is not
    carried, so the unit's header octet comes back only when its F bit is clear -/
theorem rebuild_hdr (s e : Bool) (h : UInt8) (hF0 : hF h = 0) :
    ((mkHdr (hF h) (hNri h) 28) &&& naluRefIdcBitmask) |||
      ((fuHdr s e (hType h)) &&& naluTypeBitmask) = h := by
  have h1 : (mkHdr (hF h) (hNri h) 28 &&& naluRefIdcBitmask).toNat = hNri h * 32 := by
    rw [UInt8.toNat_and, show naluRefIdcBitmask.toNat = (2 ^ 2 - 1) <<< 5 from rfl, Bits.nat_and_shl,
      ← hNri, hNri_mkHdr _ _ _ (hF_lt h) (hNri_lt h) (by decide)]
  have h2 : (fuHdr s e (hType h) &&& naluTypeBitmask).toNat = hType h := by
    rw [← hType_mask, hType_fuHdr s e _ (hType_lt h)]
  have h3 : hF h * 128 + hNri h * 32 + hType h = h.toNat := by
    rw [← mkHdr_toNat _ _ _ (hF_lt h) (hNri_lt h) (hType_lt h), mkHdr_eta]
  rw [← UInt8.toNat_inj, UInt8.toNat_or, h1, h2, Bits.nat_mul_or' (j := 5) rfl _ _ (hType_lt h), ← h3, hF0]
  omega

end Rtp.Proofs.H264
