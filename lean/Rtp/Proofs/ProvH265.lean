/-
  Rtp/Proofs/ProvH265.lean — the provenance-level H265 payloader (Rtp/Model/ProvH265.lean):
  forgetting origins gives Model/H265.lean, and every fragment handed out is `fresh` when the
  single-NAL-unit step copies.  Everything is stated for an arbitrary `keep` (what the single-NAL-unit
  step does to the unit): `PBytes.copy` gives `provPayload`, `id` gives `provPayloadUnrepaired`;
  Rtp/Props/C08_Prov.lean instantiates both.
-/
import Rtp.Model.ProvH265
import Rtp.Proofs.Prov
namespace Rtp.Proofs.ProvH265
open Rtp Rtp.Model Rtp.Model.Prov Rtp.Model.H265 Rtp.Proofs.Prov

def forgetStep (r : List PBytes × PSt) : List Bytes × St := (forgetAll r.1, r.2.forget)

theorem forgetStep_mk (o : List PBytes) (s : PSt) : forgetStep (o, s) = (forgetAll o, s.forget) := rfl

theorem forget_pFlush (keep : PBytes → PBytes) (hk : ∀ x, (keep x).bytes = x.bytes) (cfg : Cfg)
    (s : PSt) : forgetStep (pFlush keep cfg s) = flush cfg s.forget := by
  obtain ⟨buf, agg, donl⟩ := s
  unfold pFlush flush forgetStep
  rcases buf with _ | ⟨n, _ | ⟨m, t⟩⟩
  · rfl
  · simp only [PSt.forget, forgetAll_cons, forgetAll_nil]
    split <;> simp [hk]
  · simp [PSt.forget]

theorem owned_pFlush (keep : PBytes → PBytes) (hfresh : ∀ x, (keep x).origin = .fresh) (cfg : Cfg)
    (s : PSt) : AllOwned (pFlush keep cfg s).1 := by
  unfold pFlush
  split
  · simp
  · split <;> simp [hfresh]
  · simp

theorem buf_pFlush (keep : PBytes → PBytes) (cfg : Cfg) (s : PSt) : (pFlush keep cfg s).2.buf = [] := by
  unfold pFlush
  split
  · assumption
  · split <;> rfl
  · rfl

theorem forget_pFuLoop (cfg : Cfg) (k : Nat) (b0 b1 : UInt8) (fuel : Nat) (first : Bool) (d : UInt16)
    (l : PBytes) :
    forgetAll (pFuLoop cfg k b0 b1 fuel first d l).1 = (fuLoop cfg k b0 b1 fuel first d l.bytes).1 ∧
    (pFuLoop cfg k b0 b1 fuel first d l).2 = (fuLoop cfg k b0 b1 fuel first d l.bytes).2 := by
  induction fuel generalizing first d l with
  | zero => exact ⟨rfl, rfl⟩
  | succ fuel ih =>
    rw [pFuLoop, fuLoop]
    split
    · exact ⟨rfl, rfl⟩
    · have h := ih false (if cfg.addDONL = true then d + 1 else d)
        (l.drop (if l.bytes.length > k then k else l.bytes.length))
      simp only [bytes_drop] at h
      refine ⟨?_, ?_⟩ <;> simp only [forgetAll_cons, bytes_make, bytes_take, h.1, h.2]

theorem owned_pFuLoop (cfg : Cfg) (k : Nat) (b0 b1 : UInt8) (fuel : Nat) (first : Bool) (d : UInt16)
    (l : PBytes) : AllOwned (pFuLoop cfg k b0 b1 fuel first d l).1 := by
  induction fuel generalizing first d l with
  | zero => simp [pFuLoop]
  | succ fuel ih =>
    rw [pFuLoop]
    split
    · simp
    · simp [ih]

@[simp] theorem forget_buf (s : PSt) : s.forget.buf = forgetAll s.buf := rfl
@[simp] theorem forget_agg (s : PSt) : s.forget.agg = s.agg := rfl
@[simp] theorem forget_donl (s : PSt) : s.forget.donl = s.donl := rfl
@[simp] theorem length_forgetAll (l : List PBytes) : (forgetAll l).length = l.length := by
  simp [forgetAll]

section
variable (keep : PBytes → PBytes) (hk : ∀ x, (keep x).bytes = x.bytes) (cfg : Cfg)
include hk

theorem forget_pFlush_out (s : PSt) : forgetAll (pFlush keep cfg s).1 = (flush cfg s.forget).1 :=
  congrArg Prod.fst (forget_pFlush keep hk cfg s)
theorem forget_pFlush_st (s : PSt) : (pFlush keep cfg s).2.forget = (flush cfg s.forget).2 :=
  congrArg Prod.snd (forget_pFlush keep hk cfg s)
theorem forget_pFlush_buf (s : PSt) : forgetAll (pFlush keep cfg s).2.buf = (flush cfg s.forget).2.buf :=
  congrArg St.buf (forget_pFlush_st keep hk cfg s)
theorem forget_pFlush_agg (s : PSt) : (pFlush keep cfg s).2.agg = (flush cfg s.forget).2.agg :=
  congrArg St.agg (forget_pFlush_st keep hk cfg s)
theorem forget_pFlush_donl (s : PSt) : (pFlush keep cfg s).2.donl = (flush cfg s.forget).2.donl :=
  congrArg St.donl (forget_pFlush_st keep hk cfg s)
theorem forget_pFlush_buflen (s : PSt) : (pFlush keep cfg s).2.buf.length = (flush cfg s.forget).2.buf.length := by
  rw [← forget_pFlush_buf keep hk cfg s, length_forgetAll]

/- Every test in `pStep` reads `n.bytes.length`, `s.agg`, `s.buf.length` only, which forgetting origins does not
   change; so `pStep` and `step` take the same branch, and in each branch the outputs agree by the flush and
   FU-loop lemmas. -/
theorem forget_pStep (mtu : Nat) (s : PSt) (n : PBytes) :
    forgetStep (pStep keep cfg mtu s n) = step cfg mtu s.forget n.bytes := by
  unfold pStep step
  by_cases h1 : n.bytes.length < 2
  · simp [h1, forgetStep_mk]
  · by_cases h2 : n.bytes.length + 2 + (if cfg.addDONL = true then 2 else 0) ≤ mtu
    · by_cases h3 : s.agg + marginal cfg s.buf.length n.bytes.length > mtu <;>
        by_cases h4 : cfg.skipAgg = true <;>
        simp [h1, h2, h3, h4, forgetStep_mk, forget_pFlush_out keep hk, forget_pFlush_buf keep hk,
          forget_pFlush_agg keep hk, forget_pFlush_donl keep hk, forget_pFlush_buflen keep hk, PSt.forget]
    · by_cases h5 : (decide (mtu ≤ 3 + if cfg.addDONL = true then 2 else 0) || n.bytes.length == 2) = true
      · simp only [h1, h2, h5, if_true, if_false, forgetStep_mk, forgetAll_nil]
      · by_cases h6 : n.bytes.length - 2 ≤ mtu - (3 + if cfg.addDONL = true then 2 else 0)
        · simp only [h1, h2, h5, h6, if_true, if_false]
          simp [forgetStep_mk, forget_pFlush_out keep hk, forget_pFlush_buf keep hk,
            forget_pFlush_agg keep hk, forget_pFlush_donl keep hk, PSt.forget]
        · simp only [h1, h2, h5, h6, if_false]
          simp [forgetStep_mk, forget_pFlush_out keep hk, forget_pFlush_buf keep hk,
            forget_pFlush_agg keep hk, forget_pFlush_donl keep hk, PSt.forget, (forget_pFuLoop ..).1, (forget_pFuLoop ..).2]

end

/-- every fragment of one step is a new array when the single-NAL-unit step allocates -/
theorem owned_pStep (keep : PBytes → PBytes) (hfresh : ∀ x, (keep x).origin = .fresh) (cfg : Cfg)
    (mtu : Nat) (s : PSt) (n : PBytes) : AllOwned (pStep keep cfg mtu s n).1 := by
  -- the output is empty, or flushes and an FU train appended
  have hF := owned_pFlush keep hfresh cfg
  unfold pStep
  by_cases h1 : n.bytes.length < 2
  · simp [h1]
  · by_cases h2 : n.bytes.length + 2 + (if cfg.addDONL = true then 2 else 0) ≤ mtu
    · by_cases h3 : s.agg + marginal cfg s.buf.length n.bytes.length > mtu <;>
        by_cases h4 : cfg.skipAgg = true <;> simp [h1, h2, h3, h4, hF]
    · by_cases h5 : (decide (mtu ≤ 3 + if cfg.addDONL = true then 2 else 0) || n.bytes.length == 2) = true
      · simp only [h1, h2, h5, if_true, if_false, allOwned_nil]
      · by_cases h6 : n.bytes.length - 2 ≤ mtu - (3 + if cfg.addDONL = true then 2 else 0) <;>
          simp only [h1, h2, h5, h6, if_true, if_false, Bool.false_eq_true, allOwned_append, hF, owned_pFuLoop,
            and_self]

theorem forget_pRun (keep : PBytes → PBytes) (hk : ∀ x, (keep x).bytes = x.bytes) (cfg : Cfg)
    (mtu : Nat) (s : PSt) (ns : List PBytes) :
    (forgetAll (pRun keep cfg mtu s ns).1, (pRun keep cfg mtu s ns).2) =
      run cfg mtu s.forget (forgetAll ns) := by
  induction ns generalizing s with
  | nil =>
    simp only [pRun, run, forgetAll_nil, forget_pFlush_out keep hk, forget_pFlush_donl keep hk]
  | cons n ns ih =>
    have h1 := forget_pStep keep hk cfg mtu s n
    have h2 := ih (pStep keep cfg mtu s n).2
    simp only [forgetStep, Prod.ext_iff] at h1 h2
    simp only [pRun, run, forgetAll_cons, forgetAll_append, ← h1.1, ← h1.2, ← h2.1, ← h2.2]

theorem owned_pRun (keep : PBytes → PBytes) (hfresh : ∀ x, (keep x).origin = .fresh) (cfg : Cfg)
    (mtu : Nat) (s : PSt) (ns : List PBytes) : AllOwned (pRun keep cfg mtu s ns).1 := by
  induction ns generalizing s with
  | nil => simp [pRun, owned_pFlush keep hfresh]
  | cons n ns ih => simp [pRun, owned_pStep keep hfresh, ih]

theorem forget_pPayloadG (keep : PBytes → PBytes) (hk : ∀ x, (keep x).bytes = x.bytes) (cfg : Cfg)
    (mtu donl : UInt16) (i : Nat) (input : Option Bytes) :
    (forgetAll (pPayloadG keep cfg mtu donl i input).1, (pPayloadG keep cfg mtu donl i input).2) =
      payload cfg mtu donl input := by
  unfold pPayloadG payload
  dsimp only
  split
  · rfl
  · have := forget_pRun keep hk cfg mtu.toNat { buf := [], agg := 0, donl := donl }
      (pEmitNalus (PBytes.ofInput i (input.getD [])))
    rw [forgetAll_pEmitNalus] at this
    exact this

theorem owned_pPayloadG (keep : PBytes → PBytes) (hfresh : ∀ x, (keep x).origin = .fresh) (cfg : Cfg)
    (mtu donl : UInt16) (i : Nat) (input : Option Bytes) :
    AllOwned (pPayloadG keep cfg mtu donl i input).1 := by
  unfold pPayloadG
  dsimp only
  split
  · simp
  · exact owned_pRun keep hfresh cfg _ _ _

theorem forget_pPayloadHistG (keep : PBytes → PBytes) (hk : ∀ x, (keep x).bytes = x.bytes) (cfg : Cfg)
    (donl : UInt16) (i : Nat) (calls : List (UInt16 × Option Bytes)) :
    (pPayloadHistG keep cfg donl i calls).map forgetAll = payloadHist cfg donl calls := by
  induction calls generalizing donl i with
  | nil => rfl
  | cons c cs ih =>
    obtain ⟨m, inp⟩ := c
    have h1 := forget_pPayloadG keep hk cfg m donl i inp
    simp only [Prod.ext_iff] at h1
    simp only [pPayloadHistG, payloadHist, List.map_cons, ih, h1.1, h1.2]

theorem owned_pPayloadHistG (keep : PBytes → PBytes) (hfresh : ∀ x, (keep x).origin = .fresh) (cfg : Cfg)
    (donl : UInt16) (i : Nat) (calls : List (UInt16 × Option Bytes)) :
    ∀ o ∈ pPayloadHistG keep cfg donl i calls, AllOwned o := by
  induction calls generalizing donl i with
  | nil => simp [pPayloadHistG]
  | cons c cs ih =>
    obtain ⟨m, inp⟩ := c
    simp only [pPayloadHistG, List.mem_cons, forall_eq_or_imp]
    exact ⟨owned_pPayloadG keep hfresh cfg m donl i inp, ih _ _⟩

end Rtp.Proofs.ProvH265
