/-
  Rtp/Proofs/VP8Own.lean — lemmas behind the VP8 parts of C08 (fragment sizes for every payloader
  state) and C09 (VP8Packet.Unmarshal never panics; its result, and on success the whole receiver,
  do not depend on what the receiver held before).
-/
import Rtp.Proofs.VP8Pay
namespace Rtp.Proofs.VP8
open Rtp Rtp.Model Rtp.Pred Rtp.Proofs.Vpx

theorem hdr_length (st : VP8Pay) (first : Bool) : (vp8Hdr st first).length = vp8HdrSize st := by
  unfold vp8Hdr vp8HdrSize
  cases st.enablePictureID <;> simp
  split <;> simp

theorem frags_mem (st : VP8Pay) (cs : List Bytes) : ∀ f ∈ vp8Frags st cs,
    ∃ c ∈ cs, f.length = vp8HdrSize st + c.length := by
  intro f hf
  cases cs with
  | nil => simp [vp8Frags] at hf
  | cons c cs =>
    simp only [vp8Frags, List.mem_cons, List.mem_map] at hf
    rcases hf with rfl | ⟨c', hc', rfl⟩
    · exact ⟨c, List.mem_cons_self, by simp [hdr_length]⟩
    · exact ⟨c', List.mem_cons_of_mem _ hc', by simp [hdr_length]⟩

theorem hdrSize_pos (st : VP8Pay) : 0 < vp8HdrSize st := by
  unfold vp8HdrSize; split <;> (try split) <;> omega

theorem payload_frag (st : VP8Pay) (mtu : UInt16) (i : Option Bytes) :
    ∀ f ∈ (vp8Payload st mtu i).1, f.length ≤ mtu.toNat ∧ f ≠ [] := by
  intro f hf
  unfold vp8Payload at hf
  simp only at hf
  split at hf
  · simp at hf
  · rename_i hc
    simp only [Bool.or_eq_true, decide_eq_true_eq, not_or, Nat.not_le] at hc
    obtain ⟨c, hc', hl⟩ := frags_mem st _ f hf
    have := (chunks_mem (mtu.toNat - vp8HdrSize st) (by omega) (i.getD []) c hc').2
    have hp := hdrSize_pos st
    constructor
    · omega
    · intro h; rw [h] at hl; simp at hl; omega

theorem histOk_vp8 : ∀ (calls : List (UInt16 × Option Bytes)) (st : VP8Pay),
    C08.histOk false calls ((vp8PayloadHist st calls).map PayObs.ofFrags) = true := by
  intro calls
  induction calls with
  | nil => intro st; rfl
  | cons call cs ih =>
    intro st
    obtain ⟨m, i⟩ := call
    simp only [vp8PayloadHist, List.map_cons, C08.histOk, ih, Bool.and_true]
    exact C08.callOk_frags m i _ (payload_frag st m i)

theorem unmarshal_nopanic (p : VP8Packet) (i : Option Bytes) : (vp8Unmarshal p i).1 ≠ .panic := by
  unfold vp8Unmarshal
  split
  · simp
  · simp
  · simp only
    split <;> simp

/-! Reuse.  Each stage of `steps` reads only fields that the first octet or an earlier stage has written,
    and the last stage overwrites what is left.  `Keep0 p q`: the receivers agree on the fields of the first
    octet; `Keep1` … `Keep3`: also on those written by `vp8StepX`, `vp8StepI`, `vp8StepL`. -/

def Keep0 (p q : VP8Packet) : Prop := p.X = q.X ∧ p.N = q.N ∧ p.S = q.S ∧ p.PID = q.PID
def Keep1 (p q : VP8Packet) : Prop := Keep0 p q ∧ p.I = q.I ∧ p.L = q.L ∧ p.T = q.T ∧ p.K = q.K
def Keep2 (p q : VP8Packet) : Prop := Keep1 p q ∧ p.PictureID = q.PictureID
def Keep3 (p q : VP8Packet) : Prop := Keep2 p q ∧ p.TL0PICIDX = q.TL0PICIDX

/-- step `f` maps receivers related by `A` to the same outcome and, on success, receivers related by `B` -/
def Pres (A B : VP8Packet → VP8Packet → Prop) (f : VP8Step) : Prop :=
  ∀ p q r, A p q → (f p r).1 = (f q r).1 ∧ ((f p r).1.isSome → B (f p r).2 (f q r).2)

theorem Pres.andThen {A B C : VP8Packet → VP8Packet → Prop} {f g : VP8Step}
    (hf : Pres A B f) (hg : Pres B C g) : Pres A C (f.andThen g) := by
  intro p q r hA
  obtain ⟨h1, h2⟩ := hf p q r hA
  simp only [VP8Step.andThen]
  cases hfp : f p r with
  | mk o p' =>
    cases hfq : f q r with
    | mk o' q' =>
      rw [hfp, hfq] at h1 h2
      simp only at h1 h2
      subst h1
      cases o with
      | none => simp
      | some r' => exact hg p' q' r' (h2 rfl)

theorem pres_X : Pres Keep0 Keep1 vp8StepX := by
  intro p q r h
  obtain ⟨hX, hN, hS, hP⟩ := h
  unfold vp8StepX
  rw [hX]
  split
  · cases r <;> simp [Keep1, Keep0, hX, hN, hS, hP]
  · simp [Keep1, Keep0, hN, hS, hP]

theorem pres_I : Pres Keep1 Keep2 vp8StepI := by
  intro p q r h
  obtain ⟨⟨hX, hN, hS, hP⟩, hI, hL, hT, hK⟩ := h
  unfold vp8StepI
  rw [hI]
  split
  · match r with
    | [] => simp
    | [b] => by_cases hb : b &&& 0x80 > 0 <;> simp [hb, Keep2, Keep1, Keep0, hX, hN, hS, hP, hI, hL, hT, hK]
    | b :: c :: r' => by_cases hb : b &&& 0x80 > 0 <;> simp [hb, Keep2, Keep1, Keep0, hX, hN, hS, hP, hL, hT, hK]
  · simp [Keep2, Keep1, Keep0, hX, hN, hS, hP, hL, hT, hK]

theorem pres_L : Pres Keep2 Keep3 vp8StepL := by
  intro p q r h
  obtain ⟨⟨⟨hX, hN, hS, hP⟩, hI, hL, hT, hK⟩, hPic⟩ := h
  unfold vp8StepL
  rw [hL]
  split
  · cases r <;> simp [Keep3, Keep2, Keep1, Keep0, hX, hN, hS, hP, hI, hL, hT, hK, hPic]
  · simp [Keep3, Keep2, Keep1, Keep0, hX, hN, hS, hP, hI, hT, hK, hPic]

theorem pres_TK : Pres Keep3 (fun p q => p = q) vp8StepTK := by
  intro p q r h
  obtain ⟨⟨⟨⟨hX, hN, hS, hP⟩, hI, hL, hT, hK⟩, hPic⟩, hTl⟩ := h
  -- the receivers differ at most in TID, Y, KEYIDX, which this stage assigns without reading them
  cases p; cases q
  simp only at hX hN hS hP hI hL hT hK hPic hTl
  subst hX hN hS hP hI hL hT hK hPic hTl
  unfold vp8StepTK
  dsimp only
  split
  · cases r with
    | nil => exact ⟨rfl, fun h => nomatch h⟩
    | cons b r' =>
      refine ⟨rfl, fun _ => ?_⟩
      dsimp only
      split <;> rfl
  · exact ⟨rfl, fun _ => rfl⟩

theorem pres_steps : Pres Keep0 (fun p q => p = q) steps :=
  pres_X.andThen (pres_I.andThen (pres_L.andThen pres_TK))

theorem unmarshal_reuse (p q : VP8Packet) (i : Option Bytes) :
    (vp8Unmarshal p i).1 = (vp8Unmarshal q i).1 ∧
    ((vp8Unmarshal p i).1.isOk = true → (vp8Unmarshal p i).2 = (vp8Unmarshal q i).2) := by
  match i with
  | none => exact ⟨rfl, fun h => nomatch h⟩
  | some [] => exact ⟨rfl, fun h => nomatch h⟩
  | some (b0 :: r) =>
    have h := pres_steps (firstOctet b0 p) (firstOctet b0 q) r ⟨rfl, rfl, rfl, rfl⟩
    rw [unmarshal_cons, unmarshal_cons]
    generalize steps (firstOctet b0 p) r = rp at h ⊢
    generalize steps (firstOctet b0 q) r = rq at h ⊢
    obtain ⟨o1, p1⟩ := rp
    obtain ⟨o2, p2⟩ := rq
    obtain ⟨h1, h2⟩ := h
    cases h1
    cases o1 with
    | none => exact ⟨rfl, fun h => nomatch h⟩
    | some r' => exact ⟨rfl, fun _ => h2 rfl⟩

theorem obsDep_ok : ∀ (is : List (Option Bytes)) (p : VP8Packet),
    C09.histOk true (C11.obsDep p is) = true := by
  intro is
  induction is with
  | nil => intro p; rfl
  | cons i is ih =>
    intro p
    simp only [C09.histOk, C11.obsDep, List.all_cons, Bool.and_eq_true] at ih ⊢
    exact ⟨C09.callOk_dep (vp8Unmarshal p i) (vp8Unmarshal {} i) _ _ _ (unmarshal_nopanic p i) (unmarshal_reuse p {} i), ih _⟩

end Rtp.Proofs.VP8
