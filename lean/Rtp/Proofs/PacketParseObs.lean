/-
  Rtp/Proofs/PacketParseObs.lean — from the parser lemmas (PacketParse.lean) to the observation level
  of Rtp/Pred/C02.lean: the model's observation does not depend on the receiver, and it satisfies
  the executable predicate.
-/
import Rtp.Proofs.PacketParse
namespace Rtp.Proofs.PacketParse
open Rtp Rtp.Model Rtp.Pred.C02 Rtp.Pred

theorem getExtension_withProfile (p : UInt16) (h : Header) : getExtension (withProfile p h) = getExtension h := by
  funext id; simp only [getExtension, withProfile_exts, withProfile_extension]

theorem mkHdrOk_withProfile (p : UInt16) (h : Header) (n : Nat) (locs : List Nat) :
    mkHdrOk (withProfile p h, n, locs) = mkHdrOk (h, n, locs) := by
  simp only [mkHdrOk, canonH_withProfile, getExtensionIDs, withProfile_exts, withProfile_extension,
    getExtension_withProfile]

theorem mkPktOk_withProfile (pr : UInt16) (p : Packet) (n : Nat) (locs : List Nat) :
    mkPktOk ({ p with header := withProfile pr p.header }, n, locs) = mkPktOk (p, n, locs) := by
  simp only [mkPktOk, C01.canonP, canonH_withProfile, getExtensionIDs, withProfile_exts, withProfile_extension,
    getExtension_withProfile]

/-- the whole observation of a receiver pair equals that of zero-valued receivers -/
theorem modelRecv_receiver (rh : Header) (rp : Packet) (buf : Bytes) :
    modelRecv rh rp buf = modelRecv {} {} buf := by
  unfold modelRecv
  rw [hdrUnmarshalL_receiver rh buf, pktUnmarshalL_receiver rp buf]
  congr 1
  · cases hdrUnmarshalL {} buf with
    | err e => rfl
    | panic => rfl
    | ok x => obtain ⟨h, n, locs⟩ := x; simp only [Res.map, Res.coarse, mkHdrOk_withProfile]
  · cases pktUnmarshalL {} buf with
    | err e => rfl
    | panic => rfl
    | ok x => obtain ⟨p, n, locs⟩ := x; simp only [Res.map, Res.coarse, mkPktOk_withProfile]

theorem locsOk_of_located (buf : Bytes) (n : Nat) :
    ∀ (exts : List Ext) (locs : List Nat), locs.length = exts.length →
      (∀ x ∈ exts.zip locs, LocIn buf 16 n x) → locsOk buf n exts (canonLocs exts locs) = true := by
  intro exts
  induction exts with
  | nil => intro locs hl _; cases locs <;> simp_all [canonLocs, locsOk]
  | cons e es ih =>
    intro locs hl h
    cases locs with
    | nil => simp at hl
    | cons o os =>
      have he := h (e, o) (by simp)
      have hrest := ih os (by simpa using hl) (fun x hx => h x (by simp [hx]))
      obtain ⟨_, h2, h3⟩ := he
      simp only [canonLocs, locsOk, hrest, Bool.and_true, canonLoc]
      by_cases hz : e.payload.length = 0
      · have : e.payload = [] := List.eq_nil_of_length_eq_zero hz
        simp [this]
      · simp only [hz, if_false, Bool.or_eq_true, Bool.and_eq_true, decide_eq_true_eq, beq_iff_eq]
        right
        simp only [Int.toNat_natCast]
        exact ⟨⟨Int.natCast_nonneg _, h2⟩, h3⟩

theorem canonH_exts (h : Header) : (C01.canonH h).exts = h.exts := by
  unfold C01.canonH; split <;> rfl

theorem hdrHolds_model (r : Header) (buf : Bytes) :
    hdrHolds buf ((hdrUnmarshalL r buf).map mkHdrOk).coarse = true := by
  cases hh : hdrUnmarshalL r buf with
  | err e => rfl
  | panic =>
    have := hdrUnmarshal_ne_panic r buf
    rw [← hdrUnmarshalL_fst, hh] at this
    exact absurd rfl this
  | ok x =>
    obtain ⟨h, n, locs⟩ := x
    obtain ⟨_, h2, h3, h4, _⟩ := hdrUnmarshalL_bounds r buf h n locs hh
    simp only [Res.map, Res.coarse, hdrHolds, mkHdrOk, canonH_exts, Bool.and_eq_true, decide_eq_true_eq]
    exact ⟨h2, locsOk_of_located buf n h.exts locs h3 h4⟩

theorem recvHolds_model (rh : Header) (rp : Packet) (hr : rp.header = rh) (buf : Bytes) :
    recvHolds buf (modelRecv rh rp buf) = true := by
  simp only [recvHolds, modelRecv, hdrHolds_model, Bool.true_and]
  cases hp : pktUnmarshalL rp buf with
  | err e => rfl
  | panic =>
    have := pktUnmarshal_ne_panic rp buf
    rw [← pktUnmarshalL_fst, hp] at this
    exact absurd rfl this
  | ok x =>
    obtain ⟨p, n, locs⟩ := x
    obtain ⟨hh, hsum, hpay⟩ := pktUnmarshalL_bounds rp buf p n locs hp
    rw [hr] at hh
    obtain ⟨_, _, h3, h4, _⟩ := hdrUnmarshalL_bounds rh buf p.header n locs hh
    simp only [hh, Res.map, Res.coarse, pktHolds, mkHdrOk, mkPktOk, C01.canonP, canonH_exts,
      Bool.and_eq_true, beq_iff_eq, Bool.or_eq_true]
    refine ⟨⟨⟨hsum, hpay⟩, ?_⟩, locsOk_of_located buf n p.header.exts locs h3 h4⟩
    by_cases hz : p.payload.length = 0
    · left; simp [List.eq_nil_of_length_eq_zero hz]
    · right; simp [canonLoc, hz]

end Rtp.Proofs.PacketParse
