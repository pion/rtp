/-
  The deprecated receive path (AV1Packet.Unmarshal + frame.AV1.ReadFrames) on what well-shaped
  packets encode to (receive side of C13).
-/
import Rtp.Proofs.AV1Abs
import Rtp.Proofs.AV1Packet
namespace Rtp.Model.AV1
open Rtp Rtp.Model Rtp.Spec.Av1Rtp
namespace FramesRT

theorem parseBodyLoop_lenPrefixed (w : UInt8) (f i : Nat) (e rest : Bytes) (acc : List Bytes)
    (hl : (w != 0 && i == w.toNat) = false) (he : e.length < 2 ^ 56) :
    parseBodyLoop w (f + 1) i (lenPrefixed e ++ rest) acc = parseBodyLoop w f (i + 1) rest (e :: acc) := by
  have hlt : ¬ (e ++ rest).length < e.length := by simp
  rw [parseBodyLoop, isEmpty_lenPrefixed_append, hl]
  simp only [Bool.false_eq_true, if_false, readLebGo_lenPrefixed e rest he, drop_lenPrefixed,
    toNat_toUInt64_of_lt (show e.length < 2 ^ 64 by omega), hlt, List.take_left', List.drop_left']

theorem parseBodyLoop_step (w : UInt8) (f i : Nat) (e : Bytes) (es : List Bytes) (acc : List Bytes)
    (hw : w = 0 ∨ i + es.length = w.toNat) (hne : e ≠ []) (he : e.length < 2 ^ 56) :
    parseBodyLoop w (f + 1) i (encElems (w != 0) (e :: es)) acc =
      parseBodyLoop w f (i + 1) (encElems (w != 0) es) (e :: acc) := by
  cases es with
  | nil =>
    by_cases h0 : w = 0
    · have := parseBodyLoop_lenPrefixed w f i e [] acc (by simp [h0]) he
      simpa [encElems, h0] using this
    · have hi : i = w.toNat := by simpa using hw.resolve_left h0
      rw [parseBodyLoop]
      simp [encElems, h0, hi, hne]
  | cons e' es =>
    rw [encElems_cons_cons]
    refine parseBodyLoop_lenPrefixed w f i e _ acc ?_ he
    rcases hw with h | h
    · simp [h]
    · have : i ≠ w.toNat := by simp only [List.length_cons] at h; omega
      simp [this]

theorem parseBodyLoop_encElems (w : UInt8) (es : List Bytes) :
    ∀ (fuel i : Nat) (acc : List Bytes), es.length ≤ fuel →
    (w = 0 ∨ i + es.length = w.toNat + 1) →
    (∀ e ∈ es, e ≠ [] ∧ e.length < 2 ^ 56) →
    parseBodyLoop w fuel i (encElems (w != 0) es) acc = .ok (acc.reverse ++ es) := by
  induction es with
  | nil => intro fuel i acc _ _ _; cases fuel <;> simp [parseBodyLoop, encElems]
  | cons e es ih =>
    intro fuel i acc hfuel hw hel
    obtain ⟨f, rfl⟩ : ∃ f, fuel = f + 1 := ⟨fuel - 1, by simp only [List.length_cons] at hfuel; omega⟩
    simp only [List.length_cons] at hfuel hw
    obtain ⟨hne, he⟩ := hel e (by simp)
    rw [parseBodyLoop_step w f i e es acc (hw.imp id fun h => by omega) hne he,
      ih f (i + 1) (e :: acc) (by omega) (hw.imp id fun h => by omega)
        (fun x hx => hel x (List.mem_cons_of_mem _ hx))]
    simp

/-- parseBody counts its elements from 1, AV1Depacketizer's loop from 0 -/
theorem parseBodyLoop_body (p : Pk) (hg : PkGood p) :
    parseBodyLoop p.w.toUInt8 (p.body.length + 1) 1 p.body [] = .ok p.elems := by
  have hb := toUInt8_w p.w hg.shape.w_le
  have hlen := encElems_length (p.w != 0) p.elems hg.nonempty
  rw [Pk.body_eq hg.shape, ← hb.2, parseBodyLoop_encElems _ p.elems _ 1 []
    (by rw [hb.2]; omega)
    (by
      rw [hb.1]
      rcases hg.shape.w_eq with h | h
      · exact Or.inl (by rw [h]; rfl)
      · exact Or.inr (by omega))
    (fun e he => ⟨hg.nonempty e he, hg.small e he⟩)]
  rfl

theorem pktUnmarshal_encode (p : Pk) (hg : PkGood p) :
    pktUnmarshal {} (some p.encode) =
      (.ok p.body, { z := p.z, y := p.y, w := p.w.toUInt8, n := p.n, elems := some p.elems }) := by
  have hb := (aggHeader_bits p.z p.y p.n p.w hg.shape.w_le).2.2
  have hloop := parseBodyLoop_body p hg
  have hnz : (p.z && p.n) = false := by
    have := hg.nz
    cases hz : p.z <;> cases hn : p.n <;> simp_all
  unfold Pk.encode
  cases hbd : p.body with
  | nil => exact absurd hbd (Pk.body_ne_nil hg)
  | cons c cs =>
    rw [hbd] at hloop
    simp only [pktUnmarshal, hb.1, hb.2.1, hb.2.2.1, hb.2.2.2, hnz, hloop]
    simp

theorem viewOf_encode (p : Pk) (hg : PkGood p) :
    viewOf p.encode = .ok { z := p.z, y := p.y, w := p.w, n := p.n, elems := p.elems } := by
  unfold viewOf
  rw [pktUnmarshal_encode p hg]
  simp [(toUInt8_w p.w hg.shape.w_le).1]

/-- `obuBuffer` is non-empty exactly when the packet announces a continuation: ReadFrames then
    returns what one packet contributes -/
theorem readFrames_pktUnits (buf : Bytes) (p : Pk) (hg : PkGood p) (hz : p.z = !buf.isEmpty) :
    readFrames buf p.z p.y p.elems = pktUnits buf p := by
  cases hel : p.elems with
  | nil => exact absurd hel hg.ne
  | cons e es =>
    rw [pktUnits_cons hel, hz]
    cases buf <;> cases p.y <;> simp [readFrames, rfSpec]

theorem framesOf_units (pks : List Pk) (hgood : ∀ p ∈ pks, PkGood p) :
    ∀ buf : Bytes, zyChain (!buf.isEmpty) (pks.map Pk.toPacket) = true →
    framesOf buf (pks.map Pk.encode) = feedUnits buf pks := by
  induction pks with
  | nil => intro _ _; rfl
  | cons p ps ih =>
    intro buf hchain
    have hg := hgood p (by simp)
    simp only [List.map_cons, zyChain, Bool.and_eq_true, beq_iff_eq] at hchain
    simp only [List.map_cons, framesOf, pktUnmarshal_encode p hg, Option.getD_some,
      readFrames_pktUnits buf p hg hchain.1, feedUnits]
    rw [ih (fun q hq => hgood q (List.mem_cons_of_mem _ hq)) _
      (by rw [pktUnits_open _ hg]; exact hchain.2)]

/-- One frame.AV1 assembler over the encodings of well-shaped, Z/Y-chained packets returns,
    all in all, exactly the OBUs the packets denote. -/
theorem framesOf_encode (pks : List Pk)
    (hgood : ∀ p ∈ pks, PkGood p)
    (hchain : zyChain false (pks.map Pk.toPacket) = true) :
    (framesOf [] (pks.map Pk.encode)).flatten = (units (pks.map Pk.toPacket)).map (·.bytes) := by
  rw [framesOf_units pks hgood [] hchain]
  exact feedUnits_units pks hgood 0 none (fun u h => by cases h) hchain

end FramesRT
end Rtp.Model.AV1
