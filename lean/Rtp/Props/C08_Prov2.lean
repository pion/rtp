/-
  Rtp/Props/C08_Prov2.lean — C08 "payloaders neither modify nor retain the input: returned
  fragments and any state kept for later calls are owned copies", at the provenance level, for the
  payloaders Props/C08_Prov.lean does not cover: G711, G722, Opus, VP8, VP9, AV1.

  As there, each payloader is transcribed once more over `PBytes` (contents + origin of the backing
  array, Rtp/Model/Prov.lean; Rtp/Model/ProvAudio.lean, ProvVPx.lean, ProvAV1Pay.lean) and for each
  it is proved that
    (i)   PROJECTION: forgetting the origins gives exactly the value-level model the `c08.*` kinds
          run (fragments, and the picture-id state of VP8/VP9), for one call and for any history;
    (ii)  OWNERSHIP: every returned fragment is `fresh`, for all inputs (nil included), MTUs,
          flags, states and histories; the retained state holds no slice at all (G711, G722, Opus
          and AV1 payloaders have no field; VP8/VP9 keep numbers and flags — this is visible in the
          types: the state is the value-level `VP8Pay` / `VP9Pay`);
    (iii) the layer is not blind: the same transcription with ONE operation changed computes the
          same values but hands out the caller's array.  For G711/G722/Opus the changed operation
          is the copy (`out = append(out, payload[:mtu])`, `[][]byte{payload}`).  Every VP8, VP9
          and AV1 fragment starts with descriptor bytes the input does not contain, so no variant
          can return a sub-slice of the input with the same values; the variant there builds the
          fragment in the spare capacity of the caller's array
          (`out := append(payload[len(payload):], …)` instead of `make`).
  "Does not modify the input" is not part of this layer (there is no store into a `PBytes` except
  `pOrHdr`, which the AV1 transcription applies to packets only — and those are proved fresh).
-/
import Rtp.Proofs.ProvAudio
import Rtp.Proofs.ProvVPx
import Rtp.Proofs.ProvAV1Pay
import Rtp.Proofs.AV1PaySim
import Rtp.Proofs.AV1PayIdx
namespace Rtp.Props.C08.Prov2
open Rtp Rtp.Model Rtp.Model.Prov

/-! ### G711Payloader, G722Payloader (identical bodies; no field) -/
section G711
open Rtp.Model.ProvAudio Rtp.Proofs.ProvAudio

/-- (i) projection, one call: every MTU, call number and input (`none` = nil) -/
theorem c08_prov_g711_projection (mtu : UInt16) (i : Nat) (payload : Option Bytes) :
    forgetAll (provG711Payload mtu i payload) = g711Payload mtu payload :=
  forget_pG711PayloadG PBytes.copy (fun _ => rfl) mtu i payload

/-- (i) projection, a whole history: the fragment lists the `c08.g711` / `c08.g722` handler wraps in `PayObs.ofFrags` -/
theorem c08_prov_g711_history_projection (i : Nat) (calls : List (UInt16 × Option Bytes)) :
    (runProvG711 i calls).map forgetAll = calls.map (fun c => g711Payload c.1 c.2) :=
  forget_pHistStateless _ _ c08_prov_g711_projection i calls

theorem c08_prov_g711_owned (mtu : UInt16) (i : Nat) (payload : Option Bytes) :
    AllOwned (provG711Payload mtu i payload) :=
  from_pG711PayloadG PBytes.copy .fresh mtu i (fun _ _ => rfl) payload

theorem c08_prov_g711_history (i : Nat) (calls : List (UInt16 × Option Bytes)) :
    ∀ o ∈ runProvG711 i calls, AllOwned o :=
  owned_pHistStateless _ c08_prov_g711_owned i calls

/-- (iii) `out = append(out, payload[:mtu])` computes the same VALUES … -/
theorem c08_prov_g711_alias_projection (mtu : UInt16) (i : Nat) (payload : Option Bytes) :
    forgetAll (provG711PayloadAlias mtu i payload) = g711Payload mtu payload :=
  forget_pG711PayloadG id (fun _ => rfl) mtu i payload

/-- … but every fragment it returns is a view of the caller's buffer, for every input -/
theorem c08_prov_g711_alias_fragments (mtu : UInt16) (i : Nat) (payload : Option Bytes) :
    ∀ x ∈ provG711PayloadAlias mtu i payload, x.origin = .input i :=
  from_pG711PayloadG id (.input i) mtu i (fun _ h => h) payload

/-- (iii) a witness: five bytes at MTU 2 in call 4 -/
theorem c08_prov_g711_alias_witness :
    provG711PayloadAlias 2 4 (some [1, 2, 3, 4, 5]) =
      [⟨[1, 2], .input 4⟩, ⟨[3, 4], .input 4⟩, ⟨[5], .input 4⟩] ∧
    ¬ AllOwned (provG711PayloadAlias 2 4 (some [1, 2, 3, 4, 5])) := by
  refine ⟨by simp [provG711PayloadAlias, pG711PayloadG, pSplitGt, PBytes.ofInput, PBytes.take, PBytes.drop], ?_⟩
  intro h
  have := h ⟨[1, 2], .input 4⟩
    (by simp [provG711PayloadAlias, pG711PayloadG, pSplitGt, PBytes.ofInput, PBytes.take, PBytes.drop])
  cases this

/-- the code as it is on the same call: the same bytes in new arrays -/
example : provG711Payload 2 4 (some [1, 2, 3, 4, 5]) =
    [⟨[1, 2], .fresh⟩, ⟨[3, 4], .fresh⟩, ⟨[5], .fresh⟩] := by
  simp [provG711Payload, pG711PayloadG, pSplitGt, PBytes.ofInput, PBytes.take, PBytes.drop, PBytes.copy]

/-- non-vacuity: a history with a nil input, an MTU of 0 and an empty (non-nil) input -/
example : runProvG711 0 [(3, none), (0, some [1]), (3, some [])] = [[], [], [⟨[], .fresh⟩]] := by
  simp [runProvG711, pHistStateless, provG711Payload, pG711PayloadG, pSplitGt, PBytes.ofInput, PBytes.copy]

end G711

/-! ### OpusPayloader (no field; the MTU is ignored) -/
section Opus
open Rtp.Model.ProvAudio Rtp.Proofs.ProvAudio

theorem c08_prov_opus_projection (mtu : UInt16) (i : Nat) (payload : Option Bytes) :
    forgetAll (provOpusPayload mtu i payload) = opusPayload mtu payload :=
  forget_pOpusPayloadG PBytes.copy (fun _ => rfl) mtu i payload

theorem c08_prov_opus_history_projection (i : Nat) (calls : List (UInt16 × Option Bytes)) :
    (runProvOpus i calls).map forgetAll = calls.map (fun c => opusPayload c.1 c.2) :=
  forget_pHistStateless _ _ c08_prov_opus_projection i calls

theorem c08_prov_opus_owned (mtu : UInt16) (i : Nat) (payload : Option Bytes) :
    AllOwned (provOpusPayload mtu i payload) :=
  owned_pOpusPayloadG PBytes.copy (fun _ => rfl) mtu i payload

theorem c08_prov_opus_history (i : Nat) (calls : List (UInt16 × Option Bytes)) :
    ∀ o ∈ runProvOpus i calls, AllOwned o :=
  owned_pHistStateless _ c08_prov_opus_owned i calls

/-- (iii) `return [][]byte{payload}` computes the same values … -/
theorem c08_prov_opus_alias_projection (mtu : UInt16) (i : Nat) (payload : Option Bytes) :
    forgetAll (provOpusPayloadAlias mtu i payload) = opusPayload mtu payload :=
  forget_pOpusPayloadG id (fun _ => rfl) mtu i payload

/-- … but returns the caller's buffer itself -/
theorem c08_prov_opus_alias_witness :
    provOpusPayloadAlias 1200 7 (some [0xFC, 1, 2]) = [⟨[0xFC, 1, 2], .input 7⟩] ∧
    ¬ AllOwned (provOpusPayloadAlias 1200 7 (some [0xFC, 1, 2])) := by
  decide

example : provOpusPayload 1200 7 (some [0xFC, 1, 2]) = [⟨[0xFC, 1, 2], .fresh⟩] := by decide

/-- non-vacuity: nil gives no fragment, the empty input one empty fragment in a new array -/
example : runProvOpus 0 [(5, none), (5, some [])] = [[], [⟨[], .fresh⟩]] := by decide

end Opus

/-! ### VP8Payloader (state: `EnablePictureID`, `pictureID` — no slice) -/
section VP8
open Rtp.Model.ProvVPx Rtp.Proofs.ProvVPx

/-- (i) projection, one call: fragments and the receiver afterwards, for every state, MTU, call
    number and input -/
theorem c08_prov_vp8_projection (st : VP8Pay) (mtu : UInt16) (i : Nat) (payload : Option Bytes) :
    (forgetAll (provVp8Payload st mtu i payload).1, (provVp8Payload st mtu i payload).2) =
      vp8Payload st mtu payload :=
  forget_pVp8PayloadG allocMake bytes_allocMake st mtu i payload

/-- (i) projection, a whole history: the fragment lists the `c08.vp8` handler (`C11.obsPay`) wraps in `PayObs.ofFrags` -/
theorem c08_prov_vp8_history_projection (st : VP8Pay) (i : Nat) (calls : List (UInt16 × Option Bytes)) :
    (runProvVp8 st i calls).map forgetAll = vp8PayloadHist st calls :=
  forget_pVp8HistG allocMake bytes_allocMake st i calls

/-- (ii) ownership, one call; the second component of the result is a `VP8Pay`: a flag and a
    number, no slice is retained -/
theorem c08_prov_vp8_owned (st : VP8Pay) (mtu : UInt16) (i : Nat) (payload : Option Bytes) :
    AllOwned (provVp8Payload st mtu i payload).1 :=
  allFrom_fresh (from_pVp8PayloadG allocMake .fresh st mtu i payload (fun _ => rfl))

theorem c08_prov_vp8_history (st : VP8Pay) (i : Nat) (calls : List (UInt16 × Option Bytes)) :
    ∀ o ∈ runProvVp8 st i calls, AllOwned o :=
  owned_pVp8HistG allocMake origin_allocMake st i calls

/-- (iii) building `out` behind the caller's bytes computes the same values and state … -/
theorem c08_prov_vp8_alias_projection (st : VP8Pay) (mtu : UInt16) (i : Nat) (payload : Option Bytes) :
    (forgetAll (provVp8PayloadAlias st mtu i payload).1, (provVp8PayloadAlias st mtu i payload).2) =
      vp8Payload st mtu payload :=
  forget_pVp8PayloadG allocInSpare bytes_allocInSpare st mtu i payload

/-- … but every fragment lives in the caller's array, for every input -/
theorem c08_prov_vp8_alias_fragments (st : VP8Pay) (mtu : UInt16) (i : Nat) (payload : Option Bytes) :
    ∀ x ∈ (provVp8PayloadAlias st mtu i payload).1, x.origin = .input i :=
  from_pVp8PayloadG allocInSpare (.input i) st mtu i payload (fun _ => rfl)

/-- (iii) a witness: three bytes at MTU 3 (one descriptor byte) in call 1 -/
theorem c08_prov_vp8_alias_witness :
    (provVp8PayloadAlias { enablePictureID := false } 3 1 (some [0xA, 0xB, 0xC])).1 =
      [⟨[0x10, 0xA, 0xB], .input 1⟩, ⟨[0x00, 0xC], .input 1⟩] ∧
    ¬ AllOwned (provVp8PayloadAlias { enablePictureID := false } 3 1 (some [0xA, 0xB, 0xC])).1 := by
  decide +kernel

/-- the code as it is on the same call -/
example : (provVp8Payload { enablePictureID := false } 3 1 (some [0xA, 0xB, 0xC])).1 =
    [⟨[0x10, 0xA, 0xB], .fresh⟩, ⟨[0x00, 0xC], .fresh⟩] := by decide +kernel

/-- non-vacuity: picture ids 127 and 128 (descriptor of 3, then 4 bytes), then an MTU too small -/
example : runProvVp8 { enablePictureID := true, pictureID := 127 } 0
      [(5, some [1, 2, 3]), (5, some [4]), (4, some [5])] =
    [[⟨[0x90, 0x80, 0x7F, 1, 2], .fresh⟩, ⟨[0x80, 0x80, 0x7F, 3], .fresh⟩],
     [⟨[0x90, 0x80, 0x80, 0x80, 4], .fresh⟩], []] := by decide +kernel

end VP8

/-! ### VP9Payloader (state: `FlexibleMode`, `InitialPictureIDFn`, `pictureID`, `initialized` — no slice) -/
section VP9
open Rtp.Model.ProvVPx Rtp.Proofs.ProvVPx

/-- (i) projection, one call (flexible and non-flexible mode) -/
theorem c08_prov_vp9_projection (st : VP9Pay) (mtu : UInt16) (i : Nat) (payload : Option Bytes) :
    (forgetAll (provVp9Payload st mtu i payload).1, (provVp9Payload st mtu i payload).2) =
      vp9Payload st mtu payload :=
  forget_pVp9PayloadG allocMake bytes_allocMake st mtu i payload

/-- (i) projection, a whole history: the fragment lists the `c08.vp9` handler (`C12.obsPay`) wraps in `PayObs.ofFrags` -/
theorem c08_prov_vp9_history_projection (st : VP9Pay) (i : Nat) (calls : List (UInt16 × Option Bytes)) :
    (runProvVp9 st i calls).map forgetAll = vp9PayloadHist st calls :=
  forget_pVp9HistG allocMake bytes_allocMake st i calls

/-- (ii) ownership, one call; the state is a `VP9Pay`: numbers and flags -/
theorem c08_prov_vp9_owned (st : VP9Pay) (mtu : UInt16) (i : Nat) (payload : Option Bytes) :
    AllOwned (provVp9Payload st mtu i payload).1 :=
  allFrom_fresh (from_pVp9PayloadG allocMake .fresh st mtu i payload (fun _ => rfl))

theorem c08_prov_vp9_history (st : VP9Pay) (i : Nat) (calls : List (UInt16 × Option Bytes)) :
    ∀ o ∈ runProvVp9 st i calls, AllOwned o :=
  owned_pVp9HistG allocMake origin_allocMake st i calls

theorem c08_prov_vp9_alias_projection (st : VP9Pay) (mtu : UInt16) (i : Nat) (payload : Option Bytes) :
    (forgetAll (provVp9PayloadAlias st mtu i payload).1, (provVp9PayloadAlias st mtu i payload).2) =
      vp9Payload st mtu payload :=
  forget_pVp9PayloadG allocInSpare bytes_allocInSpare st mtu i payload

theorem c08_prov_vp9_alias_fragments (st : VP9Pay) (mtu : UInt16) (i : Nat) (payload : Option Bytes) :
    ∀ x ∈ (provVp9PayloadAlias st mtu i payload).1, x.origin = .input i :=
  from_pVp9PayloadG allocInSpare (.input i) st mtu i payload (fun _ => rfl)

/-- (iii) a witness: flexible mode, three bytes at MTU 5 in call 2 -/
theorem c08_prov_vp9_alias_witness :
    (provVp9PayloadAlias { flexible := true, init := 0x1234 } 5 2 (some [0xA, 0xB, 0xC])).1 =
      [⟨[0x98, 0x92, 0x34, 0xA, 0xB], .input 2⟩, ⟨[0x94, 0x92, 0x34, 0xC], .input 2⟩] ∧
    ¬ AllOwned (provVp9PayloadAlias { flexible := true, init := 0x1234 } 5 2 (some [0xA, 0xB, 0xC])).1 := by
  decide +kernel

example : (provVp9Payload { flexible := true, init := 0x1234 } 5 2 (some [0xA, 0xB, 0xC])).1 =
    [⟨[0x98, 0x92, 0x34, 0xA, 0xB], .fresh⟩, ⟨[0x94, 0x92, 0x34, 0xC], .fresh⟩] := by decide +kernel

end VP9

/-! ### AV1Payloader (no field) -/
section AV1
open Rtp.Model.AV1P Rtp.Proofs.ProvAV1Pay Rtp.Model.ProvAudio Rtp.Proofs.ProvAudio
open Rtp.Proofs.ProvVPx (AllFrom allFrom_fresh)

/-- (i) projection, one call, onto the statement-by-statement byte model -/
theorem c08_prov_av1_projection_bytes (mtu : UInt16) (i : Nat) (payload : Option Bytes) :
    forgetAll (provPayload mtu i payload) = AV1B.payloadB mtu (payload.getD []) :=
  forget_pPayloadG allocMake bytes_allocMake mtu i payload

/-- (i) projection, one call, onto the record model the C08/C13 theorems are stated about and onto
    the index-checked model the `c08.av1` handler runs -/
theorem c08_prov_av1_projection (mtu : UInt16) (i : Nat) (payload : Option Bytes) :
    forgetAll (provPayload mtu i payload) = AV1.payload mtu (payload.getD []) ∧
    AV1B.payloadC mtu (payload.getD []) = some (forgetAll (provPayload mtu i payload)) := by
  rw [c08_prov_av1_projection_bytes, AV1B.payloadC_eq, AV1B.payloadB_eq]
  exact ⟨rfl, rfl⟩

theorem c08_prov_av1_history_projection (i : Nat) (calls : List (UInt16 × Option Bytes)) :
    (runProvPayload i calls).map forgetAll = calls.map (fun c => AV1.payload c.1 (c.2.getD [])) :=
  forget_pHistStateless _ _ (fun m i inp => (c08_prov_av1_projection m i inp).1) i calls

/-- (ii) ownership, one call: every packet is `make([]byte, 1, mtu)` plus stores and appends -/
theorem c08_prov_av1_owned (mtu : UInt16) (i : Nat) (payload : Option Bytes) :
    AllOwned (provPayload mtu i payload) :=
  allFrom_fresh (from_pPayloadG allocMake .fresh mtu i payload (fun _ => rfl))

theorem c08_prov_av1_history (i : Nat) (calls : List (UInt16 × Option Bytes)) :
    ∀ o ∈ runProvPayload i calls, AllOwned o :=
  owned_pHistStateless _ c08_prov_av1_owned i calls

/-- (iii) starting each packet behind the caller's bytes computes the same values … -/
theorem c08_prov_av1_alias_projection (mtu : UInt16) (i : Nat) (payload : Option Bytes) :
    forgetAll (provPayloadAlias mtu i payload) = AV1.payload mtu (payload.getD []) := by
  rw [← AV1B.payloadB_eq]
  exact forget_pPayloadG allocInSpare bytes_allocInSpare mtu i payload

/-- … but every packet lives in the caller's array, for every input -/
theorem c08_prov_av1_alias_fragments (mtu : UInt16) (i : Nat) (payload : Option Bytes) :
    ∀ x ∈ provPayloadAlias mtu i payload, x.origin = .input i :=
  from_pPayloadG allocInSpare (.input i) mtu i payload (fun _ => rfl)

/-- (iii) a witness: the two OBUs of the example in Props/C08_AV1.lean at MTU 5, in call 6 -/
theorem c08_prov_av1_alias_witness :
    provPayloadAlias 5 6 (some [0x32, 0x01, 0xAA, 0x30, 0x01, 0x02, 0x03, 0x04, 0x05]) =
      [⟨[0x60, 0x02, 0x30, 0xAA, 0x30], .input 6⟩, ⟨[0xD0, 0x01, 0x02, 0x03, 0x04], .input 6⟩,
       ⟨[0x90, 0x05], .input 6⟩] ∧
    ¬ AllOwned (provPayloadAlias 5 6 (some [0x32, 0x01, 0xAA, 0x30, 0x01, 0x02, 0x03, 0x04, 0x05])) := by
  decide +kernel

/-- the code as it is on the same call: aggregation, fragmentation with Y and Z stored into byte 0
    of packets that are already in the result — all in new arrays -/
example : provPayload 5 6 (some [0x32, 0x01, 0xAA, 0x30, 0x01, 0x02, 0x03, 0x04, 0x05]) =
    [⟨[0x60, 0x02, 0x30, 0xAA, 0x30], .fresh⟩, ⟨[0xD0, 0x01, 0x02, 0x03, 0x04], .fresh⟩,
     ⟨[0x90, 0x05], .fresh⟩] := by decide +kernel

/-- non-vacuity: nil, MTU 1 and a sequence header (N bit) in one history -/
example : runProvPayload 0 [(100, none), (1, some [0x0A, 0x01, 0xAA]), (100, some [0x0A, 0x01, 0xAA])] =
    [[], [], [⟨[0x18, 0x08, 0xAA], .fresh⟩]] := by decide +kernel

end AV1

end Rtp.Props.C08.Prov2
