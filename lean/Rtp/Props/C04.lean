/-
  Rtp/Props/C04.lean — C04: MarshalTo honours the destination buffer contract.
  The closed form of the write sequence is in Rtp/Proofs/PacketRtWrite.lean.

  All theorems quantify over EVERY destination (any length, any prior contents).
-/
import Rtp.Proofs.PacketRtHeader
import Rtp.Pred.C04
namespace Rtp.Props.C04
open Rtp Rtp.Model Rtp.Pred.C01 Rtp.Proofs.PacketRt

/-- Packet.MarshalTo, destination shorter than MarshalSize: short-buffer error (in particular no
    panic and no partial success), for every well-formed packet and every destination. -/
theorem c04_short (p : Packet) (hwf : wfP p = true) (dst : Bytes)
    (h : dst.length < pktMarshalSize p) : pktMarshalTo p dst = .err .shortBuffer :=
  pktMarshalTo_short p hwf dst h

/-- Packet.MarshalTo, sufficient destination: n = MarshalSize, the first n bytes are exactly what
    Marshal returns — whatever the destination held before — and the rest is untouched. -/
theorem c04_exact (p : Packet) (hwf : wfP p = true) (dst : Bytes)
    (h : pktMarshalSize p ≤ dst.length) :
    ∃ bs, pktMarshal p = .ok bs ∧ bs.length = pktMarshalSize p ∧
      pktMarshalTo p dst = .ok (bs ++ dst.drop (pktMarshalSize p), pktMarshalSize p) :=
  ⟨pktWire p, pktMarshal_wf p hwf, pktWire_length p hwf, pktMarshalTo_wf p hwf dst h⟩

/-- Header.MarshalTo, destination too short: short-buffer error — for every header, well-formed or not. -/
theorem c04_header_short (h : Header) (dst : Bytes) (hl : dst.length < hdrMarshalSize h) :
    hdrMarshalTo h dst = .err .shortBuffer :=
  hdrMarshalTo_short h dst hl

theorem c04_header_exact (h : Header) (hwf : wfH h = true) (dst : Bytes)
    (hl : hdrMarshalSize h ≤ dst.length) :
    ∃ bs, hdrMarshal h = .ok bs ∧ bs.length = hdrMarshalSize h ∧
      hdrMarshalTo h dst = .ok (bs ++ dst.drop (hdrMarshalSize h), hdrMarshalSize h) :=
  ⟨hdrWire h, hdrMarshal_wf h hwf, hdrWire_length h hwf, hdrMarshalTo_wf h hwf dst hl⟩

theorem c04_length (p : Packet) (dst d : Bytes) (n : Nat) (h : pktMarshalTo p dst = .ok (d, n)) :
    d.length = dst.length := by
  unfold pktMarshalTo at h
  split at h
  · cases h
  · split at h
    · cases h
    · cases h
    · next d0 n0 hh =>
      have h0 : d0.length = dst.length := by
        unfold hdrMarshalTo at hh
        split at hh
        · cases hh
        · split at hh
          · split at hh
            · cases hh
            · cases hh
            · injection hh with hh; injection hh with hd _; rw [← hd]; simp [writeAt_length]
          · injection hh with hh; injection hh with hd _; rw [← hd]; simp [writeAt_length]
      split at h
      · cases h
      · injection h with h; injection h with hd _; rw [← hd]
        split <;> simp [writeAt_length, h0]

private theorem contract_of (dst bs buf : Bytes) (size : Nat) (r : Res (Bytes × Nat))
    (hshort : dst.length < size → r = .err .shortBuffer)
    (hexact : size ≤ dst.length → bs.length = size ∧ r = .ok (bs ++ dst.drop size, size))
    (hbuf : ∀ d n, r = .ok (d, n) → buf = d) :
    Pred.C04.contract dst size (.ok bs) (r.map (·.2)) buf = true := by
  unfold Pred.C04.contract
  by_cases h : dst.length < size
  · rw [if_pos h, hshort h]; rfl
  · rw [if_neg h]
    obtain ⟨hl, hr⟩ := hexact (by omega)
    have := hbuf _ _ hr
    simp [hr, Res.map, hl, this]

theorem c04_to_general (p : Packet) (hs : Ser p.header) (hp : PadOK p) (dst : Bytes) :
    Pred.C04.holds dst (Pred.C04.modelObs p dst) = true := by
  unfold Pred.C04.holds Pred.C04.modelObs
  simp only [pktMarshal_ser p hs hp, hdrMarshal_ser _ hs, Bool.and_eq_true]
  constructor
  · apply contract_of
    · exact pktMarshalTo_short_ser p hs hp dst
    · exact fun h => ⟨pktWire_length_ser p hs hp, pktMarshalTo_ser p hs hp dst h⟩
    · intro d n hr
      simp [Pred.C04.pktToBuf, padding_ok p hp, hr]
  · apply contract_of
    · exact hdrMarshalTo_short _ dst
    · exact fun h => ⟨hdrWire_length_ser _ hs, hdrMarshalTo_ser _ hs dst h⟩
    · intro d n hr
      simp [Pred.C04.hdrToBuf, hr]

/-- the main theorem, in the shape of the run-time check: the predicate the driver evaluates on
    the real code's observation holds of the model's observation, for every well-formed packet
    and EVERY destination buffer. -/
theorem c04_to (p : Packet) (hwf : wfP p = true) (dst : Bytes) :
    Pred.C04.holds dst (Pred.C04.modelObs p dst) = true :=
  c04_to_general p (ser_of_wf _ ((wfP_iff p).1 hwf).1) ((wfP_iff p).1 hwf).2 dst

theorem c04_pred (p : Packet) (dst : Bytes) : Pred.C04.pred p dst (Pred.C04.modelObs p dst) = true := by
  unfold Pred.C04.pred
  cases h : wfP p
  · rfl
  · simpa using c04_to p h dst

/-- end to end with C01: whatever the destination held, decoding the first n bytes that MarshalTo
    reports gives the packet back (into any receiver). -/
theorem c04_then_unmarshal (p : Packet) (hwf : wfP p = true) (dst : Bytes)
    (h : pktMarshalSize p ≤ dst.length) (r : Packet) :
    ∃ d n q, pktMarshalTo p dst = .ok (d, n) ∧ pktUnmarshal r (d.take n) = .ok q ∧ canonP q = canonP p := by
  refine ⟨_, _, ⟨Proofs.PacketParse.withProfile r.header.extProfile p.header, p.payload, p.paddingSize⟩,
    pktMarshalTo_wf p hwf dst h, ?_, ?_⟩
  · rw [← pktWire_length p hwf, List.take_left]
    exact pktUnmarshal_wire p hwf r
  · simp [canonP, Proofs.PacketParse.canonH_withProfile]

/-- in the model, MarshalTo never panics — for ANY packet description and destination (this relies on
    `Header.MarshalSize`/`MarshalTo` guarding the index for a legacy profile without an element,
    finding `c05_legacy_no_element_panic`) -/
theorem c04_header_no_panic (h : Header) (dst : Bytes) : hdrMarshalTo h dst ≠ .panic :=
  hdrMarshalTo_ne_panic h dst

theorem c04_no_panic (p : Packet) (dst : Bytes) : pktMarshalTo p dst ≠ .panic := by
  unfold pktMarshalTo
  split
  · simp
  · split
    · simp
    · next hp => exact absurd hp (c04_header_no_panic _ _)
    · split <;> simp

/-- a destination too short even for the header is left untouched (packet and header call) -/
theorem c04_short_untouched (p : Packet) (hwf : wfP p = true) (dst : Bytes)
    (h : dst.length < hdrMarshalSize p.header) :
    Pred.C04.pktToBuf p dst = dst ∧ Pred.C04.hdrToBuf p.header dst = dst := by
  obtain ⟨_, hp⟩ := (wfP_iff p).1 hwf
  have hh : Pred.C04.hdrToBuf p.header dst = dst := by
    simp [Pred.C04.hdrToBuf, hdrMarshalTo_short _ _ h, h]
  refine ⟨?_, hh⟩
  unfold Pred.C04.pktToBuf
  rw [padding_ok p hp]
  have : pktMarshalTo p dst = .err .shortBuffer :=
    pktMarshalTo_short p hwf dst (by unfold pktMarshalSize; omega)
  simp [this, hh]

/-- NOT part of C04, recorded because callers may assume otherwise: a destination that holds the
    header but not the whole packet makes Packet.MarshalTo fail AFTER the header has been written
    — the call is not atomic. -/
theorem c04_short_partial_write (p : Packet) (hwf : wfP p = true) (dst : Bytes)
    (h1 : hdrMarshalSize p.header ≤ dst.length) (h2 : dst.length < pktMarshalSize p) :
    pktMarshalTo p dst = .err .shortBuffer ∧
    Pred.C04.pktToBuf p dst = hdrWire p.header ++ dst.drop (hdrMarshalSize p.header) := by
  obtain ⟨hh, hp⟩ := (wfP_iff p).1 hwf
  have he := pktMarshalTo_short p hwf dst h2
  refine ⟨he, ?_⟩
  unfold Pred.C04.pktToBuf
  rw [padding_ok p hp]
  simp [he, Pred.C04.hdrToBuf, hdrMarshalTo_wf _ hh dst h1]

/-! ### beyond the property's domain: exactly what the contract needs -/

/-- The contract does not depend on the ids, value lengths, version, payload type or CSRC count
    being legal: it holds for EVERY packet description whose elements can be serialised at all
    (`Ser`: a legacy payload is whole words) and whose padding flag matches its padding size
    (`PadOK`) — and for every destination. -/
theorem c04_general (p : Packet) (hs : Ser p.header) (hp : PadOK p) (dst : Bytes) :
    (dst.length < pktMarshalSize p → pktMarshalTo p dst = .err .shortBuffer) ∧
    (pktMarshalSize p ≤ dst.length → ∃ bs, pktMarshal p = .ok bs ∧ bs.length = pktMarshalSize p ∧
      pktMarshalTo p dst = .ok (bs ++ dst.drop (pktMarshalSize p), pktMarshalSize p)) :=
  ⟨pktMarshalTo_short_ser p hs hp dst,
   fun h => ⟨pktWire p, pktMarshal_ser p hs hp, pktWire_length_ser p hs hp, pktMarshalTo_ser p hs hp dst h⟩⟩

theorem c04_header_general (h : Header) (hs : Ser h) (dst : Bytes) :
    (dst.length < hdrMarshalSize h → hdrMarshalTo h dst = .err .shortBuffer) ∧
    (hdrMarshalSize h ≤ dst.length → ∃ bs, hdrMarshal h = .ok bs ∧ bs.length = hdrMarshalSize h ∧
      hdrMarshalTo h dst = .ok (bs ++ dst.drop (hdrMarshalSize h), hdrMarshalSize h)) :=
  ⟨hdrMarshalTo_short h dst,
   fun hl => ⟨hdrWire h, hdrMarshal_ser h hs, hdrWire_length_ser h hs, hdrMarshalTo_ser h hs dst hl⟩⟩

/-- and both conditions are needed.  Elements that cannot be serialised: Marshal itself fails. -/
theorem c04_needs_ser (h : Header) (hs : ¬ Ser h) : ∃ e, hdrMarshal h = .err e := by
  unfold Ser at hs
  have hx : h.extension = true := by
    cases hx : h.extension
    · exact absurd (fun hx' => by rw [hx] at hx'; cases hx') hs
    · rfl
  have hb : extBodyBytes h ≠ .ok (wireBody h) := fun hb => hs (fun _ => hb)
  have hne : ∃ e, extBodyBytes h = .err e := by
    cases hbb : extBodyBytes h with
    | ok b => exact absurd (by simp [wireBody, hbb]) hb
    | err e => exact ⟨e, rfl⟩
    | panic => exact absurd hbb (extBodyBytes_ne_panic h)
  obtain ⟨e, he⟩ := hne
  refine ⟨e, ?_⟩
  unfold hdrMarshal hdrMarshalTo
  rw [if_neg (by simp [rep])]
  simp [hx, he]

/-- Padding flag without a size: every MarshalTo call fails with the padding error (so the
    short-destination half of the contract fails too). -/
theorem c04_needs_padding_size (p : Packet) (h1 : p.header.padding = true) (h2 : p.paddingSize = 0)
    (dst : Bytes) : pktMarshalTo p dst = .err .invalidPadding := by
  unfold pktMarshalTo; simp [h1, h2]

/-- EXACTLY the descriptions for which the contract holds with every destination: the elements can
    be serialised and the padding flag matches the padding size.  (C04's own domain, the
    well-formed packets, lies inside.) -/
theorem c04_iff (p : Packet) :
    (∀ dst, Pred.C04.holds dst (Pred.C04.modelObs p dst) = true) ↔ (Ser p.header ∧ PadOK p) := by
  constructor
  · intro hall
    have hser : Ser p.header := by
      apply Classical.byContradiction
      intro hns
      obtain ⟨e, he⟩ := c04_needs_ser _ hns
      have := hall (rep (pktMarshalSize p) 0)
      simp only [Pred.C04.holds, Pred.C04.modelObs, he, Bool.and_eq_true] at this
      have h2 := this.2
      unfold Pred.C04.contract at h2
      rw [if_neg (by simp [rep, pktMarshalSize]; omega)] at h2
      simp at h2
    refine ⟨hser, ?_⟩
    unfold PadOK
    cases hpad : p.header.padding
    · -- no flag: the size must be 0, else a dirty destination shows through
      by_cases hps : 1 ≤ p.paddingSize.toNat
      · exfalso
        have := hall (rep (pktMarshalSize p) 0xFF)
        simp only [Pred.C04.holds, Pred.C04.modelObs, pktMarshal_noflag p hser hpad,
          pktMarshalTo_noflag_dirty p hser hpad, Bool.and_eq_true] at this
        have h1 := this.1
        unfold Pred.C04.contract at h1
        rw [if_neg (by simp [rep])] at h1
        have hb : Pred.C04.pktToBuf p (rep (pktMarshalSize p) 0xFF) =
            hdrWire p.header ++ (p.payload ++ rep p.paddingSize.toNat 0xFF) := by
          simp [Pred.C04.pktToBuf, hpad, pktMarshalTo_noflag_dirty p hser hpad]
        simp only [hb, Bool.and_eq_true, beq_iff_eq] at h1
        have h3 := h1.2
        rw [List.drop_of_length_le (by simp [rep]), List.append_nil] at h3
        have h4 := List.append_cancel_left (List.append_cancel_left h3)
        have : ∃ k, p.paddingSize.toNat = k + 1 := ⟨p.paddingSize.toNat - 1, by omega⟩
        obtain ⟨k, hk⟩ := this
        rw [hk] at h4
        simp [rep, List.replicate_succ] at h4
      · simp [hps]
    · -- flag set: the size must be ≥ 1, else every call fails with the padding error
      by_cases hps : 1 ≤ p.paddingSize.toNat
      · simp [hps]
      · exfalso
        have h0 : p.paddingSize = 0 := UInt8.toNat_inj.mp (by simp; omega)
        have := hall []
        simp only [Pred.C04.holds, Pred.C04.modelObs, c04_needs_padding_size p hpad h0, Bool.and_eq_true] at this
        have h1 := this.1
        unfold Pred.C04.contract at h1
        rw [if_pos (by simp [pktMarshalSize, hdrMarshalSize]; omega)] at h1
        simp [Res.map] at h1
  · intro ⟨hs, hp⟩ dst
    exact c04_to_general p hs hp dst

/-! ### non-vacuity: the hypotheses are met by non-trivial packets, and the conclusion is the
    expected bytes (finding `c04_rtp_padding_not_zeroed`: padding 4 after payload [1,2], destination all 0xEE) -/

def exPad : Packet :=
  { header := { version := 2, padding := true, payloadType := 96, seq := 7, ts := 9, ssrc := 0xAABBCCDD },
    payload := [1, 2], paddingSize := 4 }

example : wfP exPad = true := by decide
example : pktMarshalSize exPad = 18 := by decide
example : pktMarshalTo exPad (rep 20 0xEE) =
    .ok ([0xA0, 96, 0, 7, 0, 0, 0, 9, 0xAA, 0xBB, 0xCC, 0xDD, 1, 2, 0, 0, 0, 4, 0xEE, 0xEE], 18) := by decide
example : pktMarshalTo exPad (rep 17 0xEE) = .err .shortBuffer := by decide
/-- the failed call above has nevertheless written the 12 header bytes -/
example : Pred.C04.pktToBuf exPad (rep 17 0xEE) =
    [0xA0, 96, 0, 7, 0, 0, 0, 9, 0xAA, 0xBB, 0xCC, 0xDD, 0xEE, 0xEE, 0xEE, 0xEE, 0xEE] := by decide

/-- one-byte extension whose block needs three bytes of zero padding, dirty destination -/
def exExt : Header :=
  { version := 2, extension := true, extProfile := 0xBEDE, exts := [{ id := 5, payload := [0x11, 0x22, 0x33, 0x44] }] }
example : wfH exExt = true := by decide
example : hdrMarshalTo exExt (rep 25 0xFF) =
    .ok ([0x90, 0, 0, 0, 0, 0, 0, 0, 0, 0, 0, 0, 0xBE, 0xDE, 0, 2, 0x53, 0x11, 0x22, 0x33, 0x44, 0, 0, 0, 0xFF], 24) := by
  decide

/-! ### the padding clause of well-formedness is needed: with a padding size but no padding flag
    MarshalTo accounts for the octets but never writes them, so a dirty destination shows through -/
theorem c04_sharp_padding :
    (pktMarshalTo { header := { version := 2 }, payload := [9], paddingSize := 2 } (rep 15 0xEE)).map (·.1.take 15)
      ≠ pktMarshal { header := { version := 2 }, payload := [9], paddingSize := 2 } := by decide

/-- a description far outside C01's domain (version 7, id 15 and an over-long value in the one-byte
    profile, 16 CSRCs) still meets `Ser` and `PadOK`, so `c04_general` applies to it -/
def exOdd : Packet :=
  { header := { version := 7, payloadType := 200, extension := true, extProfile := 0xBEDE, csrc := List.replicate 16 1,
                exts := [{ id := 15, payload := List.replicate 20 3 }] },
    payload := [1], paddingSize := 0 }
example : wfP exOdd = false := by decide
example : Ser exOdd.header := fun _ => by decide
example : PadOK exOdd := by unfold PadOK; decide

end Rtp.Props.C04
