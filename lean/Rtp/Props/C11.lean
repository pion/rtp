/-
  Rtp/Props/C11.lean — C11: VP8 packetization is lossless; the descriptor decodes per RFC 7741.
  The lemmas behind the theorems are in Rtp/Proofs/VP8.lean and Rtp/Proofs/VP8Pay.lean.
-/
import Rtp.Proofs.VP8
import Rtp.Proofs.VP8Pay
namespace Rtp.Props.C11
open Rtp Rtp.Model Rtp.Pred
open Rtp.Spec.Rfc7741 (Descriptor)

/-- VP8Packet, in ANY receiver state, decodes every well-formed RFC 7741 descriptor
    (all X/I/M/L/T/K combinations, all field values, whatever the reserved / to-be-ignored bits are)
    to exactly the encoded field values and returns the bytes that follow it. -/
theorem c11_decoder (d : Descriptor) (hwf : d.WF = true) (p : VP8Packet) (payload : Bytes) :
    vp8Unmarshal p (some (d.encode ++ payload)) = (.ok payload, C11.expected d) :=
  Proofs.VP8.unmarshal_encode d hwf p payload

/-- IsPartitionHead is the S bit of the descriptor. -/
theorem c11_head (d : Descriptor) (hwf : d.WF = true) (payload : Bytes) :
    vp8IsPartitionHead (some (d.encode ++ payload)) = d.s :=
  Proofs.VP8.head_encode d hwf payload

/-- A descriptor cut short anywhere (0 ≤ k < its length) is rejected. -/
theorem c11_truncated (d : Descriptor) (hwf : d.WF = true) (p : VP8Packet) (k : Nat)
    (hk : k < d.encode.length) : (vp8Unmarshal p (some (d.encode.take k))).1 = .err .short :=
  Proofs.VP8.unmarshal_truncated d hwf p k hk

/-- non-vacuity: all of X, I (15-bit), L, T, K present, reserved bits set -/
example :
    let d : Descriptor :=
      { n := true, s := true, pid := 5, x := true, picId := some (true, 0x1234),
        tl0 := some 0xAB, tid := some (2, true), keyidx := some 0x11, ign0 := 0xFF, ignX := 0xFF }
    d.WF = true ∧ d.encode = [0xFD, 0xFF, 0x92, 0x34, 0xAB, 0xB1] ∧
    vp8Unmarshal {} (some (d.encode ++ [1, 2, 3])) =
      (.ok [1, 2, 3], { X := 1, N := 1, S := 1, PID := 5, I := 1, L := 1, T := 1, K := 1,
                         PictureID := 0x1234, TL0PICIDX := 0xAB, TID := 2, Y := 1, KEYIDX := 0x11 }) := by
  decide

/-- `C11.dec` holds of the model's observation, for every descriptor, payload and cut position (decoder
    and truncation in one statement).  The check the harness evaluates for `c11.dec` is the weaker
    `c11DecZ` (Driver/Kinds/Vpx.lean: `c11DecR_of_dec`, `c11DecZ_of_decR`). -/
theorem c11_dec (d : Descriptor) (hwf : d.WF = true) (payload : Bytes) (k : Nat) :
    C11.dec d payload k (d.encode ++ payload) (C11.obsDec (d.encode ++ payload) k) = true := by
  unfold C11.dec C11.obsDec
  simp only [beq_self_eq_true, Bool.true_and]
  by_cases hk : d.encode.length ≤ k
  · simp only [Proofs.Vpx.take_append_cut, hk, if_true, Proofs.VP8.unmarshal_encode d hwf, Proofs.VP8.head_encode d hwf,
      Res.coarse, beq_self_eq_true, Bool.and_self]
  · have he := Proofs.VP8.unmarshal_truncated d hwf {} k (Nat.lt_of_not_le hk)
    simp only [Proofs.Vpx.take_append_cut, hk, if_false]
    generalize vp8Unmarshal {} (some (d.encode.take k)) = r at he
    obtain ⟨r1, r2⟩ := r
    simp only at he
    subst he
    rfl

/-- For every picture-id mode, every number of earlier frames and every history of (MTU, frame) calls on
    one payloader, feeding the payloader's output to ONE VP8Packet receiver satisfies the round-trip
    predicate `C11.rt` (the harness evaluates it, doubled for the zero-allocation receiver, on the
    observation of `c11_rt_flip`: `c11RtZ_of_rt`):
    for each frame whose MTU exceeds the descriptor length, the payloads concatenate to the frame,
    S / IsPartitionHead is set on the first packet only, PID = 0, and with picture ids enabled every
    packet has X = I = 1 and the frame's running id `k mod 2^15` (k = frames packetized so far),
    in the 7-bit form below 128 and the 15-bit form from 128. -/
theorem c11_rt (enable : Bool) (warm : Nat) (calls : List (UInt16 × Option Bytes)) :
    C11.rt enable warm calls (C11.obsRt enable warm calls) = true :=
  Proofs.VP8.rt_obsRt enable warm calls

/-- `c11_rt` for a payloader whose public `EnablePictureID` field was at the other value for the first
    `flipAt` of its `warm` earlier frames and was then set by hand: the running id is the number of
    frames sent, in whichever mode. -/
theorem c11_rt_flip (enable : Bool) (warm flipAt : Nat) (h : flipAt ≤ warm)
    (calls : List (UInt16 × Option Bytes)) :
    C11.rt enable warm calls (C11.obsRtFlip enable warm flipAt calls) = true :=
  Proofs.VP8.rt_obsRtFlip enable warm flipAt h calls

/-- non-vacuity: three frames sent with the option off, the field then set, two more frames: the next
    5-byte frame at MTU 5 carries picture id 5 -/
example :
    (3 : Nat) ≤ 5 ∧
    ((C11.obsRtFlip true 5 3 [(5, some [1, 2, 3, 4, 5])]).map (·.map (·.bytes))) =
      [[[0x90, 0x80, 0x05, 1, 2], [0x80, 0x80, 0x05, 3, 4], [0x80, 0x80, 0x05, 5]]] := by
  decide

/-- One frame sent by a payloader that has packetized `k` frames before
    (`payState enable k` = picture id `k mod 2^15`): the frame is cut into chunks `c :: cs` that
    are non-empty, at most `mtu − hdr` long and concatenate to the frame; every packet is the
    RFC 7741 encoding of `payDesc` (S on the first packet only, PID 0, picture id `k mod 2^15` in the
    7-bit form below 128 and the 15-bit form from 128) followed by its chunk; afterwards the
    payloader is in the state for frame `k + 1`. -/
theorem c11_roundtrip (enable : Bool) (k : Nat) (mtu : UInt16) (frame : Bytes)
    (hm : C11.hdrLen enable k < mtu.toNat) (hf : frame ≠ []) :
    ∃ c cs, vpxChunks (mtu.toNat - C11.hdrLen enable k) frame = c :: cs ∧
      (vp8Payload (Proofs.VP8.payState enable k) mtu (some frame)).1 =
        ((Proofs.VP8.payDesc enable k true).encode ++ c) ::
          cs.map (fun c => (Proofs.VP8.payDesc enable k false).encode ++ c) ∧
      (c :: cs).flatten = frame ∧
      (∀ x ∈ c :: cs, x ≠ [] ∧ x.length ≤ mtu.toNat - C11.hdrLen enable k) ∧
      (vp8Payload (Proofs.VP8.payState enable k) mtu (some frame)).2 = Proofs.VP8.payState enable (k + 1) :=
  Proofs.VP8.payload_spec enable k mtu frame hm hf

/-- The descriptor `payDesc` of the `k`-th packetized frame (counting from 0; that the payloader writes
    it is `c11_roundtrip`) carries the picture id `k mod 2^15`, which decodes to itself; the M bit is
    set exactly from 128 on. -/
theorem c11_picid (k : Nat) (first : Bool) (p : VP8Packet) (c : Bytes) :
    let d := Proofs.VP8.payDesc true k first
    d.picId = some (decide (128 ≤ k % 32768), (k % 32768).toUInt16) ∧
    (vp8Unmarshal p (some (d.encode ++ c))).1 = .ok c ∧
    (vp8Unmarshal p (some (d.encode ++ c))).2.I = 1 ∧
    (vp8Unmarshal p (some (d.encode ++ c))).2.PictureID.toNat = k % 32768 := by
  intro d
  have hw := Proofs.VP8.payDesc_wf true k first
  refine ⟨by simp [d, Proofs.VP8.payDesc], ?_, ?_, ?_⟩
  · rw [Proofs.VP8.unmarshal_encode d hw]
  · rw [Proofs.VP8.unmarshal_encode d hw]
    simp [d, C11.expected, Proofs.VP8.payDesc, Spec.Rfc7741.bit]
  · rw [Proofs.VP8.unmarshal_encode d hw]
    simp [d, C11.expected, C11.picVal, Proofs.VP8.payDesc]
    omega

/-- non-vacuity: a 5-byte frame at MTU 5 with picture id 127 → three packets `90 80 7f …`, `80 80 7f …`, `80 80 7f …`;
    the next frame carries id 128 in the 15-bit form -/
example :
    (vp8Payload { enablePictureID := true, pictureID := 127 } 5 (some [1, 2, 3, 4, 5])).1 =
      [[0x90, 0x80, 0x7f, 1, 2], [0x80, 0x80, 0x7f, 3, 4], [0x80, 0x80, 0x7f, 5]] ∧
    (vp8Payload { enablePictureID := true, pictureID := 128 } 5 (some [9])).1 =
      [[0x90, 0x80, 0x80, 0x80, 9]] := by
  decide

end Rtp.Props.C11
