/-
  Rtp/Props/C08_VP9.lean — C08 for VP9Payloader (flexible and non-flexible mode): MTU bound and
  non-empty fragments for every option setting, every payloader state, every injected initial
  picture id and every history of calls.  The model has no panic outcome (`vp9Payload` is total; the
  header parser it calls is shown panic-free in Props/C12.lean); no panic and input immutability
  are observed on the real code by kind `c08.vp9`; ownership of the fragments is proved of the provenance
  model (`c08_prov_vp9_owned`, `c08_prov_vp9_history`, Props/C08_Prov2.lean).
-/
import Rtp.Proofs.VP9Pay
namespace Rtp.Props.C08.VP9
open Rtp Rtp.Model Rtp.Pred

/-- as `c08_vp8`, for kind `c08.vp9`, both modes and every value returned by `InitialPictureIDFn` -/
theorem c08_vp9 (flex : Bool) (init : UInt16) (calls : List (UInt16 × Option Bytes)) :
    C08.histOk false calls (C12.obsPay flex init calls) = true :=
  Proofs.VP9.histOk_vp9 calls _

/-- from ANY state: every fragment is at most MTU bytes long and not empty -/
theorem c08_vp9_sizes (st : VP9Pay) (mtu : UInt16) (input : Option Bytes) :
    ∀ f ∈ (vp9Payload st mtu input).1, f.length ≤ mtu.toNat ∧ f ≠ [] :=
  Proofs.VP9.payload_frag st mtu input

/-- non-vacuity: flexible mode, MTU 5; the injected 0xFFFF is masked to 0x7FFF, which wraps to 0 afterwards -/
example : vp9Payload { flexible := true, init := 0xFFFF } 5 (some [1, 2, 3]) =
    ([[0x98, 0xFF, 0xFF, 1, 2], [0x94, 0xFF, 0xFF, 3]],
     { flexible := true, init := 0xFFFF, pictureID := 0, initialized := true }) := by decide +kernel

end Rtp.Props.C08.VP9
