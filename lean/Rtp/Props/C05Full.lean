/-
  Rtp/Props/C05Full.lean — C05 on start states decoded from a one-byte (0xBEDE) wire image that
  carries an element with id 0: what holds of such elements (the lemmas of Rtp/Proofs/HeaderExtId0.lean
  that `c05_pred_model_full_proved`, Rtp/Props/C05.lean, rests on, stated as properties), and that
  theorem with C01's header round trip plugged in.

  Why it holds on these start states too: the one-byte parser reads a header byte 0x00 as padding and
  0x01–0x0F as id 0 with 2–16 bytes, so an id-0 element from the wire always has at least two
  bytes; Marshal writes it back as `0<<4 | (len-1)` = the same byte 0x01–0x0F, which decodes to the
  same element.  (Only id 0 with ONE byte would be written as 0x00 = padding and vanish — such an
  element cannot come from the wire and SetExtension refuses id 0 in this profile,
  `c05_id0_one_byte_unreachable`.)  SetExtension refuses id 0 (error, header unchanged),
  DelExtension removes an id-0 element like any other.
-/
import Rtp.Proofs.HeaderExtId0
import Rtp.Props.C05Closed
namespace Rtp.Props.C05
open Rtp Rtp.Model Rtp.Pred Rtp.Pred.C05 Rtp.Proofs.HeaderExt Rtp.Proofs.HeaderExtId0
open Rtp.Spec.OrderedMap (Map Op)

/-- the header round trip for one-byte blocks with ids 0–14, where id 0 needs at least two bytes
    (`wf0`: sane fixed fields, X on, profile 0xBEDE, every element `ok0`, block ≤ 65535 words):
    Marshal succeeds with MarshalSize bytes and Unmarshal of them, into any receiver, returns the
    very same header and n = their number.  Extends `c01_header_roundtrip` (ids 1–14). -/
theorem c05_header_roundtrip_id0 (h : Header) (hw : wf0 h = true) :
    ∃ bs, hdrMarshal h = .ok bs ∧ bs.length = hdrMarshalSize h ∧
      ∀ r : Header, hdrUnmarshal r bs = .ok (h, bs.length) :=
  header_roundtrip0 h hw

/-- what Header.Unmarshal produces from ANY bytes, into any receiver, in the one-byte profile:
    every element has id 0–14 and 1–16 bytes, and an element with id 0 has at least two -/
theorem c05_wire_start_ok0 (r : Header) (buf : Bytes) (h : Header) (n : Nat)
    (hok : hdrUnmarshal r buf = .ok (h, n)) (hx : h.extension = true)
    (hp : h.extProfile = profileOneByte) :
    ∀ e ∈ h.exts, e.id.toNat ≤ 14 ∧ 1 ≤ e.payload.length ∧ e.payload.length ≤ 16 ∧
      (e.id.toNat = 0 → 2 ≤ e.payload.length) := by
  have hall := (hdrUnmarshal_inv0 r buf h n hok).1.2.1
  rw [hp, elemOk_oneByte] at hall
  exact fun e he => (ok0_iff e).mp (List.all_eq_true.mp hall e he)

/-- `legal0` (`legal`, or X on with profile 0xBEDE and every element `ok0`) is preserved by every
    operation -/
theorem c05_inv0 (h : Header) (op : Op) (hl : legal0 h = true) : legal0 (modelStep h op).2 = true :=
  legal0_step h op hl

/-- … and holds, with sane fixed fields, of every start state of the property -/
theorem c05_inv0_start (s : Start) (hd : startDomain s = true) :
    ∃ h, startHeader s = some h ∧ legal0 h = true ∧ fixedOk h = true :=
  startDomain_legal0 s hd

/-- the one case that would NOT survive the wire — id 0 with one byte, written as 0x00 = padding —
    is unreachable: it violates `legal0`, which every start state satisfies and every operation keeps -/
theorem c05_id0_one_byte_unreachable (h : Header) (hl : legal0 h = true) (hx : h.extension = true)
    (hp : h.extProfile = profileOneByte) : ∀ e ∈ h.exts, ¬ (e.id = 0 ∧ e.payload.length = 1) := by
  intro e he ⟨h0, h1⟩
  have hall := ((legal0_iff h).mp hl).2.1
  rw [hp, elemOk_oneByte] at hall
  have := ((ok0_iff e).mp (List.all_eq_true.mp hall e he)).2.2.2 (by rw [h0]; rfl)
  omega

/-- `c05_pred_model_full_proved` with C01's header round trip plugged in: no hypothesis left but
    the domain -/
theorem c05_pred_model_full_closed (s : Start) (ops : List Op)
    (hd : startDomain s = true) (hsz : sizeOk s ops = true) :
    Pred.C05.pred s ops (Pred.C05.modelObs s ops) = true :=
  c05_pred_model_full_proved headerRoundTrip s ops hd hsz

/-! ### non-vacuity: a start state outside `startCovered` -/

/-- V=2, X=1; block 0xBEDE of two words: 0x01 AA BB (id 0, two bytes), padding, 0x10 CC (id 1) -/
def id0Image : Bytes :=
  [0x90, 0, 0, 0, 0, 0, 0, 0, 0, 0, 0, 0, 0xBE, 0xDE, 0, 2, 0x01, 0xAA, 0xBB, 0x00, 0x10, 0xCC, 0, 0]

/-- the image decodes to a header with an id-0 element; it is in `startDomain`, not in
    `startCovered`, and a history that tries to set id 0 (refused), deletes it and sets id 3 meets
    the size hypothesis: an input of `c05_pred_model_full_closed` that `c05_pred_model_partial`
    does not reach -/
example :
    (startHeader (.wire [] id0Image)).map (·.exts) = some [⟨0, [0xAA, 0xBB]⟩, ⟨1, [0xCC]⟩] ∧
    startDomain (.wire [] id0Image) = true ∧ startCovered (.wire [] id0Image) = false ∧
    sizeOk (.wire [] id0Image) [.set 0 [1, 2], .del 0, .set 3 [7]] = true := by
  decide +kernel

/-- the id-0 element survives Marshal and Unmarshal byte for byte -/
example : hdrMarshal { version := 2, extension := true, extProfile := 0xBEDE, exts := [⟨0, [0xAA, 0xBB]⟩, ⟨1, [0xCC]⟩] } =
    .ok [0x90, 0, 0, 0, 0, 0, 0, 0, 0, 0, 0, 0, 0xBE, 0xDE, 0, 2, 0x01, 0xAA, 0xBB, 0x10, 0xCC, 0, 0, 0] := by
  decide +kernel

end Rtp.Props.C05
