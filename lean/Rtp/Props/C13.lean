/-
  Rtp/Props/C13.lean — C13: AV1 packetization is lossless and obeys the aggregation rules;
  LEB128 and OBU header inverses.  The lemmas are in Rtp/Proofs/{Obu,Leb128,Leb128Go,AV1*}.lean.
-/
import Rtp.Proofs.Leb128
import Rtp.Proofs.Obu
import Rtp.Proofs.AV1RT
import Rtp.Proofs.Lib.UInt
namespace Rtp.Props.C13
open Rtp Rtp.Model Rtp.Model.AV1 Rtp.Spec.Av1Rtp
open Rtp.Model.ObuLemmas

/-- write then read is the identity for every natural number, whatever follows (specification level) -/
theorem c13_leb (n : Nat) (rest : Bytes) :
    readLebSpec (writeLeb n ++ rest) = some (n, (writeLeb n).length) :=
  readLebSpec_writeLeb n rest

/-- the predicate of kind `c13.leb` holds of the model: on 0 … 2^32−1 what WriteToLeb128 produces
    decodes to n, and ReadLeb128 (the 64-bit accumulator version) returns n and the number of bytes
    written, whatever follows.  `LebGoSpec` is proved as `Rtp.Model.readLebGo_writeLeb`. -/
theorem c13_leb_go (hleb : LebGoSpec) (n : UInt64) (tail : Bytes) :
    Pred.C13.leb n (lebObs n tail) = true := by
  unfold Pred.C13.leb lebObs
  by_cases h : n.toNat < 2 ^ 32
  · have h1 := readLebSpec_writeLeb n.toNat []
    rw [List.append_nil] at h1
    have h2 := hleb n.toNat tail (by omega)
    have h3 : n.toNat.toUInt64 = n := by
      apply UInt64.toNat_inj.mp
      simp [Nat.toUInt64]
    simp [h, h1, h2, h3]
  · simp [h]

/-- ReadLeb128 (64-bit accumulator) agrees with the specification on everything WriteToLeb128
    produces below 2^56, whatever follows -/
theorem c13_leb_go_spec (hleb : LebGoSpec) (n : Nat) (rest : Bytes) (hn : n < 2 ^ 56) :
    readLebGo (writeLeb n ++ rest) =
      (readLebSpec (writeLeb n ++ rest)).map (fun vk => (vk.1.toUInt64, vk.2)) := by
  rw [hleb n rest hn, readLebSpec_writeLeb]
  rfl

example : writeLeb 300 = [0xAC, 0x02] ∧ readLebSpec [0xAC, 0x02, 0xFF] = some (300, 2) := by
  constructor
  · simp [writeLeb]
  · decide

/-- marshal then parse is the identity on every header with fields in range (type < 16,
    temporal id < 8, spatial id < 4, reserved bits < 8) — with or without extension, size flag and
    reserved bit — whatever bytes follow; and parse then marshal gives back exactly the bytes read. -/
theorem c13_obu_header :
    (∀ (h : ObuHeader) (rest : Bytes), hdrWF h = true → parseObuHeader (h.marshal ++ rest) = .ok h) ∧
    (∀ (bs : Bytes) (h : ObuHeader), parseObuHeader bs = .ok h →
        h.marshal = bs.take h.size ∧ hdrWF h = true) :=
  ⟨fun h rest hwf => parse_marshal h hwf rest,
   fun bs h hp => ⟨marshal_parse bs h hp, parse_wf bs h hp⟩⟩

example : hdrWF { type := 6, ext := some ⟨7, 3, 0⟩, hasSize := true, reserved1 := false } = true ∧
    ObuHeader.marshal { type := 6, ext := some ⟨7, 3, 0⟩, hasSize := true, reserved1 := false } = [0x36, 0xF8] := by
  decide

/-- kind `c13.obuhdr`, every byte string: the predicate holds of the model (fields are the div/mod
    fields of the bytes, marshal returns the bytes read, re-parse returns the same header; rejected
    exactly when empty, forbidden bit set, or extension byte missing) -/
theorem c13_obuhdr (bs : Bytes) : Pred.C13.hdr bs (hdrObs bs) = true := by
  unfold Pred.C13.hdr hdrObs
  match hp : parseObuHeader bs with
  | .ok h =>
    obtain ⟨h1, h2⟩ := parse_fields bs h hp
    have h3 := marshal_parse bs h hp
    have h4 := parse_wf bs h hp
    have h5 := parse_marshal h h4 []
    rw [List.append_nil] at h5
    simp only [h1, h2, h5, Bool.true_and, Res.coarse]
    simp [ObuHeader.size, h3]
  | .err e => simp [Res.coarse, parse_err bs e hp]
  | .panic => exact absurd hp (parse_ne_panic bs)

theorem c13_obumar (h : ObuHeader) : Pred.C13.mar h (marObs h) = true := by
  unfold Pred.C13.mar marObs
  by_cases hwf : hdrWF h = true
  · have h5 := parse_marshal h hwf []
    rw [List.append_nil] at h5
    have h6 := (parse_fields _ _ h5).2
    simp [hwf, h5, Res.coarse, marshal_length, h6]
  · simp [hwf]

/-! The theorems below that carry a binder `hleb : LebGoSpec` (ReadLeb128 agrees with the
  specification on what WriteToLeb128 wrote, below 2^56) do not depend on it: the lemmas they rest
  on use its proof `Rtp.Model.readLebGo_writeLeb`.  Rtp/Props/C13Closed.lean states them without
  the binder. -/

/-- Every MTU ≥ 2 and EVERY input byte string (not only well-formed OBU sequences): the payloads
    obey the aggregation rules — each has the shape its W announces (W = number of elements, or
    W = 0 with every element length-prefixed), fits the MTU, Z equals the previous packet's Y, the
    last Y is 0, no element is empty, every transmitted OBU has its size flag cleared, and OBUs
    whose extension headers carry different temporal or spatial ids never share a packet. -/
theorem c13_rules (mtu : UInt16) (hm : 2 ≤ mtu.toNat) (data : Bytes) :
    rulesOK mtu.toNat (AV1.payload mtu data) = true := by
  have hs := u16_toNat_le mtu
  rw [payload_eq mtu data hm]
  exact payload_rules mtu.toNat hm hs data

/-- What the payloads denote (elements by W/length fields, fragments joined across Y → Z) is the
    input OBU sequence with temporal delimiters and tile lists removed and size fields removed. -/
theorem c13_denotes (hleb : LebGoSpec) (mtu : UInt16) (hm : 2 ≤ mtu.toNat) (obus : List Obu)
    (hwf : obusWF obus = true) :
    denote (AV1.payload mtu (serialise obus)) = some (normalise obus) := by
  have hs := u16_toNat_le mtu
  rw [payload_eq mtu _ hm, payload_denote mtu.toNat hm hs,
    walk_serialise obus hwf _ (Nat.le_refl _), flushedOf_map]

/-- the same for an arbitrary byte string: the OBUs the scanner of Payload finds, minus the dropped ones -/
theorem c13_denotes_stream (mtu : UInt16) (hm : 2 ≤ mtu.toNat) (data : Bytes) :
    denote (AV1.payload mtu data) = some (flushedOf (walk data.length data)) := by
  have hs := u16_toNat_le mtu
  rw [payload_eq mtu _ hm, payload_denote mtu.toNat hm hs]

/-- Receive side, for EVERY list of well-shaped packets (not only the payloader's): if the packets
    are Z/Y-chained, their elements non-empty, and every OBU they denote has a readable header
    without size field and is neither temporal delimiter nor tile list, then a fresh
    AV1Depacketizer succeeds on every payload and delivers, all in all, the denoted OBUs with their
    size fields put back; a fresh AV1Packet shows exactly the fields and elements of each packet;
    one frame.AV1 assembler returns exactly the denoted OBUs; and these are what the payloads
    denote by the specification.  (`PkGood` also asks for at least one element per packet, elements
    shorter than 2^56 bytes, and not N together with Z.) -/
theorem c13_depack (hleb : LebGoSpec) (pks : List Pk) (hgood : ∀ p ∈ pks, PkGood p)
    (hchain : zyChain false (pks.map Pk.toPacket) = true)
    (hunits : ∀ u ∈ units (pks.map Pk.toPacket), goodUnit u.bytes) :
    (∃ outs : List Bytes, (depFeed {} (pks.map Pk.encode)).1 = outs.map Res.ok ∧
        outs.flatten = ((units (pks.map Pk.toPacket)).map (fun u => sizedOf u.bytes)).flatten) ∧
    (∀ p ∈ pks, viewOf p.encode = .ok { z := p.z, y := p.y, w := p.w, n := p.n, elems := p.elems }) ∧
    (framesOf [] (pks.map Pk.encode)).flatten = (units (pks.map Pk.toPacket)).map (·.bytes) ∧
    denote (pks.map Pk.encode) = some ((units (pks.map Pk.toPacket)).map (·.bytes)) :=
  ⟨DepackRT.depFeed_encode pks hgood hchain hunits,
   fun p hp => FramesRT.viewOf_encode p (hgood p hp),
   FramesRT.framesOf_encode pks hgood hchain,
   denote_encode pks (fun p hp => (hgood p hp).shape)⟩

/-- The statement-by-statement byte-level transcription of AV1Payloader (`AV1B.payloadB`, what the
    driver runs against the implementation) and the record-based model the theorems above are
    stated about compute the same payloads, for every MTU and every input. -/
theorem c13_payload_models_agree (mtu : UInt16) (data : Bytes) :
    AV1B.payloadB mtu data = AV1.payload mtu data := AV1B.payloadB_eq mtu data

/-- kind `c13.rt`: for every MTU ≥ 2 and every well-formed OBU sequence (any types, with or without
    extension header, last OBU with or without size field) the predicate `Pred.C13.rt` holds of the
    model: rules, denotation, element structure seen by AV1Packet, OBUs reassembled by frame.AV1,
    OBUs with size fields delivered by AV1Depacketizer.  The handler of the kind evaluates the
    weaker `rtRelaxedW` on the real code (Driver/Kinds/Av1.lean, `rt_imp_rtRelaxedW`). -/
theorem c13_roundtrip (hleb : LebGoSpec) (mtu : UInt16) (hm : 2 ≤ mtu.toNat) (obus : List Obu)
    (hwf : obusWF obus = true) :
    Pred.C13.rt mtu.toNat obus (rtObs mtu (serialise obus)) = true :=
  rt_pred mtu hm obus hwf

theorem c13_roundtrip_spec (hleb : LebGoSpec) (mtu : UInt16) (hm : 2 ≤ mtu.toNat) (obus : List Obu)
    (hwf : obusWF obus = true) :
    (∃ outs : List Bytes,
      (depFeed {} (AV1.payload mtu (serialise obus))).1 = outs.map Res.ok ∧
      outs.flatten = (normaliseSized obus).flatten) ∧
    (framesOf [] (AV1.payload mtu (serialise obus))).flatten = normalise obus := by
  have hs := u16_toNat_le mtu
  obtain ⟨hgood, hchain, hbytes, hunits, hsized⟩ := payload_facts mtu.toNat hm hs obus hwf
  obtain ⟨outs, hd1, hd2⟩ := DepackRT.depFeed_encode _ hgood hchain hunits
  rw [payload_eq mtu _ hm]
  refine ⟨⟨outs, hd1, by rw [hd2, hsized]⟩, ?_⟩
  rw [FramesRT.framesOf_encode _ hgood hchain, hbytes]

/-- non-vacuity: sequence header, temporal delimiter, two frames on layers (0,1) and (0,2), the last
    without size field — well-formed, and at MTU 8 it takes four packets (a new packet per layer) -/
example :
    obusWF [⟨⟨1, none, true, false⟩, [0xAA]⟩, ⟨⟨2, none, true, false⟩, []⟩,
            ⟨⟨6, some ⟨0, 1, 0⟩, true, false⟩, [1, 2, 3, 4, 5, 6, 7, 8]⟩,
            ⟨⟨6, some ⟨0, 2, 0⟩, false, false⟩, [9]⟩] = true ∧
    AV1.payload 8 (serialise [⟨⟨1, none, true, false⟩, [0xAA]⟩, ⟨⟨2, none, true, false⟩, []⟩,
            ⟨⟨6, some ⟨0, 1, 0⟩, true, false⟩, [1, 2, 3, 4, 5, 6, 7, 8]⟩,
            ⟨⟨6, some ⟨0, 2, 0⟩, false, false⟩, [9]⟩]) =
      [[0x18, 0x08, 0xAA], [0x50, 0x34, 0x08, 1, 2, 3, 4, 5], [0x90, 6, 7, 8], [0x10, 0x34, 0x10, 9]] := by
  decide +kernel

end Rtp.Props.C13
