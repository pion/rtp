/-
  Rtp/Props/C19Closed.lean — the three C19 theorems of Rtp/Props/C19.lean that carry the hypothesis
  `LebGoSpec` (ReadLeb128 ∘ WriteToLeb128 = id below 2^56), stated without it.
-/
import Rtp.Props.C19
import Rtp.Proofs.Leb128Go
namespace Rtp.Props.C19
open Rtp Rtp.Model Rtp.Spec.VlaSpec Rtp.Model.Vla Rtp.Pred.C19

theorem c19_roundtrip_partial_closed (v : VLA) (h : v.WF)
    (hsmall : ∀ l ∈ v.layers, ∀ k ∈ l.rates, k < 2 ^ 56) (r : VLA) :
    unmarshal r (encode v) = .ok (encode v).length v.norm :=
  c19_roundtrip_partial readLebGo_writeLeb v h hsmall r

theorem c19_rt_closed (v r : VLA) (hsmall : bigRate v = false) :
    Pred.C19.rt v r (rtModel v r) = true :=
  c19_rt readLebGo_writeLeb v r hsmall

theorem c19_encode_injective_closed (v w : VLA) (hv : v.WF) (hw : w.WF)
    (hvs : ∀ l ∈ v.layers, ∀ k ∈ l.rates, k < 2 ^ 56) (hws : ∀ l ∈ w.layers, ∀ k ∈ l.rates, k < 2 ^ 56)
    (he : encode v = encode w) : v.norm = w.norm :=
  c19_encode_injective readLebGo_writeLeb v w hv hw hvs hws he

end Rtp.Props.C19
