/-
  Rtp/Props/C09_H265.lean — the H265 part of C09: `H265Packet` (with and without DONL) is panic-free
  on every payload and decodes every payload on its own.
-/
import Rtp.Proofs.H265Parse
namespace Rtp.Props.C09.H265
open Rtp Rtp.Model.H265 Rtp.Pred

/- The four exported sub-parsers: each returns an error or a packet of its form (`parseX_cases`). -/
theorem parseSingle_nopanic (donl : Bool) (p : Option Bytes) : parseSingle donl p ≠ .panic :=
  (parseSingle_cases donl p).ne_panic

theorem parseFU_nopanic (donl : Bool) (p : Option Bytes) : parseFU donl p ≠ .panic :=
  (parseFU_cases donl p).ne_panic

theorem parsePACI_nopanic (p : Option Bytes) : parsePACI p ≠ .panic :=
  (parsePACI_cases p).ne_panic

theorem parseAgg_nopanic (donl : Bool) (p : Option Bytes) : parseAgg donl p ≠ .panic :=
  (parseAgg_cases donl p).ne_panic

/-- `H265Packet.Unmarshal` never panics: nil, empty and arbitrary payloads, either DONL setting. -/
theorem c09_nopanic_h265 (donl : Bool) (p : Option Bytes) : unmarshal donl p ≠ .panic :=
  (unmarshal_cases donl p).ne_panic

/-- after a successful `Unmarshal` of a PACI packet the PHES is as long as PHSsize says, so `TSCI()`
    (which indexes `phes[0..2]` when F0 is set and PHSsize ≥ 3) does not panic -/
theorem c09_tsci_nopanic_h265 (donl : Bool) (p : Option Bytes) (h w : UInt16) (phes q : Bytes)
    (hok : unmarshal donl p = .ok (.paci h w phes q)) : paciTSCI w phes ≠ .panic := by
  -- only `parsePACI` returns a PACI packet, and its PHES is `take PHSsize` of what is long enough
  rcases (unmarshal_cases donl p).of_ok hok with hk | hk | hk | hk
  · obtain ⟨_, _, c, d, r, _, hl, _, _, hk⟩ := hk
    cases hk
    apply paciTSCI_ne_panic
    rw [List.length_take]; omega
  -- a fragmentation unit, an aggregation packet, a single NAL unit packet: not `.paci`
  · obtain ⟨_, _, _, _, _, _, _, _, _, _, hk⟩ := hk
    cases hk
  · obtain ⟨_, _, _, _, _, _, _, _, _, _, _, _, hk⟩ := hk
    cases hk
  · obtain ⟨_, _, _, _, _, _, _, _, _, hk⟩ := hk
    cases hk

/-- C09 for H265 on the model: for every sequence of payloads fed to one receiver, nothing panics,
    and every observation equals that of a fresh receiver (`histOk true`: compared packet by packet; the
    model keeps no state). -/
theorem c09_h265 (donl : Bool) (ps : List (Option Bytes)) :
    C09.histOk true (depHist donl ps) = true := by
  simp only [C09.histOk, depHist, List.all_map, List.all_eq_true, Function.comp_def]
  intro p _
  have h := c09_nopanic_h265 donl p
  simp only [C09.callOk, depObs, Bool.not_false, Bool.and_true, Bool.not_true, Bool.false_or]
  rw [Res.isPanic_coarse, Res.isPanic_map, Res.isPanic_eq_false_iff.mpr h]
  rfl

/-- reuse: what a receiver reports for a payload does not depend on what it decoded before -/
theorem c09_reuse_h265 (donl : Bool) (before : List (Option Bytes)) (p : Option Bytes) :
    (depHist donl (before ++ [p])).getLast? = (depHist donl [p]).getLast? := by
  simp [depHist]

/-- the four exported sub-parsers, called directly, never panic either -/
theorem c09_nopanic_h265_sub (which : Nat) (donl : Bool) (p : Option Bytes) :
    (subDecode which donl p).isPanic = false := by
  unfold subDecode
  rw [Res.isPanic_coarse, Res.isPanic_map, Res.isPanic_eq_false_iff]
  split
  · exact parseSingle_nopanic _ _
  · exact parseAgg_nopanic _ _
  · exact parseFU_nopanic _ _
  · exact parsePACI_nopanic _

/-- IsPartitionHead / IsPartitionTail are total functions of the payload (the empty one included; a nil
    slice has length 0 in Go and is the same case) -/
example : isPartitionHead [] = false ∧ isPartitionTail true [] = true := by decide

/-- non-vacuity: a history mixing nil, empty, truncated and valid payloads -/
example : (depHist true [none, some [], some [0x62, 1], some [0x62, 1, 0x93, 0, 5, 9]]).map (·.res) =
    [.err .other, .err .other, .err .other, .ok []] := by decide

end Rtp.Props.C09.H265
