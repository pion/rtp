/-
  Rtp/Props/C06.lean — C06: Packetizer emits a valid, MTU-bounded, correctly numbered packet train.
  Property theorems only; helper lemmas live in Rtp/Proofs/Packetizer.lean.

  All theorems are about `cfg.run ops`: an arbitrary history of Packetize / SkipSamples /
  GeneratePadding / EnableAbsSendTime calls (any length) on a packetizer in an arbitrary initial
  state `cfg` (any MTU, SSRC, payload type, start timestamp, sequencer state), where at every
  Packetize call the payloader may be ANY function (`pay`), and the clock may read anything.
  `wf` is the property's domain: MTU ≥ 64, a 7-bit payload type, extension ids 1–14.

  The packets are `PktObs` records; `marshal`/`marshalSize` are those of `marshalSimple`
  (Rtp/Model/Packetizer.lean), the restriction of the RTP packet model to the two packet shapes
  the packetizer builds.  That `marshalSimple` is the general `Packet.marshal` (Rtp/Model/Packet.lean,
  C01) on these packets, and that they parse back, is `run_faithful` / `run_roundtrip` in
  Rtp/Proofs/PacketizerBridge.lean.
-/
import Rtp.Proofs.Packetizer
import Rtp.Props.C16
namespace Rtp.Props.C06
open Rtp Rtp.Model Rtp.Model.Packetizer Rtp.Pred.C06 Rtp.Proofs.Packetizer Rtp.Spec.AbsSendTimeValue

/-- **c06_seq.** The sequence numbers of all packets, in emission order, are consecutive mod 2^16,
    continuing across calls and across padding, starting with the sequencer's next value. -/
theorem c06_seq (cfg : Packetizer) (ops : List PkOp) (h : wf cfg ops = true) :
    seqOk (cfg.seq.seq + 1) (cfg.run ops) = true :=
  run_seq cfg (wf_parts h).1 ops (wf_parts h).2.1

/-- **c06_ts.** Every packet of a Packetize call carries one timestamp: the start timestamp plus
    the samples of all earlier (non-empty) Packetize calls plus all skipped samples, mod 2^32. -/
theorem c06_ts (cfg : Packetizer) (ops : List PkOp) (h : wf cfg ops = true) :
    tsWalk cfg.ts ops (cfg.run ops) = true :=
  (run_calls cfg cfg ⟨rfl, rfl, rfl⟩ (wf_parts h).1 ops (wf_parts h).2.1).1

/-- **c06_fields.** Version 2, the configured SSRC and payload type, no CSRC, no padding flag, the
    marker exactly on the last packet of a call, the payloader (given the payload unchanged) and
    its fragments unchanged and in order. -/
theorem c06_fields (cfg : Packetizer) (ops : List PkOp) (h : wf cfg ops = true) :
    fieldsOk cfg ops (cfg.run ops) = true :=
  (run_calls cfg cfg ⟨rfl, rfl, rfl⟩ (wf_parts h).1 ops (wf_parts h).2.1).2.1

/-- **c06_abs.** With abs-send-time enabled (id 1–14) exactly the last packet of a call carries
    the extension, exactly one element, whose value is the low 24 bits of `toNtpTime(now) >> 14`;
    with it disabled no packet carries an extension. -/
theorem c06_abs (cfg : Packetizer) (ops : List PkOp) (h : wf cfg ops = true) :
    absWalk cfg.absId ops (cfg.run ops) = true :=
  (run_calls cfg cfg ⟨rfl, rfl, rfl⟩ (wf_parts h).1 ops (wf_parts h).2.1).2.2.1

/-- **c06_abs_value.** What the element holds, in the terms of the abs-send-time specification
    rather than of the Go code: the 24-bit big-endian 6.18 fixed-point number of seconds
    `absValue ns` = the NTP time of the instant in units of 2^-18 s modulo 64 s, for every clock
    reading (`ns` = `uint64(t.UnixNano())`, i.e. the Unix time in nanoseconds whenever that is ≥ 0). -/
theorem c06_abs_value (now : Int64) : absSendTimeBytes now = be24n (absValue now.toUInt64.toNat) :=
  abs_bytes_spec now

/-- 1985-06-23 09:00:00 UTC (the instant of the repo's own test): 0x400000 -/
example : absSendTimeBytes 488365200000000000 = [0x40, 0, 0] ∧ absValue 488365200000000000 = 0x400000 := by
  decide

/-- **c06_ts_closed.** The running timestamp after any history is the start timestamp plus the
    samples of the non-empty Packetize calls plus the skipped samples (mod 2^32) — unconditionally;
    together with `c06_ts` (every packet of a call carries the running timestamp at the time of the
    call) this is the closed form of the timestamp clause: the packets of the call that follows
    the history `ops` carry `cfg.ts + elapsed ops`. -/
theorem c06_ts_closed (cfg : Packetizer) (ops : List PkOp) : (execP cfg ops).ts = cfg.ts + elapsed ops :=
  execP_ts cfg ops

/-- … spelled out for the packets of one further call -/
theorem c06_ts_next_call (cfg : Packetizer) (ops : List PkOp) (pay : UInt16 → Bytes → List Bytes)
    (payload : Bytes) (samples : UInt32) (now : Int64)
    (h : wf cfg (ops ++ [.packetize pay payload samples now]) = true) (hne : payload.isEmpty = false) :
    ∀ q ∈ ((execP cfg ops).packetize pay payload samples now).2.1, q.ts = cfg.ts + elapsed ops := by
  have hw := wf_parts h
  have hall : ops.all opWf = true := by
    have := hw.2.1; rw [List.all_append, Bool.and_eq_true] at this; exact this.1
  intro q hq
  rw [packetize_eq pay _ (execP_absValid cfg hw.1 ops hall) payload hne] at hq
  rw [← execP_ts]
  exact eq_of_beq (List.all_eq_true.mp (mkPkts_ts (execP cfg ops) _ _ _) q hq)

/-- **c06_mtu.** If the payloader kept every fragment within the budget it was handed, every
    packet's `MarshalSize`, and the length of what `Marshal` returns, is at most the MTU. -/
theorem c06_mtu (cfg : Packetizer) (ops : List PkOp) (h : wf cfg ops = true) :
    mtuOk cfg ops (cfg.run ops) = true :=
  (run_calls cfg cfg ⟨rfl, rfl, rfl⟩ (wf_parts h).1 ops (wf_parts h).2.1).2.2.2.1

/-- **c06_wire.** Every media packet serialises, to exactly `MarshalSize` bytes, and parses back
    equal (the latter as modelled: the flag is what `Unmarshal ∘ Marshal` gives for a 7-bit payload type). -/
theorem c06_wire (cfg : Packetizer) (ops : List PkOp) (h : wf cfg ops = true) :
    wireOk cfg ops (cfg.run ops) = true :=
  (run_calls cfg cfg ⟨rfl, rfl, rfl⟩ (wf_parts h).1 ops (wf_parts h).2.1).2.2.2.2.1

/-- **c06_padding.** `GeneratePadding(n)` gives n packets whose serialisation is a valid
    padding-only RTP packet (RFC 3550 §5.1: P bit set, the last octet counts the padding, and the
    padding is everything after the header). -/
theorem c06_padding (cfg : Packetizer) (ops : List PkOp) (h : wf cfg ops = true) :
    paddingOk cfg ops (cfg.run ops) = true :=
  (run_calls cfg cfg ⟨rfl, rfl, rfl⟩ (wf_parts h).1 ops (wf_parts h).2.1).2.2.2.2.2

/-- **C06, whole.**  The predicate the harness evaluates on the real packetizer's behaviour holds
    of the model's behaviour, for every history on the property's domain. -/
theorem c06_hist (cfg : Packetizer) (ops : List PkOp) (h : wf cfg ops = true) :
    histOk cfg ops (cfg.run ops) = true := by
  simp only [histOk, Bool.and_eq_true]
  exact ⟨⟨⟨⟨⟨⟨⟨run_shape cfg ops, c06_seq cfg ops h⟩, c06_ts cfg ops h⟩, c06_fields cfg ops h⟩,
    c06_abs cfg ops h⟩, c06_mtu cfg ops h⟩, c06_wire cfg ops h⟩, c06_padding cfg ops h⟩

/-- the MTU bound spelled out for one call, for every MTU ≥ 20 = 12 + 8 (not only ≥ 64): a payloader that
    respects its budget yields packets of at most MTU bytes, with or without the extension -/
theorem c06_mtu_call (p : Packetizer) (hv : p.absId = 0 ∨ idValid p.absId = true) (hm : 20 ≤ p.mtu.toNat)
    (pay : UInt16 → Bytes → List Bytes) (payload : Bytes) (hne : payload.isEmpty = false)
    (samples : UInt32) (now : Int64)
    (hpay : ∀ f ∈ pay p.budget payload, f.length ≤ p.budget.toNat) :
    ∀ q ∈ (p.packetize pay payload samples now).2.1, q.marshalSize ≤ p.mtu.toNat := by
  intro q hq
  rw [packetize_eq pay p hv payload hne] at hq
  have := mkPkts_fits p p.mtu p.budget.toNat _ (extOf_ext3 p now) (budget_fits p (by split <;> omega)) p.seq _ hpay
  have := (List.all_eq_true.mp this) q hq
  simp only [fitsMtu, Bool.and_eq_true, decide_eq_true_eq] at this
  exact this.1

/-- **composition with C16** (the hypothesis of `c06_mtu` discharged for a concrete payloader):
    with the G711/G722 payloader every MTU ≥ 21 (a budget of at least one byte, which C16 needs) gives a train that is lossless (the packets'
    payloads concatenate to the payload) and MTU-bounded, with or without abs-send-time -/
theorem c06_g711_train (p : Packetizer) (hv : p.absId = 0 ∨ idValid p.absId = true) (hm : 21 ≤ p.mtu.toNat)
    (payload : Bytes) (hne : payload.isEmpty = false) (samples : UInt32) (now : Int64) :
    let pkts := (p.packetize (fun b x => g711Payload b (some x)) payload samples now).2.1
    (pkts.map (·.payload)).flatten = payload ∧ ∀ q ∈ pkts, q.marshalSize ≤ p.mtu.toNat := by
  intro pkts
  have hb : p.budget ≠ 0 := by
    intro h0
    have := budget_toNat p (by split <;> omega)
    rw [h0] at this
    change 0 = _ at this
    split at this <;> omega
  obtain ⟨h1, _, h3, _⟩ := Rtp.Props.C16.c16_split_spec p.budget hb payload
  constructor
  · show (List.map (·.payload) (p.packetize _ payload samples now).2.1).flatten = payload
    rw [packetize_eq _ p hv payload hne, mkPkts_payloads]; exact h1
  · exact c06_mtu_call p hv (by omega) _ payload hne samples now h3

/-! ### non-vacuity: concrete histories inside the domain -/

/-- MTU 100; `exOps` enables abs-send-time with id 1, packetizes 160 bytes with `exPay`, which cuts at
    the budget (80): two packets, the second full, 100 bytes on the wire; then two padding packets -/
def exCfg : Packetizer := { mtu := 100, pt := 98, ssrc := 0x1234ABCD, ts := 45678, seq := SeqState.newFixed 65535, absId := 0 }
def exPay : UInt16 → Bytes → List Bytes := fun b x => [x.take b.toNat, x.drop b.toNat]
def exOps : List PkOp := [.enableAbs 1, .packetize exPay (List.replicate 160 7) 2000 488365200000000000, .padding 2]

example : wf exCfg exOps = true := by decide
example : histOk exCfg exOps (exCfg.run exOps) = true := c06_hist _ _ (by decide)
example : (allPkts (exCfg.run exOps)).map (·.seq) = [65535, 0, 1, 2] := by decide
example : (allPkts (exCfg.run exOps)).map (·.marshalSize) = [92, 100, 267, 267] := by decide
example : (allPkts (exCfg.run exOps)).map (·.exts) = [[], [(1, [0x40, 0, 0])], [], []] := by decide

end Rtp.Props.C06
