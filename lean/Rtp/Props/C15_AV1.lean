/-
  Rtp/Props/C15_AV1.lean — the AV1 half of C15: AV1Depacketizer resynchronises at the next complete
  frame, from EVERY receiver state (which subsumes every loss pattern and every garbage prefix).
-/
import Rtp.Proofs.AV1Depack
namespace Rtp.Props.C15.AV1
open Rtp Rtp.Model Rtp.Model.AV1

/-- For every receiver state `st` (any buffered fragment, any flags) and every frame whose first
    packet is readable and has Z = 0: feeding the frame yields exactly the results, and leaves
    exactly the receiver, that a fresh depacketizer gives. -/
theorem c15_av1 (st : DSt) (frame : List Bytes) (h : Pred.C15Av1.frameStarts frame = true) :
    (depFeed st frame).1 = (depFeed {} frame).1 ∧ (frame ≠ [] → depFeed st frame = depFeed {} frame) := by
  match frame, h with
  | [], _ => simp [depFeed]
  | (b0 :: b1 :: rest) :: ps, h =>
    have hz : (b0 &&& 0x80 != 0) = false := by
      rw [z_mask_eq]; simp only [Pred.C15Av1.frameStarts] at h; simp [h]
    simp only [depFeed, depUnmarshal_z0 st {} b0 b1 rest hz]
    simp

/-- kind `c15.av1`: the predicate the harness evaluates on the real receiver holds of the model for
    every prehistory (any list of payloads, nil and garbage included) and every frame -/
theorem c15_av1_pred (pre : List (Option Bytes)) (frame : List Bytes) :
    Pred.C15Av1.resync frame (resyncObs pre frame) = true := by
  unfold Pred.C15Av1.resync resyncObs
  by_cases h : Pred.C15Av1.frameStarts frame = true
  · simp only [h, Bool.not_true, Bool.false_or, (c15_av1 _ frame h).1, BEq.rfl, Bool.true_and,
      depFeed_no_panic, List.length_map, depFeed_length]
  · simp [h]

/-- non-vacuity: a receiver holding an abandoned fragment, then a two-packet frame (Z=0,Y=1 / Z=1) -/
example :
    (depFeed { buffer := [0x30, 0xAA], z := false, y := true, n := false }
      [[0x50, 0x30, 0x01], [0x90, 0x02]]).1 = [.ok [], .ok [0x32, 0x02, 0x01, 0x02]] := by
  decide +kernel

end Rtp.Props.C15.AV1
