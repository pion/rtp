/-
  Rtp/Props/C16.lean — C16: audio payloaders split losslessly; Opus is passed through.
  Property theorems only; helper lemmas live in Rtp/Proofs/Audio.lean.
-/
import Rtp.Proofs.Audio
import Rtp.Pred.C16
namespace Rtp.Props.C16
open Rtp Rtp.Model Rtp.Pred

/-- G711/G722 (the two Go payloaders have the same body: one model function `g711Payload`), every MTU ≥ 1
    and every input (no length bound): the predicate the harness
    evaluates on the real code's output holds of the model's output. -/
theorem c16_split (mtu : UInt16) (hm : mtu ≠ 0) (input : Bytes) :
    Pred.C16.split mtu input (PayObs.ofFrags (g711Payload mtu (some input))) = true := by
  rw [g711Payload_some mtu (toNat_pos_of_ne_zero hm)]
  simp only [Pred.C16.split, PayObs.ofFrags, PayObs.owned, Bool.not_false, Bool.true_and, Bool.and_true,
    Bool.and_eq_true, beq_iff_eq, List.all_eq_true, decide_eq_true_eq]
  exact ⟨⟨splitGt_flatten _ _ _, splitGt_dropLast _ _ _⟩, splitGt_le _ _ _⟩

/-- the same, spelled out without the predicate -/
theorem c16_split_spec (mtu : UInt16) (hm : mtu ≠ 0) (input : Bytes) :
    (g711Payload mtu (some input)).flatten = input ∧
    (∀ f ∈ (g711Payload mtu (some input)).dropLast, f.length = mtu.toNat) ∧
    (∀ f ∈ g711Payload mtu (some input), f.length ≤ mtu.toNat) ∧
    (input ≠ [] → ∀ f ∈ g711Payload mtu (some input), f ≠ []) := by
  rw [g711Payload_some mtu (toNat_pos_of_ne_zero hm)]
  exact splitGt_spec _ _ _

/-- non-vacuity: a concrete non-trivial instance (6 bytes at MTU 3: two full fragments) -/
example : g711Payload 3 (some [1,2,3,4,5,6]) = [[1,2,3],[4,5,6]] := by
  simp [g711Payload, splitGt]

/-- Opus payloader: exactly one fragment, equal to the input, for every MTU. -/
theorem c16_opus_pay (mtu : UInt16) (input : Bytes) :
    Pred.C16.opusPay input (PayObs.ofFrags (opusPayload mtu (some input))) = true := by
  simp [Pred.C16.opusPay, PayObs.ofFrags, PayObs.owned, opusPayload]

/-- OpusPacket: non-empty payload returned unchanged, nil and empty rejected, head and tail
    always reported. -/
theorem c16_opus_depack (input : Option Bytes) :
    Pred.C16.opusDe input
      { res := opusUnmarshal input, head := audioIsPartitionHead input,
        tail0 := audioIsPartitionTail false input, tail1 := audioIsPartitionTail true input } = true := by
  match input with
  | none => simp [Pred.C16.opusDe, opusUnmarshal, audioIsPartitionHead, audioIsPartitionTail, Res.isErr]
  | some [] => simp [Pred.C16.opusDe, opusUnmarshal, audioIsPartitionHead, audioIsPartitionTail, Res.isErr]
  | some (b :: bs) =>
    simp [Pred.C16.opusDe, opusUnmarshal, audioIsPartitionHead, audioIsPartitionTail]

end Rtp.Props.C16
