/-
  Rtp/Props/C08_H264.lean — the H264 part of C08: for every option setting, every pending state,
  every MTU 0…65535 and every input, `H264Payloader.Payload` (model) returns fragments that are
  non-empty and at most MTU bytes long; it never panics.  "Neither modifies nor retains the input"
  cannot be said of this model (`PayObs.ofFrags`: immutable values): ownership of the fragments and
  of the retained SPS/PPS is proved at the provenance level in Props/C08_Prov.lean, and observed on
  the Go side (pointer overlap, overwrite probe, pristine twin).
-/
import Rtp.Proofs.H264Size
namespace Rtp.Props.C08.H264
open Rtp Rtp.Model.H264 Rtp.Model.H264.Obs Rtp.Pred Rtp.Proofs.H264

/-- size bound and non-emptiness of every fragment, spelled out -/
theorem c08_h264_bound (disable : Bool) (mtu : UInt16) (st : PayState) (input : Bytes) :
    ∀ f ∈ (payload disable mtu st input).1, f ≠ [] ∧ f.length ≤ mtu.toNat := by
  intro f hf
  have := payload_bounded disable mtu st input f hf
  refine ⟨?_, this.2⟩
  intro h; subst h; simp at this

/-- the predicate the harness evaluates on the real payloader holds of the model's observation of
    every history of calls `(mtu, input)` (nil inputs included), with STAP-A enabled or disabled —
    the flag may even change from call to call (`flags`) -/
theorem c08_h264 (flags : List Bool) (calls : List (UInt16 × Option Bytes)) :
    C08.histOk false calls (c08Model flags calls) = true :=
  histOk_hist {} flags calls

/-- the same from any pending state (any earlier history) -/
theorem c08_h264_any_state (st : PayState) (flags : List Bool) (calls : List (UInt16 × Option Bytes)) :
    C08.histOk false calls ((payloadHist st (c08Hist flags calls)).map PayObs.ofFrags) = true :=
  histOk_hist st flags calls

/-- non-vacuity: SPS, PPS, IDR at MTU 10 — the STAP-A (5+4+3 bytes) does not fit, all three leave -/
example : (payload false 10 {} [0,0,1, 0x67,1,2,3, 0,0,1, 0x68,9,9, 0,0,1, 0x65,7]).1 =
    [[0x67,1,2,3], [0x68,9,9], [0x65,7]] := by decide +kernel

end Rtp.Props.C08.H264
