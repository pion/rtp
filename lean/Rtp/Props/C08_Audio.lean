/-
  Rtp/Props/C08_Audio.lean — C08 for the G711, G722 and Opus payloaders.
-/
import Rtp.Proofs.Audio
import Rtp.Pred.C08
namespace Rtp.Props.C08.Audio
open Rtp Rtp.Model Rtp.Pred

theorem histOk_map (opus : Bool) (f : UInt16 → Option Bytes → PayObs)
    (h : ∀ m b, C08.callOk opus m b (f m b) = true) (calls : List (UInt16 × Option Bytes)) :
    C08.histOk opus calls (calls.map fun (m, b) => f m b) = true := by
  induction calls with
  | nil => rfl
  | cons c cs ih =>
    show (C08.callOk opus c.1 c.2 (f c.1 c.2) && _) = true
    rw [h, ih]; rfl

/-- G711/G722, every MTU 0–65535 and every input (nil included): no panic (the model is total),
    every fragment ≤ MTU (at MTU 0 there is no fragment at all), no empty fragment for a non-empty input;
    ownership flags are constants of the model (observed on the real code). -/
theorem c08_split_call (mtu : UInt16) (input : Option Bytes) :
    C08.callOk false mtu input (PayObs.ofFrags (g711Payload mtu input)) = true := by
  unfold C08.callOk PayObs.ofFrags PayObs.owned g711Payload
  cases input with
  | none => simp
  | some p =>
    by_cases hm : mtu.toNat = 0
    · simp [hm]
    · simp only [hm, dite_false, Bool.not_false, Bool.true_and, Bool.and_true, Bool.false_or,
        Option.getD_some, Bool.and_eq_true, Bool.or_eq_true, List.all_eq_true, decide_eq_true_eq,
        List.isEmpty_iff, Bool.not_eq_true']
      refine ⟨fun f hf => splitGt_le _ _ _ f hf, ?_⟩
      by_cases hp : p = []
      · exact Or.inl hp
      · right
        intro f hf
        have := splitGt_nonempty _ (Nat.pos_of_ne_zero hm) p hp f hf
        cases f with
        | nil => exact absurd rfl this
        | cons _ _ => rfl

/-- … for every history of calls on one instance (the payloader is stateless); the function mapped over
    the calls is the model of the `c08.g711` / `c08.g722` handler (Driver/Kinds/Audio.lean) -/
theorem c08_split_hist (calls : List (UInt16 × Option Bytes)) :
    C08.histOk false calls (calls.map fun (m, b) => PayObs.ofFrags (g711Payload m b)) = true :=
  histOk_map false (fun m b => PayObs.ofFrags (g711Payload m b)) c08_split_call calls

/-- Opus: one fragment equal to the input (the MTU is ignored by design), nothing for nil -/
theorem c08_opus_call (mtu : UInt16) (input : Option Bytes) :
    C08.callOk true mtu input (PayObs.ofFrags (opusPayload mtu input)) = true := by
  unfold C08.callOk PayObs.ofFrags PayObs.owned opusPayload
  cases input with
  | none => simp
  | some p => cases p <;> simp

/-- Opus returns the input as exactly one fragment, whatever the MTU (0 included), over any history -/
theorem c08_opus_one_fragment (calls : List (UInt16 × Option Bytes)) :
    C08.opusOneFragment calls (calls.map fun (m, b) => PayObs.ofFrags (opusPayload m b)) = true := by
  induction calls with
  | nil => rfl
  | cons c cs ih =>
    obtain ⟨m, b⟩ := c
    cases b with
    | none => exact ih
    | some p =>
      show (([p] : List Bytes) == [p] && _) = true
      rw [beq_self_eq_true]; exact ih

theorem c08_opus_hist (calls : List (UInt16 × Option Bytes)) :
    C08.histOk true calls (calls.map fun (m, b) => PayObs.ofFrags (opusPayload m b)) = true :=
  histOk_map true (fun m b => PayObs.ofFrags (opusPayload m b)) c08_opus_call calls

example : g711Payload 2 (some [1,2,3]) = [[1,2],[3]] := by simp [g711Payload, splitGt]

end Rtp.Props.C08.Audio
