/-
  Rtp/Props/C05.lean — C05: the header extension accessors behave as an ordered map that survives
  the wire.  The proofs are in Rtp/Proofs/HeaderExt*.lean; most theorems here name their results.

  Every theorem quantifies over ALL headers / start states / operation lists (ids 0–255, values of
  any length).  The refinement and history theorems need only `noGhost` — no elements while the X
  flag is off (true of a struct literal without elements or with X on, of whatever Unmarshal
  returns, `c05_start_noGhost`, and preserved by the accessors, `c05_refines_step`); the invariant
  theorems speak of `legal` (called `Inv` in DESIGN §6).  The wire theorems take C01's header round
  trip as a hypothesis `hrt : HeaderRoundTrip`, because it is a theorem of Rtp/Props/C01.lean, which
  lies above the proof files; Rtp/Props/C05Closed.lean plugs it in.  Rtp/Props/C05Full.lean has the
  facts about one-byte elements with id 0.  Of the two predicate theorems `c05_pred_model` is the
  one whose hypotheses (`wf`, `finalWf`) the driver evaluates on every input;
  `c05_pred_model_full_proved` has the start states and the size bound of the property itself
  (`startDomain`, `sizeOk`) as hypotheses; neither pair of hypotheses implies the other.
-/
import Rtp.Proofs.HeaderExtSpec
import Rtp.Proofs.HeaderExtId0
namespace Rtp.Props.C05
open Rtp Rtp.Model Rtp.Pred Rtp.Pred.C05 Rtp.Proofs.HeaderExt
open Rtp.Spec.OrderedMap (Map Op)

/-- an operation that returns an error leaves the header unchanged -/
theorem c05_error_unchanged (h : Header) (op : Op) (e : Err) (h' : Header)
    (hs : modelStep h op = (some e, h')) : h' = h :=
  step_err_unchanged h op e h' hs

/-- … spelled out for the two accessors -/
theorem c05_error_unchanged_set (h : Header) (id : UInt8) (v : Bytes) (e : Err) (h' : Header)
    (hs : setExtension h id v = (some e, h')) : h' = h := step_err_unchanged h (.set id v) e h' hs

theorem c05_error_unchanged_del (h : Header) (id : UInt8) (e : Err) (h' : Header)
    (hs : delExtension h id = (some e, h')) : h' = h := step_err_unchanged h (.del id) e h' hs

/-- nothing panics: SetExtension / DelExtension are total in the model (their result type has no
    panic case), and Marshal / MarshalTo of ANY header — whatever the accessors or a struct literal
    left behind, including a legacy profile without element — return a value or an error. -/
theorem c05_nopanic (h : Header) (dst : Bytes) :
    hdrMarshal h ≠ .panic ∧ hdrMarshalTo h dst ≠ .panic :=
  ⟨Proofs.PacketRt.hdrMarshal_ne_panic h, Proofs.PacketRt.hdrMarshalTo_ne_panic h dst⟩

/-- the invariant `legal` (every element is one SetExtension accepts for the profile, a legacy block
    has at most one element, no element while X is off) is preserved by every operation, accepted or not -/
theorem c05_inv (h : Header) (op : Op) (hl : legal h = true) : legal (modelStep h op).2 = true :=
  legal_step h op hl

/-- … hence by every history -/
theorem c05_inv_history (ops : List Op) (h : Header) (hl : legal h = true) :
    legal (modelSteps h ops).2 = true :=
  modelSteps_inv legal_step ops h hl

/-- a fresh header, and a header with X on and no element for any profile `p` (the one- and
    two-byte profiles spelled out), satisfy `legal` -/
theorem c05_inv_start (p : UInt16) :
    legal {} = true ∧ legal { extension := true, extProfile := profileOneByte } = true ∧
    legal { extension := true, extProfile := profileTwoByte } = true ∧
    legal { extension := true, extProfile := p } = true := by
  refine ⟨by decide, by decide, by decide, ?_⟩
  unfold legal
  by_cases h : (p == profileOneByte || p == profileTwoByte) = true <;> simp [h]

/-- start states from the wire: whatever Header.Unmarshal produces from any bytes into any receiver
    satisfies `legal`, except that the one-byte parser admits an element with id 0 (header byte
    0x01–0x0F: id 0, 2–16 bytes), which SetExtension refuses; such elements survive the wire but are
    outside the acceptance table, hence the side condition. -/
theorem c05_inv_wire_start (r : Header) (buf : Bytes) (h : Header) (n : Nat)
    (hok : hdrUnmarshal r buf = .ok (h, n))
    (hid : h.extProfile = profileOneByte → ∀ e ∈ h.exts, e.id ≠ 0) : legal h = true :=
  Rtp.Proofs.HeaderExtId0.hdrUnmarshal_legal r buf h n hok hid

/-- refinement: for every start state without ghost elements and every operation list, the model's
    accessors produce exactly the trace of Spec.OrderedMap (accepted?, ids, values after every
    operation), where the specification state is the X flag, the profile and the element list. -/
theorem c05_refines (h : Header) (ops : List Op) (hg : noGhost h = true) :
    modelTrace h ops = Spec.OrderedMap.trace (abs h) ops :=
  trace_refines ops h hg

/-- one step of the refinement, with the state: accepted?, new state, and the hypothesis persists -/
theorem c05_refines_step (h : Header) (op : Op) (hg : noGhost h = true) :
    (modelStep h op).1.isNone = ((abs h).step op).1 ∧
    abs (modelStep h op).2 = ((abs h).step op).2 ∧
    noGhost (modelStep h op).2 = true :=
  step_refines h op hg

/-- whatever Header.Unmarshal produced, from any bytes into any receiver, has no ghost elements
    (a struct literal with an empty element list has none by definition) -/
theorem c05_start_noGhost (r : Header) (buf : Bytes) (h : Header) (n : Nat)
    (hok : hdrUnmarshal r buf = .ok (h, n)) : noGhost h = true :=
  (Rtp.Proofs.HeaderExtId0.hdrUnmarshal_inv0 r buf h n hok).1.1

/-- the history part of the predicate, for every start state and operation list: the reads after
    every operation show exactly the association list obtained by folding the accepted operations,
    refused operations change nothing, nothing panics. -/
theorem c05_history (s : Start) (ops : List Op) (hwf : wf s = true) :
    ∃ h, startHeader s = some h ∧
      readsOk (view h) [] (modelReads h []) = true ∧
      foldOk (view h) (h.extension, h.extProfile) ops (modelSteps h ops).1 =
        some (view (modelSteps h ops).2) := by
  obtain ⟨h, hs, hg⟩ := (wf_iff s).mp hwf
  exact ⟨h, hs, readsOk_model h [], (foldOk_model ops h hg).1⟩

/-- Marshal may refuse only a legacy-profile value that is not a whole number of 32-bit words -/
theorem c05_marshal_err (h : Header) (e : Err) (he : hdrMarshal h = .err e) :
    h.extension = true ∧ isLegacy h.extProfile = true ∧
    ∃ x rest, h.exts = x :: rest ∧ x.payload.length % 4 ≠ 0 :=
  hdrMarshal_err h e he

/-- a value SetExtension accepted is what GetExtension returns -/
theorem c05_set_get (h : Header) (id : UInt8) (v : Bytes) (h' : Header) (hg : noGhost h = true)
    (hs : setExtension h id v = (none, h')) : getExtension h' id = some v :=
  set_get h id v h' hg hs

/-- every accepted value survives the wire: if the header after an accepted SetExtension is in the
    domain of C01's round trip, Marshal succeeds and GetExtension on the decoded header (any
    receiver) returns every value unchanged — in particular the one just set. -/
theorem c05_wire (hrt : HeaderRoundTrip) (h : Header) (id : UInt8) (v : Bytes) (h' : Header)
    (hg : noGhost h = true) (hs : setExtension h id v = (none, h')) (hw : C01.wfH h' = true) :
    ∃ bs, hdrMarshal h' = .ok bs ∧
      ∀ r : Header, ∃ h'', hdrUnmarshal r bs = .ok (h'', bs.length) ∧
        (∀ k, getExtension h'' k = getExtension h' k) ∧ getExtension h'' id = some v := by
  obtain ⟨bs, hm, hun⟩ := hrt h' hw
  refine ⟨bs, hm, fun r => ?_⟩
  obtain ⟨h'', hu, hc⟩ := hun r
  refine ⟨h'', hu, fun k => getExtension_of_canon_eq h'' h' hc k, ?_⟩
  rw [getExtension_of_canon_eq h'' h' hc, c05_set_get h id v h' hg hs]

/-- `legal` gives the element part of C01's domain: a header that satisfies `legal`, whose legacy value
    (if any) is whole words, has legal extensions in the sense of C01 — unless it is a legacy
    header without element, which marshals to an empty block that decodes as one empty element. -/
theorem c05_inv_extsLegal (h : Header) (hl : legal h = true)
    (hleg : isLegacy h.extProfile = true → h.extension = true →
      ∃ e, h.exts = [e] ∧ e.payload.length % 4 = 0) :
    C01.extsLegal h = true :=
  extsLegal_of_legal h hl hleg

/-- C05's wire statement in the form of DESIGN §6: on a header that satisfies `legal`, with sane
    fixed fields (version < 4, PT < 128, ≤ 15 CSRCs) and a block that fits the 16-bit word count,
    every value SetExtension accepts — for a legacy profile: of whole words, the one case Marshal
    may refuse (`c05_marshal_err`) — comes back unchanged after Marshal and Unmarshal. -/
theorem c05_wire_inv (hrt : HeaderRoundTrip) (h : Header) (id : UInt8) (v : Bytes) (h' : Header)
    (hl : legal h = true) (hs : setExtension h id v = (none, h'))
    (hfix : h.version.toNat < 4 ∧ h.payloadType.toNat < 128 ∧ h.csrc.length ≤ 15)
    (hsize : extBodySize h' ≤ 65535 * 4)
    (hleg : isLegacy h'.extProfile = true → v.length % 4 = 0) :
    ∃ bs, hdrMarshal h' = .ok bs ∧
      ∀ r : Header, ∃ h'', hdrUnmarshal r bs = .ok (h'', bs.length) ∧
        (∀ k, getExtension h'' k = getExtension h' k) ∧ getExtension h'' id = some v :=
  c05_wire hrt h id v h' (legal_noGhost h hl) hs (wfH_of_set h id v h' hl hs ((fixedOk_iff h).mpr hfix) hsize hleg)

/-- main theorem, in the shape the driver evaluates on the real code: for every start state and
    every operation list that meet the hypotheses (`wf`: no ghost elements; `finalWf`: the final
    header is in the domain of C01's round trip, or Marshal refuses it, or it shows no element), the
    model's observation satisfies the predicate.  `hrt` is C01's header round trip. -/
theorem c05_pred_model (hrt : HeaderRoundTrip) (s : Start) (ops : List Op)
    (hwf : wf s = true) (hfw : finalWf s ops = true) :
    Pred.C05.pred s ops (Pred.C05.modelObs s ops) = true := by
  obtain ⟨h, hs, hg⟩ := (wf_iff s).mp hwf
  rw [pred_eq_finalOk s ops h hs hg]
  simp only [finalWf, finalHeader, hs, Option.map_some] at hfw
  exact finalOk_model hrt _ hfw

/-- what the executable predicate says at the surface (the complete meaning is the definition of
    `foldOk` / `readsOk` / `finalOk` in Rtp/Pred/C05.lean, which mention Spec.OrderedMap only): one
    observation per operation and none of them a panic, Marshal did not panic, the initial reads
    show the start map, and the history folds to a map against which the final clause holds —
    provided the start state existed (`hs`; otherwise the predicate is true and says nothing). -/
theorem c05_pred_meaning (s : Start) (ops : List Op) (o : Obs) (h : Pred.C05.pred s ops o = true)
    (hs : o.startOk = true) :
    o.steps.length = ops.length ∧ (∀ t ∈ o.steps, t.res ≠ .panic) ∧ o.final.marshal ≠ .panic ∧
    readsOk o.start [] o.init = true ∧
    ∃ m, foldOk o.start (o.init.x, o.init.profile) ops o.steps = some m ∧ finalOk m o.final = true := by
  simp only [Pred.C05.pred, holds, hs, Bool.not_true, Bool.false_or, Bool.and_eq_true] at h
  obtain ⟨hr, hf⟩ := h
  cases hfold : foldOk o.start (o.init.x, o.init.profile) ops o.steps with
  | none => simp [hfold] at hf
  | some m =>
    simp only [hfold] at hf
    obtain ⟨h1, h2⟩ := foldOk_shape ops _ _ _ m hfold
    refine ⟨h1, h2, ?_, hr, m, rfl, hf⟩
    intro hc
    simp [finalOk, hc] at hf

/-- the statement of `c05_pred_model_full_proved` -/
def c05_pred_model_full : Prop :=
  HeaderRoundTrip → ∀ (s : Start) (ops : List Op), startDomain s = true → sizeOk s ops = true →
    Pred.C05.pred s ops (Pred.C05.modelObs s ops) = true

open Rtp.Proofs.HeaderExtId0 in
/-- the predicate holds of the model on every start state of the property — struct literal
    satisfying `legal` with sane fixed fields, or ANY wire image that decodes, id-0 one-byte
    elements included, into a fresh or a used receiver — and every operation list after which the
    block fits the 16-bit word count.  `legal0` (`legal`, or what the one-byte parser produces) holds
    at the start and after the history, and a header that satisfies it meets the final clause. -/
theorem c05_pred_model_full_proved : c05_pred_model_full := by
  intro hrt s ops hd hsz
  obtain ⟨h, hs, hl, hf⟩ := startDomain_legal0 s hd
  rw [pred_eq_finalOk s ops h hs (legal0_noGhost h hl)]
  apply finalOk_model0 hrt _ (legal0_steps ops h hl) (fixedOk_steps ops h hf)
  simpa [sizeOk, finalHeader, hs] using hsz

/-- a corollary: the same on the start states without a one-byte id-0 element (`startCovered`),
    which are among those of `startDomain` -/
theorem c05_pred_model_partial (hrt : HeaderRoundTrip) (s : Start) (ops : List Op)
    (hc : startCovered s = true) (hsz : sizeOk s ops = true) :
    Pred.C05.pred s ops (Pred.C05.modelObs s ops) = true :=
  c05_pred_model_full_proved hrt s ops ((Bool.and_eq_true _ _).mp hc).1 hsz

/-! ### what "ordered map" means (laws of Spec.OrderedMap, which by `c05_refines` are laws of the
    accessors): last value per id, first-insertion order, deleted ids absent -/

/-- last value per id; other ids untouched; an update keeps the order, an insertion appends -/
theorem c05_spec_set (m : Map) (id : UInt8) (v : Bytes) :
    Spec.OrderedMap.get (Spec.OrderedMap.set m id v) id = some v ∧
    (∀ k, k ≠ id → Spec.OrderedMap.get (Spec.OrderedMap.set m id v) k = Spec.OrderedMap.get m k) ∧
    Spec.OrderedMap.keys (Spec.OrderedMap.set m id v) =
      (if Spec.OrderedMap.has m id then Spec.OrderedMap.keys m else Spec.OrderedMap.keys m ++ [id]) :=
  ⟨Rtp.Proofs.HeaderExtSpec.get_set_same m id v,
   fun k hk => Rtp.Proofs.HeaderExtSpec.get_set_other m id k v hk,
   Rtp.Proofs.HeaderExtSpec.keys_set m id v⟩

/-- deletion removes the first entry of the id and nothing else; with distinct ids (every header
    not decoded from a wire image with duplicates) the id is absent afterwards, and ids stay distinct -/
theorem c05_spec_del (m : Map) (id : UInt8) :
    Spec.OrderedMap.keys (Spec.OrderedMap.del m id) = (Spec.OrderedMap.keys m).erase id ∧
    (∀ k, k ≠ id → Spec.OrderedMap.get (Spec.OrderedMap.del m id) k = Spec.OrderedMap.get m k) ∧
    ((Spec.OrderedMap.keys m).Nodup →
      Spec.OrderedMap.get (Spec.OrderedMap.del m id) id = none ∧
      (Spec.OrderedMap.keys (Spec.OrderedMap.del m id)).Nodup ∧
      ∀ v, (Spec.OrderedMap.keys (Spec.OrderedMap.set m id v)).Nodup) :=
  ⟨Rtp.Proofs.HeaderExtSpec.keys_del m id,
   fun k hk => Rtp.Proofs.HeaderExtSpec.get_del_other m id k hk,
   fun hnd => ⟨Rtp.Proofs.HeaderExtSpec.get_del_same m id hnd,
     Rtp.Proofs.HeaderExtSpec.nodup_del m id hnd,
     fun v => Rtp.Proofs.HeaderExtSpec.nodup_set m id v hnd⟩⟩

/-- the same on the model: after an accepted DelExtension on a header with distinct ids the id is
    gone, every other id reads as before -/
theorem c05_del_get (h : Header) (id : UInt8) (h' : Header) (hg : noGhost h = true)
    (hnd : (getExtensionIDs h).Nodup) (hs : delExtension h id = (none, h')) :
    getExtension h' id = none ∧ ∀ k, k ≠ id → getExtension h' k = getExtension h k := by
  have hv := step_view h (.del id) hg (by simp [modelStep, hs])
  simp only [modelStep, hs, Spec.OrderedMap.apply] at hv
  rw [ids_view] at hnd
  refine ⟨?_, fun k hk => ?_⟩
  · rw [get_view, hv]; exact Rtp.Proofs.HeaderExtSpec.get_del_same _ id hnd
  · rw [get_view, get_view, hv]; exact Rtp.Proofs.HeaderExtSpec.get_del_other _ id k hk

/-- ids that are distinct stay distinct under every operation (so, with `c05_del_get`, on every
    header that did not start from a wire image with duplicate ids a deleted id is absent) -/
theorem c05_inv_distinct (h : Header) (op : Op) (hg : noGhost h = true)
    (hnd : (getExtensionIDs h).Nodup) : (getExtensionIDs (modelStep h op).2).Nodup := by
  cases he : (modelStep h op).1 with
  | some e =>
    have : (modelStep h op).2 = h := step_err_unchanged h op e _ (by rw [← he])
    rw [this]; exact hnd
  | none =>
    rw [ids_view] at hnd ⊢
    rw [step_view h op hg he]
    cases op with
    | set id v => exact Rtp.Proofs.HeaderExtSpec.nodup_set _ id v hnd
    | del id => exact Rtp.Proofs.HeaderExtSpec.nodup_del _ id hnd

/-- The acceptance table is tight: one witness per refused class, at the level of the block bytes
    (what Marshal writes, what the parser makes of it after zero padding to a word).
    One-byte form: id 15 is the terminator (element lost); id 0 with one byte reads as padding and
    then a truncated element (decode error); id 200 comes back as id 8; an empty value is written
    as 0xFF = id 15 (lost); 17 bytes are written with length nibble 0 and the rest is misparsed
    (decode error).  Two-byte form: id 0 reads as padding (the value is then misread as an
    element); 256 bytes are written with length byte 0 (the value comes back empty). -/
theorem c05_table_sharp :
    (blockOf profileOneByte [⟨15, [7]⟩] = .ok [0xF0, 7] ∧ parseOneByte [0xF0, 7, 0, 0] = .ok ([], 3)) ∧
    (blockOf profileOneByte [⟨0, [7]⟩] = .ok [0x00, 7] ∧ parseOneByte [0x00, 7, 0, 0] = .err .shortExt) ∧
    (blockOf profileOneByte [⟨200, [7]⟩] = .ok [0x80, 7] ∧
      parseOneByte [0x80, 7, 0, 0] = .ok ([⟨8, [7]⟩], 0)) ∧
    (blockOf profileOneByte [⟨3, []⟩] = .ok [0xFF] ∧ parseOneByte [0xFF, 0, 0, 0] = .ok ([], 3)) ∧
    (blockOf profileOneByte [⟨3, List.replicate 17 9⟩] = .ok (0x30 :: List.replicate 17 9) ∧
      parseOneByte (0x30 :: List.replicate 17 9 ++ [0, 0]) = .err .shortExt) ∧
    (blockOf profileTwoByte [⟨0, [1]⟩] = .ok [0, 1, 1] ∧ parseTwoByte [0, 1, 1, 0] = .ok [⟨1, [0]⟩]) ∧
    (blockOf profileTwoByte [⟨5, List.replicate 256 0⟩] = .ok (5 :: 0 :: List.replicate 256 0) ∧
      parseTwoByte (5 :: 0 :: List.replicate 256 0) = .ok [⟨5, []⟩]) := by
  decide +kernel

/-- a history with an insertion, an update, a refused call (id 15 in the one-byte profile), a
    deletion: the model's trace, which by `c05_refines` is the specification's -/
example :
    modelTrace {} [.set 3 [1, 2], .set 5 [9], .set 3 [7], .set 15 [1], .del 5, .del 5] =
      [(true, [3], [(3, some [1, 2]), (3, some [1, 2])]),
       (true, [3, 5], [(3, some [1, 2]), (5, some [9]), (5, some [9])]),
       (true, [3, 5], [(3, some [7]), (5, some [9]), (3, some [7])]),
       (false, [3, 5], [(3, some [7]), (5, some [9]), (15, none)]),
       (true, [3], [(3, some [7]), (5, none)]),
       (false, [3], [(3, some [7]), (5, none)])] := by
  decide +kernel

/-- the hypotheses of `c05_pred_model` / `c05_pred_model_partial` are met by a non-trivial input:
    a fresh header with a history that inserts, inserts and deletes -/
example : wf (.hdr { version := 2 }) = true ∧
    finalWf (.hdr { version := 2 }) [.set 3 [1, 2], .set 5 [9], .del 3] = true ∧
    startCovered (.hdr { version := 2 }) = true ∧
    sizeOk (.hdr { version := 2 }) [.set 3 [1, 2], .set 5 [9], .del 3] = true := by
  decide +kernel

/-- Marshal of a legacy header without element is an empty block, not a panic (finding `c05_legacy_no_element_panic`) -/
example : hdrMarshal { version := 2, extension := true, extProfile := 0x1234 } =
    .ok [0x90, 0, 0, 0, 0, 0, 0, 0, 0, 0, 0, 0, 0x12, 0x34, 0, 0] := by
  decide +kernel

/-- the first SetExtension validates (findings `c05_first_extension_unvalidated`, `c05_onebyte_empty_value`): id 0, id 200 with a short value, an empty
    value, 300 bytes with a non-zero id are all refused on a fresh header -/
example : (setExtension {} 0 [7]).1 = some .idRange ∧ (setExtension {} 200 [7]).1 = some .idRange ∧
    (setExtension {} 3 []).1 = some .size ∧ (setExtension {} 5 (List.replicate 300 0)).1 = some .idRange := by
  decide +kernel

end Rtp.Props.C05
