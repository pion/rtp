/-
  Rtp/Props/C14.lean — C14: H265 packetization is lossless and RFC 7798-shaped; the parser decodes
  every form.  The property theorems, the two full statements that are false (`c14_roundtrip_full`,
  `c14_rt_flip_full`, as `Prop`s, with their refutations) and non-vacuity examples; the lemmas are in
  Rtp/Proofs/H265*.lean.
-/
import Rtp.Proofs.H265Fields
import Rtp.Proofs.H265Parse
import Rtp.Proofs.H265Rt
import Rtp.Proofs.H265Trunc
import Rtp.Proofs.H265Sound
namespace Rtp.Props.C14
open Rtp Rtp.Model.H265 Rtp.Pred Rtp.Spec.Rfc7798

/-! ## c14_fields — every header accessor is the RFC 7798 field, for all values -/

/-- all 2^16 payload headers: F, Type, LayerId, TID, IsTypeVCLUnit, Is{Aggregation,Fragmentation,
    PACI}Packet are the div/mod fields of the 16-bit word -/
theorem c14_fields_hdr (h : UInt16) : C14.hdrAccOk h (hdrAcc h) = true := by
  simp only [C14.hdrAccOk, hdrAcc, hdrF_eq, hdrType_toNat, hdrLayer_toNat, hdrTid_toNat, hdrIsVCL_eq,
    hdrIsAgg_eq, hdrIsFU_eq, hdrIsPACI_eq, beq_self_eq_true, Bool.and_self]

theorem c14_fields_fu (b : UInt8) : C14.fuAccOk b (fuAcc b) = true := by
  obtain ⟨h1, h2, h3⟩ := fu_fields b
  simp only [C14.fuAccOk, fuAcc, h1, h2, h3, beq_self_eq_true, Bool.and_self]

theorem c14_fields_paci (w : UInt16) : C14.paciAccOk w (paciAcc w) = true := by
  simp only [C14.paciAccOk, paciAcc, paciA_eq, paciCType_toNat, paciPHS_toNat, paciF0_eq, paciF1_eq,
    paciF2_eq, paciY_eq, beq_self_eq_true, Bool.and_self]

/-- all 2^24 TSCI triples (in runs of consecutive third octets, as the harness feeds them) -/
theorem c14_fields_tsci (a b : UInt8) (c0 n : Nat) : C14.tsciAccOk a b c0 (tsciAcc a b c0 n) = true := by
  induction n generalizing c0 with
  | zero => rfl
  | succ n ih => simp only [tsciAcc, C14.tsciAccOk, tsciView_word, beq_self_eq_true, ih, Bool.and_self]

/-- c14_fields: every accessor of the 16-bit payload header, the 8-bit FU header, the 16-bit PACI
    word and the 24-bit TSCI is the corresponding RFC 7798 field, for all values -/
theorem c14_fields :
    (∀ h : UInt16, C14.hdrAccOk h (hdrAcc h) = true) ∧ (∀ b : UInt8, C14.fuAccOk b (fuAcc b) = true) ∧
    (∀ w : UInt16, C14.paciAccOk w (paciAcc w) = true) ∧
    (∀ a b c : UInt8, tsciView (tsciWord a b c) = Tsci.ofBytes a b c) :=
  ⟨c14_fields_hdr, c14_fields_fu, c14_fields_paci, tsciView_word⟩

/-- the same, spelled out: the accessors of the word `TSCI()` builds from PHES octets `a b c` -/
theorem c14_fields_tsci_spec (a b c : UInt8) :
    tsciTL0 (tsciWord a b c) = a ∧ tsciIrap (tsciWord a b c) = b ∧
    tsciS (tsciWord a b c) = (c.toNat / 128 == 1) ∧ tsciE (tsciWord a b c) = (c.toNat / 64 % 2 == 1) ∧
    tsciRES (tsciWord a b c) = (c.toNat % 64).toUInt8 := by
  have h := tsciView_word a b c
  simp only [tsciView, Tsci.ofBytes, Tsci.mk.injEq] at h
  exact h

/-- non-vacuity / the witness of the finding `c14_tsci_bytes`: PHES `AA BB 80` -/
example : tsciView (tsciWord 0xAA 0xBB 0x80) = { tl0 := 0xAA, irap := 0xBB, s := true, e := false, res := 0 } := by
  decide

example : hdrAcc 0x6201 = { f := false, type := 49, vcl := false, layer := 0, tid := 1, agg := false, fu := true, paci := false } := by
  decide

/-! ## c14_decoder — H265Packet decodes every well-formed payload structure to its fields -/

/-- For every well-formed single NAL unit, aggregation, fragmentation and PACI payload (with the
    DONL/DOND fields iff the receiver is told to expect them), `H265Packet.Unmarshal` succeeds and all
    accessors — payload header fields, DONL/DOND, NALU sizes, S/E/FuType, the PACI fields, PHES,
    payload and the TSCI extension — return exactly the encoded values; IsPartitionHead is true
    except on a non-first FU. -/
theorem c14_decoder (mode : Bool) (desc : Packet) (hwf : desc.WF mode = true) :
    C14.decOk mode desc none (encode desc) (decObs mode (encode desc)) = true := by
  simp only [C14.decOk, decObs, decode_encode mode desc hwf, head_encode mode desc hwf, beq_self_eq_true,
    Bool.and_self]

/-- the same, spelled out -/
theorem c14_decoder_spec (mode : Bool) (desc : Packet) (hwf : desc.WF mode = true) :
    decode mode (some (encode desc)) = .ok { pkt := desc, tsci := desc.tsci, sizesOk := true } ∧
    isPartitionHead (encode desc) = C14.headSpec desc :=
  ⟨decode_encode mode desc hwf, head_encode mode desc hwf⟩

/-- non-vacuity: an aggregation packet with DONL/DOND, and a PACI packet carrying a TSCI -/
example : (Packet.ap ⟨false, 48, 0, 1⟩ (some 7) [0x40, 1, 9] [(some 0, [0x42, 1]), (some 1, [0x44, 1, 5, 6])]).WF true = true := by
  decide
example : encode (.ap ⟨false, 48, 0, 1⟩ (some 7) [0x40, 1, 9] [(some 0, [0x42, 1])]) =
    [0x60, 1, 0, 7, 0, 3, 0x40, 1, 9, 0, 0, 2, 0x42, 1] := by decide
example : (Packet.paci ⟨false, 50, 0, 1⟩ false 19 3 true false false false [0xAA, 0xBB, 0x80] [1, 2]).WF false = true ∧
    (Packet.paci ⟨false, 50, 0, 1⟩ false 19 3 true false false false [0xAA, 0xBB, 0x80] [1, 2]).tsci =
      some ⟨0xAA, 0xBB, true, false, 0⟩ := by decide

/-- the converse (beyond what C14 asks; it is what makes the reassembly check meaningful): whenever
    `H265Packet.Unmarshal` accepts a payload, the fields its accessors report re-encode, by the
    RFC 7798 grammar, to that very payload — nothing is invented and nothing is dropped; only an
    aggregation packet may be followed by octets that do not form a further unit.  Every NALUSize()
    equals the length of its NalUnit(). -/
theorem c14_decoder_sound (mode : Bool) (p : Option Bytes) (v : Parsed) (h : decode mode p = .ok v) :
    ∃ b t, p = some b ∧ b = encode v.pkt ++ t ∧ v.sizesOk = true ∧
      ((∀ hh d f r, v.pkt ≠ .ap hh d f r) → t = []) :=
  decode_sound mode p v h

/-- IsPartitionHead is consistent with the parser on every payload it accepts (not only on the
    well-formed ones of c14_decoder): true unless the payload decodes to a non-first FU -/
theorem c14_head_consistent (mode : Bool) (p : Bytes) (k : Pkt) (h : unmarshal mode (some p) = .ok k) :
    isPartitionHead p = C14.headSpec k.view.pkt :=
  head_consistent mode p k h

example : decode false (some [0x26, 1, 7, 8]) = .ok { pkt := .single ⟨false, 19, 0, 1⟩ none [7, 8], tsci := none, sizesOk := true } := by
  decide

/-! ## c14_truncated — truncated payloads are rejected -/

/-- Every proper prefix (`n` octets, `n` < length) of every well-formed payload structure:
    if the cut falls inside a mandatory field — payload header, DONL, FU header, PACI fields, PHES,
    the first two aggregation units, or leaves no payload octet (`n < mandatory`) — `Unmarshal`
    returns an error; otherwise exactly the shorter packet comes out (`cutPacket`): the same fields
    with the payload cut.  For an aggregation packet cut after its second unit `C14.decOk` accepts an
    error as well as the packet of the units that are complete (trailing octets that do not form a
    further unit ignored); the code does the latter (`trunc_ap`). -/
theorem c14_truncated (mode : Bool) (desc : Packet) (n : Nat) (hwf : desc.WF mode = true)
    (hn : n < (encode desc).length) :
    C14.decOk mode desc (some n) ((encode desc).take n) (decObs mode ((encode desc).take n)) = true :=
  trunc_all mode desc n hwf hn

/-- the rejecting half, spelled out -/
theorem c14_truncated_rejects (mode : Bool) (desc : Packet) (n : Nat) (hwf : desc.WF mode = true)
    (hn : n < C14.mandatory mode desc) (hn' : n < (encode desc).length) :
    (decode mode (some ((encode desc).take n))).isErr = true := by
  have := c14_truncated mode desc n hwf hn'
  simpa [C14.decOk, hn, decObs] using this

/-- what the code does with octets after a complete aggregation packet: they are ignored as long
    as they do not form a further unit (stated for any tail `t` on which the unit loop, with whatever
    fuel `k` it has left, stops at once) -/
theorem c14_ap_trailing (mode : Bool) (h : Hdr) (d : Option UInt16) (first : Bytes)
    (rest : List (Option UInt8 × Bytes)) (t : Bytes) (hwf : (Packet.ap h d first rest).WF mode = true)
    (ht : ∀ k, parseAggRest mode k t = []) :
    decode mode (some (encode (.ap h d first rest) ++ t)) =
      .ok { pkt := .ap h d first rest, tsci := none, sizesOk := true } := by
  simp only [Packet.WF, Bool.and_eq_true, Bool.not_eq_true', beq_iff_eq, decide_eq_true_eq,
    List.isEmpty_eq_false_iff, List.all_eq_true] at hwf
  obtain ⟨⟨⟨⟨⟨⟨hw, hf⟩, h48⟩, hd⟩, hfl⟩, hne⟩, hr⟩ := hwf
  exact decode_ap_trailing mode h d first rest t hw hf h48 hd hfl hne hr ht

/-- non-vacuity: an FU with DONL cut after four of its five header octets is rejected; an
    aggregation packet cut inside its third unit decodes to its first two -/
example : C14.mandatory true (.fu ⟨false, 49, 0, 1⟩ true false 19 (some 5) [1, 2]) = 6 ∧
    (decode true (some ((encode (.fu ⟨false, 49, 0, 1⟩ true false 19 (some 5) [1, 2])).take 5))).isErr = true := by
  decide
example : decode false (some ((encode (.ap ⟨false, 48, 0, 1⟩ none [0x40, 1] [(none, [0x42, 1]), (none, [0x44, 1, 7])])).take 13)) =
    .ok { pkt := .ap ⟨false, 48, 0, 1⟩ none [0x40, 1] [(none, [0x42, 1])], tsci := none, sizesOk := true } := by
  decide

/-! ## c14_roundtrip_* / c14_shape — payloader → H265Packet → reassembly per RFC 7798 -/

/-- the full statement: for every option setting, every MTU ≥ 4 (≥ 6 with AddDONL), every sequence
    of `Payload` calls on one payloader, each on the Annex-B framing of HEVC NAL units (types 0–47,
    F = 0, at least one payload octet, no inner start code, no trailing zero octet): every emitted
    payload is ≤ MTU, decodes with `H265Packet`, decodes to exactly what is on the wire, has the
    RFC 7798 shape (`shapeOk`: single NAL unit packets and FUs carry a type ≤ 47; an aggregation packet
    has ≥ 2 complete units under a Type-48 header with the minimum LayerId and TID; DONL only where
    §4.4.1–4.4.3 put it), IsPartitionHead marks exactly the first packet of
    each unit, and reassembly (`depack`: ≥ 2 FUs per train, S first, E last, F/LayerId/TID preserved)
    yields the call's units in order. -/
def c14_roundtrip_full : Prop :=
  ∀ (cfg : Cfg) (mtu : UInt16) (frames : List (List (Nat × Bytes))),
    rtWF cfg mtu frames = true → C14.rtOk cfg mtu frames (rtObs cfg mtu frames) = true

/-- `c14_roundtrip_full` outside the region of the known finding `c14_donl_fu` (AddDONL and some
    unit is fragmented): there the payloader writes a DONL into every FU (test-pinned), and the
    statement is false (`c14_donl_fu_witness`).  No bound on unit sizes, unit counts or calls. -/
theorem c14_roundtrip_partial (cfg : Cfg) (mtu : UInt16) (frames : List (List (Nat × Bytes)))
    (hwf : rtWF cfg mtu frames = true) (hreg : rtKF cfg mtu frames = false) :
    C14.rtOk cfg mtu frames (rtObs cfg mtu frames) = true := by
  -- the history with constant options and the DONL counter at 0, as an instance of the per-call theorem
  simp only [rtWF, Bool.and_eq_true, decide_eq_true_eq, List.all_eq_true] at hwf
  have h := rt_calls mtu (frames.map fun f => (cfg, f))
    (fun c hc => by obtain ⟨f, hf, rfl⟩ := List.mem_map.mp hc; exact ⟨hwf.1, hwf.2 f hf⟩) 0
    ((rtKFF_const cfg mtu 0 frames).trans hreg)
  rw [rtOkF_const, rtObsF_const] at h
  exact h

/-- c14_shape, spelled out without the predicate and WITHOUT excluding the known-finding region:
    the fragments of one `Payload` call (any value of the DONL counter; MTU ≥ 4, ≥ 6 with AddDONL: the
    smallest MTU at which an FU carries a payload octet) on a well-formed frame are
    exactly `descs.map encode` for a list of packet descriptions that are well-formed for the
    stream's DONL mode and have the RFC 7798 shape (as `H265Packet` decodes them), and they
    reassemble to the frame's units in order — on an AddDONL stream: once the two stray DONL octets
    that the payloader writes into every non-first FU are skipped (`stripDonl`, the identity on every
    other packet and on streams without DONL).  So the known finding is the *only* way in which the
    payloader's output departs from RFC 7798 on the whole domain of C14. -/
theorem c14_shape (cfg : Cfg) (mtu d : UInt16) (f : List (Nat × Bytes)) (hf : C14.frameWF f = true)
    (hmin : (if cfg.addDONL then 6 else 4) ≤ mtu.toNat) :
    ∃ descs : List Packet,
      (payload cfg mtu d (some (C14.frameBytes f))).1 = descs.map encode ∧
      (∀ p ∈ descs, p.WF cfg.addDONL = true ∧ shapeOk cfg.addDONL p = true) ∧
      depack none (descs.map (stripDonl cfg.addDONL)) = some (f.map (·.2)) :=
  payload_emits cfg mtu d f hf hmin

/-- the same for a stream without DONL, where nothing is stripped -/
theorem c14_shape_nodonl (skip : Bool) (mtu d : UInt16) (f : List (Nat × Bytes)) (hf : C14.frameWF f = true)
    (hmin : 4 ≤ mtu.toNat) :
    ∃ descs : List Packet,
      (payload ⟨false, skip⟩ mtu d (some (C14.frameBytes f))).1 = descs.map encode ∧
      (∀ p ∈ descs, p.WF false = true ∧ shapeOk false p = true) ∧
      depack none descs = some (f.map (·.2)) := by
  obtain ⟨descs, h1, h2, h3⟩ := c14_shape ⟨false, skip⟩ mtu d f hf (by simpa using hmin)
  refine ⟨descs, h1, h2, ?_⟩
  have : stripDonl false = id := funext stripDonl_false
  simpa [this] using h3

/-- without AddDONL the statement holds everywhere -/
theorem c14_roundtrip_nodonl (skip : Bool) (mtu : UInt16) (frames : List (List (Nat × Bytes)))
    (hwf : rtWF ⟨false, skip⟩ mtu frames = true) :
    C14.rtOk ⟨false, skip⟩ mtu frames (rtObs ⟨false, skip⟩ mtu frames) = true :=
  c14_roundtrip_partial _ mtu frames hwf (by simp [rtKF])

/-- the known finding, on the smallest input: AddDONL, MTU 6, one 4-byte unit `4E 06 02 03`.  The
    payloader emits two FUs, both carrying a DONL; RFC 7798 and `H265FragmentationUnitPacket`
    expect it only in the first, so the second FU's payload is `00 01 03` and the reassembled unit
    is `4E 06 02 00 01 03`. -/
theorem c14_donl_fu_witness :
    rtWF ⟨true, false⟩ 6 [[(0, [0x4E, 0x06, 0x02, 0x03])]] = true ∧
    rtKF ⟨true, false⟩ 6 [[(0, [0x4E, 0x06, 0x02, 0x03])]] = true ∧
    C14.rtOk ⟨true, false⟩ 6 [[(0, [0x4E, 0x06, 0x02, 0x03])]]
      (rtObs ⟨true, false⟩ 6 [[(0, [0x4E, 0x06, 0x02, 0x03])]]) = false := by
  decide

theorem c14_roundtrip_full_false : ¬ c14_roundtrip_full := by
  intro h
  have := h ⟨true, false⟩ 6 [[(0, [0x4E, 0x06, 0x02, 0x03])]] c14_donl_fu_witness.1
  rw [c14_donl_fu_witness.2.2] at this
  exact absurd this (by decide)

/-- non-vacuity: a frame of three units (two aggregated, one fragmented) at MTU 12 meets the
    hypotheses; so does a DONL stream of two small units at MTU 20, and a DONL stream whose one unit
    fits is outside the region -/
example : rtWF ⟨false, false⟩ 12 [[(4, [0x40, 1, 0x0c]), (3, [0x42, 1, 1, 2]),
    (3, [0x26, 1, 1, 2, 3, 4, 5, 6, 7, 8, 9, 10, 11, 12, 13])]] = true := by decide
example : rtWF ⟨true, false⟩ 20 [[(4, [0x40, 1, 0x0c]), (3, [0x42, 1, 1, 2])]] = true ∧
    rtKF ⟨true, false⟩ 20 [[(0, [0x40, 1, 0x0c])]] = false := by decide

/-! ## c14_rt_flip_* — the exported options set by hand between calls -/

/-- the full per-call statement: `AddDONL` and `SkipAggregation` are exported fields, a caller may
    set them between `Payload` calls on the same payloader.  For ANY sequence of (options, frame)
    calls at an MTU ≥ 4 (≥ 6 for the calls made with AddDONL) and ANY value `d` of the DONL counter
    the payloader carries into the first call: every call's payloads — parsed by a receiver told
    that call's DONL setting — satisfy `C14.callOk` with that call's options (≤ MTU, decode to what
    is on the wire, RFC 7798 shape, IsPartitionHead, reassembly yields the call's units in order). -/
def c14_rt_flip_full : Prop :=
  ∀ (mtu d : UInt16) (calls : List RtCall),
    rtWFF mtu calls = true → C14.rtOkF mtu calls (rtObsF mtu d calls) = true

/-- `c14_rt_flip_full` outside the region of the known finding `c14_donl_fu`, call by call (`rtKFF`:
    some call is made with AddDONL and fragments a unit; calls made without AddDONL may fragment).
    `c14_roundtrip_partial` is the instance `d = 0`, all options equal (`c14_rt_flip_const`). -/
theorem c14_rt_flip_partial (mtu d : UInt16) (calls : List RtCall)
    (hwf : rtWFF mtu calls = true) (hreg : rtKFF mtu d calls = false) :
    C14.rtOkF mtu calls (rtObsF mtu d calls) = true := by
  simp only [rtWFF, List.all_eq_true, Bool.and_eq_true, decide_eq_true_eq] at hwf
  exact rt_calls mtu calls hwf d hreg

/-- on a history with constant options the per-call observation, region, hypotheses and predicate are
    those of `c14_roundtrip_partial` (hypotheses: for `frames ≠ []`; on the empty history `rtWF` still
    asks for the MTU bound) -/
theorem c14_rt_flip_const (cfg : Cfg) (mtu : UInt16) (frames : List (List (Nat × Bytes)))
    (os : List (Option (List C14.PktObs))) :
    rtObsF mtu 0 (frames.map fun f => (cfg, f)) = rtObs cfg mtu frames ∧
    rtKFF mtu 0 (frames.map fun f => (cfg, f)) = rtKF cfg mtu frames ∧
    (frames ≠ [] → rtWFF mtu (frames.map fun f => (cfg, f)) = rtWF cfg mtu frames) ∧
    C14.rtOkF mtu (frames.map fun f => (cfg, f)) os = C14.rtOk cfg mtu frames os :=
  ⟨rtObsF_const cfg mtu 0 frames, rtKFF_const cfg mtu 0 frames, rtWFF_const cfg mtu frames,
   rtOkF_const cfg mtu frames os⟩

/-- the witness of `c14_donl_fu_witness` as a one-call history: the full per-call statement is false -/
theorem c14_rt_flip_full_false : ¬ c14_rt_flip_full := by
  intro h
  have := h 6 0 [(⟨true, false⟩, [(0, [0x4E, 0x06, 0x02, 0x03])])] (by decide)
  exact absurd this (by decide)

/-- non-vacuity: MTU 12, a payloader whose DONL counter stands at 7.  Call 1 with AddDONL sends one
    unit (DONL 7); the caller clears AddDONL and sets SkipAggregation, call 2 fragments a 15-byte
    unit into two FUs without DONL; the caller sets AddDONL again, call 3 sends one unit with DONL 8
    (the counter is carried across the calls made without AddDONL).  The hypotheses hold, the history
    is outside the region, and the payloads are as written. -/
example :
    let calls : List RtCall :=
      [(⟨true, false⟩, [(0, [0x40, 1, 0x0c])]),
       (⟨false, true⟩, [(0, [0x26, 1, 1, 2, 3, 4, 5, 6, 7, 8, 9, 10, 11, 12, 13])]),
       (⟨true, false⟩, [(0, [0x44, 1, 9])])]
    rtWFF 12 calls = true ∧ rtKFF 12 7 calls = false ∧
    rtPayloadsF 12 7 calls =
      [[[0x40, 1, 0, 7, 0x0c]],
       [[0x62, 1, 0x93, 1, 2, 3, 4, 5, 6, 7, 8, 9], [0x62, 1, 0x53, 10, 11, 12, 13]],
       [[0x44, 1, 0, 8, 9]]] := by
  decide

end Rtp.Props.C14
