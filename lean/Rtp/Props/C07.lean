/-
  Rtp/Props/C07.lean — C07: Sequencer is a linearizable 16-bit counter with exact rollover count.
  Property theorems; the lemmas are in Rtp/Proofs/Sequencer.lean, SequencerConc.lean, Linearize.lean.

  Partial in one respect, by design: `sync.Mutex` (mutual exclusion, and sequentially consistent
  access to the two fields it guards) and the Go memory model are *assumed* — they are the
  semantics of `lock`/`unlock` in the small-step system of `c07_interleaving`.  The source-side
  tie is the kind `c07.facts` (both methods lock first and defer the unlock, nobody else touches
  the fields) and the concurrent stress `c07.hist`.
-/
import Rtp.Proofs.Sequencer
import Rtp.Proofs.SequencerConc
import Rtp.Proofs.Linearize
namespace Rtp.Props.C07
open Rtp Rtp.Model Rtp.Model.SeqConc Rtp.Spec.Counter Rtp.Pred.C07 Rtp.Proofs.Sequencer Rtp.Proofs.SequencerConc

/-- **c07_sequential.**  For every start (any fixed value; any random initial value the
    generator can return) and every program of calls, of any length: the predicate the harness
    evaluates on the real sequencer — values consecutive mod 2^16 (so 65535 is followed by 0),
    first value as promised, every `RollOverCount` read equal to the number of zeros issued so
    far — holds of the model's run. -/
theorem c07_sequential (st : Start) (hwf : st.wf = true) (ops : List Op) :
    runOk st ops (st.state.run ops) = true := by
  rw [run_refines _ _ (start_rep st)]
  have hlt := st.state.seq.toNat_lt
  apply walk_spec
  · omega
  · right
    refine ⟨rfl, ?_⟩
    cases st with
    | fixed s => simp [firstOk, Start.state, first_fixed]
    | random r =>
      have h : r < SeqState.maxInitialRandom := by simpa [Start.wf] using hwf
      simp only [firstOk, Start.state, first_random r h, decide_eq_true_eq]
      simp only [SeqState.maxInitialRandom] at h; omega

example : runOk (.fixed 65534) [.next, .next, .roc, .next, .roc, .next]
    ((Start.fixed 65534).state.run [.next, .next, .roc, .next, .roc, .next]) = true := by decide
example : (Start.fixed 65534).state.run [.next, .next, .roc, .next, .roc, .next] = [65534, 65535, 0, 0, 1, 1] := by
  decide

/-- **the predicate is complete for fixed sequencers**: it does not merely hold of the model's
    run, it determines the run — any observation of a fixed sequencer that satisfies `runOk` is, value
    for value, the model's.  (So on `c07.run` cases with a fixed start "the predicate holds of the
    real code" and "the real code agrees with the model" are the same statement.) -/
theorem c07_sequential_unique (s : UInt16) (ops : List Op) (obs : List Nat)
    (h : runOk (.fixed s) ops obs = true) : obs = (SeqState.newFixed s).run ops := by
  have hlt := (SeqState.newFixed s).seq.toNat_lt
  rw [run_refines _ _ (rep_init (SeqState.newFixed s) rfl)]
  refine walk_unique (.fixed s) _ none 0 ops obs (by omega) (Or.inr ⟨rfl, ?_⟩) h
  intro v hv
  simp only [firstOk, beq_iff_eq] at hv
  rw [hv, first_fixed]

/-- the sequential model is the abstract counter of Rtp/Spec/Counter.lean (k-th value issued =
    (start + k) mod 2^16, roll-over count = (start + k) div 2^16), for every program -/
theorem c07_refines_counter (st : Start) (ops : List Op) :
    st.state.run ops = Spec.Counter.run st.state.seq.toNat ops :=
  run_refines _ _ (start_rep st) ops

/-- **no gaps, no duplicates** (the first sentence of the property, spelled out): the values handed
    out by the `NextSequenceNumber` calls of any program are, in order, first, first+1, first+2, …
    mod 2^16, where `first` is the stored initial value + 1 — for a fixed sequencer its start value -/
theorem c07_values (st : Start) (ops : List Op) :
    nextResults ops (st.state.run ops) =
      (List.range (nexts ops)).map (fun k => (st.state.seq.toNat + 1 + k) % 65536) := by
  rw [c07_refines_counter, counter_nextResults]

/-- … for a fixed sequencer: the k-th value handed out is `s + k` mod 2^16 -/
theorem c07_values_fixed (s : UInt16) (ops : List Op) :
    nextResults ops ((SeqState.newFixed s).run ops) =
      (List.range (nexts ops)).map (fun k => (s.toNat + k) % 65536) := by
  rw [show SeqState.newFixed s = (Start.fixed s).state from rfl, c07_values]
  apply List.map_congr_left
  intro k _
  show ((SeqState.newFixed s).seq.toNat + 1 + k) % 65536 = _
  rw [← Nat.mod_add_mod ((SeqState.newFixed s).seq.toNat + 1), first_fixed]

example : nextResults [.next, .roc, .next, .next] ((SeqState.newFixed 65535).run [.next, .roc, .next, .next])
    = [65535, 0, 1] := by decide

/-- **long runs** (kind `c07.long`): after ANY number `k` of `NextSequenceNumber` calls — 2^32 and more,
    i.e. 65536 and more roll-overs — the results of a further program are those of the abstract counter
    at count `stored initial value + k`: values continue mod 2^16 and `RollOverCount` is
    `(initial + k + …) div 2^16` (mod 2^64), with no 16- or 32-bit truncation anywhere -/
theorem c07_long (st : Start) (k : Nat) (ops : List Op) :
    (st.state.run (List.replicate k .next ++ ops)).drop k =
      Spec.Counter.run (st.state.seq.toNat + k) ops := by
  rw [c07_refines_counter, counter_run_skip]

example : ((Start.fixed 0).state.run (List.replicate 65537 .next ++ [.roc, .next])).drop 65537
    = Spec.Counter.run (65535 + 65537) [.roc, .next] := c07_long _ _ _

/-- `RollOverCount·65536 + value` is the extended count: it starts at the stored initial value and
    grows by exactly one with every `NextSequenceNumber` (hence strictly increases in issue
    order) — as long as the 64-bit roll-over counter itself has not wrapped (2^80 calls). -/
theorem c07_extended_count (st : Start) (ops : List Op)
    (hsmall : st.state.seq.toNat + nexts ops < 2 ^ 64 * 65536) :
    (st.state.exec ops).roc.toNat * 65536 + (st.state.exec ops).seq.toNat
      = st.state.seq.toNat + nexts ops := by
  have h := exec_refines _ _ (start_rep st) ops
  rw [exec_eq] at h
  rw [h.1, h.2, Nat.mod_eq_of_lt (Nat.div_lt_of_lt_mul (by rw [Nat.mul_comm]; exact hsmall))]
  exact Nat.div_add_mod' _ _

example : ((Start.fixed 65535).state.exec [.next, .next, .roc, .next]).roc = 1 ∧
          ((Start.fixed 65535).state.exec [.next, .next, .roc, .next]).seq = 1 := by decide

/-- **c07_start.**  A fixed sequencer's first value is its start value; a random sequencer's
    first value is below 2^15 (given randutil's contract `Intn(n) < n`). -/
theorem c07_start :
    (∀ s : UInt16, (SeqState.newFixed s).next.1 = s) ∧
    (∀ r : Nat, r < SeqState.maxInitialRandom → (SeqState.newRandom r).next.1.toNat < 2 ^ 15) := by
  constructor
  · intro s
    apply UInt16.toNat_inj.mp
    rw [next_val _ _ (rep_init _ rfl), first_fixed]
  · intro r h
    rw [next_val _ _ (rep_init _ rfl), first_random r h]
    simp only [SeqState.maxInitialRandom] at h; omega

example : (SeqState.newFixed 0).next.1 = 0 ∧ (SeqState.newFixed 0).seq = 65535 := by decide

/-- **c07_interleaving.**  The small-step system of Rtp/Model/Sequencer.lean: any number of threads
    (`prog i` is thread i's list of calls; all but finitely many may be empty — or not), any initial
    state, ANY schedule.  Whenever no call is in flight, the log of completed calls in
    lock-release (= lock-acquisition) order

    * is a legal sequential history of the sequencer: replaying it on the sequential model
      reproduces every returned value (`replayOk`),
    * respects real-time order: no call in it returned (drew its `after` ticket) before a call
      placed earlier was invoked (drew its `before` ticket) (`rtOk`),
    * contains, per thread and in program order, exactly the calls that thread has made.

    That is linearizability; the facts of `c07_sequential` therefore hold in that order. -/
theorem c07_interleaving (s0 : SeqState) (prog : Nat → List Op) (sched : List Nat) (s : Sys)
    (hrun : (Sys.init s0 prog).run sched = some s) (hq : s.Quiescent) :
    isLinearization s0 s.lin = true ∧ (∀ i, doneBy s i ++ (s.thr i).todo = prog i) :=
  ⟨inv_quiescent (run_keeps (inv_init s0 prog) (prog_init s0 prog) sched hrun).1 hq,
    (run_keeps (inv_init s0 prog) (prog_init s0 prog) sched hrun).2⟩

/-- non-vacuity: two threads contend near the wrap; thread 1 acquires the mutex first although
    thread 0 drew its ticket first (thread 0 cannot move while the mutex is held: a schedule naming
    it then is not an execution); the run is complete and its log is as shown -/
def exProg : Nat → List Op
  | 0 => [.next, .roc]
  | 1 => [.next]
  | _ => []
def exSched : List Nat := [0, 1, 1, 1, 1, 1, 1, 1, 0, 1, 0, 0, 0, 0, 0, 0, 0, 0, 0, 0, 0, 0, 0]

example : ((Sys.init (SeqState.newFixed 65535) exProg).run [0, 1, 1, 0]).isNone = true := by decide
example : ((Sys.init (SeqState.newFixed 65535) exProg).run exSched).map (·.lin) =
    some [{ g := 1, op := .next, before := 2, after := 3, res := 65535 },
          { g := 0, op := .next, before := 1, after := 4, res := 0 },
          { g := 0, op := .roc, before := 5, after := 6, res := 1 }] := by decide
example : ∃ s, (Sys.init (SeqState.newFixed 65535) exProg).run exSched = some s ∧ s.Complete := by
  refine ⟨_, rfl, ?_⟩
  intro i
  match i with
  | 0 => decide
  | 1 => decide
  | n + 2 => exact ⟨rfl, rfl⟩

/-- the same for complete executions, as a statement about the history as a *set* of calls (what
    the harness records per goroutine): it is `Linearizable`, and thread i's calls are `prog i` -/
theorem c07_interleaving_complete (s0 : SeqState) (prog : Nat → List Op) (sched : List Nat) (s : Sys)
    (hrun : (Sys.init s0 prog).run sched = some s) (hc : s.Complete) :
    (∀ H : List Call, H.Perm s.lin → Linearizable s0 H) ∧ (∀ i, doneBy s i = prog i) := by
  obtain ⟨h1, h2⟩ := c07_interleaving s0 prog sched s hrun (fun i => (hc i).1)
  refine ⟨fun H hH => ⟨s.lin, hH.symm, h1⟩, fun i => ?_⟩
  have := h2 i
  rw [(hc i).2, List.append_nil] at this
  exact this

/-- … hence what `c07_sequential` says holds of the values in linearization order: for a sequencer
    made by one of the two constructors, the log's results satisfy the sequential predicate -/
theorem c07_interleaving_values (st : Start) (hwf : st.wf = true) (prog : Nat → List Op) (sched : List Nat)
    (s : Sys) (hrun : (Sys.init st.state prog).run sched = some s) (hq : s.Quiescent) :
    runOk st (s.lin.map (·.op)) (s.lin.map (·.res)) = true := by
  have h := (c07_interleaving st.state prog sched s hrun hq).1
  simp only [isLinearization, Bool.and_eq_true] at h
  rw [replayOk_run _ _ h.1.2]
  exact c07_sequential st hwf _

/-- … and, spelled out, in that order every successive 16-bit value is handed out exactly once -/
theorem c07_interleaving_no_gaps (s0 : SeqState) (hroc : s0.roc = 0) (prog : Nat → List Op) (sched : List Nat)
    (s : Sys) (hrun : (Sys.init s0 prog).run sched = some s) (hq : s.Quiescent) :
    nextResults (s.lin.map (·.op)) (s.lin.map (·.res)) =
      (List.range (nexts (s.lin.map (·.op)))).map (fun k => (s0.seq.toNat + 1 + k) % 65536) := by
  have h := (c07_interleaving s0 prog sched s hrun hq).1
  simp only [isLinearization, Bool.and_eq_true] at h
  rw [replayOk_run _ _ h.1.2, run_refines _ _ (rep_init _ hroc), counter_nextResults]

/-- **c07_linearizable_iff.**  The executable check the driver runs on recorded histories
    (`Pred.C07.linearizable`, a greedy search) decides linearizability exactly: it accepts a
    history if AND ONLY IF some permutation of it is a legal sequential history respecting
    real-time order.  Soundness: no non-linearizable behaviour of the real sequencer can pass.
    Completeness: the check never raises a false alarm. -/
theorem c07_linearizable_iff (s0 : SeqState) (H : List Call) :
    linearizable s0 H = true ↔ Linearizable s0 H :=
  ⟨Rtp.Proofs.Linearize.linearizable_sound s0 H, Rtp.Proofs.Linearize.linearizable_complete s0 H⟩

/-- **c07_interleaving_pred.**  `c07_interleaving` in the shape "the predicate evaluated on the
    real code holds of the model": every history the small-step system can produce — the completed
    calls of any quiescent state, handed over in ANY order — passes the run-time check. -/
theorem c07_interleaving_pred (s0 : SeqState) (prog : Nat → List Op) (sched : List Nat) (s : Sys)
    (hrun : (Sys.init s0 prog).run sched = some s) (hq : s.Quiescent) (H : List Call) (hH : H.Perm s.lin) :
    linearizable s0 H = true :=
  (c07_linearizable_iff s0 H).mpr ⟨s.lin, hH.symm, (c07_interleaving s0 prog sched s hrun hq).1⟩

/-- the log of the example run above, handed over in another order, is accepted … -/
example : linearizable (SeqState.newFixed 65535)
    [{ g := 0, op := .roc, before := 5, after := 6, res := 1 },
     { g := 0, op := .next, before := 1, after := 4, res := 0 },
     { g := 1, op := .next, before := 2, after := 3, res := 65535 }] = true :=
  (c07_linearizable_iff _ _).mpr
    ⟨[{ g := 1, op := .next, before := 2, after := 3, res := 65535 },
      { g := 0, op := .next, before := 1, after := 4, res := 0 },
      { g := 0, op := .roc, before := 5, after := 6, res := 1 }], by decide, by decide⟩

/-- … the search itself (on the history sorted by `before`) finds that order … -/
example : greedy 3 (SeqState.newFixed 65535)
    [{ g := 0, op := .next, before := 1, after := 4, res := 0 },
     { g := 1, op := .next, before := 2, after := 3, res := 65535 },
     { g := 0, op := .roc, before := 5, after := 6, res := 1 }] =
    some [{ g := 1, op := .next, before := 2, after := 3, res := 65535 },
          { g := 0, op := .next, before := 1, after := 4, res := 0 },
          { g := 0, op := .roc, before := 5, after := 6, res := 1 }] := by decide

/-- … and a history in which 0 was handed out and returned before 65535 was even requested is not -/
example : greedy 2 (SeqState.newFixed 65535)
    [{ g := 0, op := .next, before := 1, after := 2, res := 0 },
     { g := 1, op := .next, before := 3, after := 4, res := 65535 }] = none := by decide

/-- the kinds `c07.facts` and `c07.randstart` have constant model observations, and these satisfy their
    predicates: the lock-discipline facts the interleaving theorem presupposes, and first values of
    random sequencers below 2^15 (given `c07_start`) -/
theorem c07_facts_model :
    factsOk { nextLocksFirst := true, nextDefersUnlock := true, rocLocksFirst := true, rocDefersUnlock := true,
              noOtherLockOps := true, fieldsPrivate := true, maxInitialRandom := SeqState.maxInitialRandom } = true := by
  decide

theorem c07_randstart_model (n lo hi : Nat) (h : hi < 2 ^ 15) : randStartOk { n := n, minFirst := lo, maxFirst := hi } = true := by
  simp only [randStartOk, decide_eq_true_eq]; omega

end Rtp.Props.C07
