/-
  Rtp/Props/C12.lean — C12: VP9 packetization is lossless; the descriptor decodes per the VP9 RTP
  payload specification; the uncompressed-header parser.
  The lemmas behind the theorems are in Rtp/Proofs/VP9*.lean; the theorems that need the header
  parser's correctness are in Rtp/Props/C12Header.lean.
-/
import Rtp.Proofs.VP9
import Rtp.Proofs.VP9Pay
import Rtp.Proofs.VP9Bits
import Rtp.Proofs.VP9HeaderSafe
namespace Rtp.Props.C12
open Rtp Rtp.Model Rtp.Pred
open Rtp.Spec.Vp9Rtp (Descriptor)

/-- `c12_decoder`: VP9Packet, in ANY receiver state, decodes every well-formed payload descriptor
    (7- and 15-bit picture ids, layer indices with and without TL0PICIDX, one to three reference
    indices, scalability structure with N_S+1 resolutions and up to 255 picture groups of up to
    three references each, whatever the reserved bits are) to exactly the encoded values and returns
    the bytes after it.  `WF 5`: pion/rtp supports spatial layer ids 0 … 4 (see `c12_sid_limit`). -/
theorem c12_decoder (d : Descriptor) (hwf : d.WF 5 = true) (p : VP9Packet) (payload : Bytes) :
    vp9Unmarshal p (some (d.encode ++ payload)) = (.ok payload, C12.expected d) :=
  Proofs.VP9.unmarshal_encode d hwf p payload

/-- IsPartitionHead is the B bit. -/
theorem c12_head (d : Descriptor) (payload : Bytes) :
    vp9IsPartitionHead (some (d.encode ++ payload)) = d.b :=
  Proofs.VP9.head_encode d payload

/-- `c12_truncated`: a descriptor cut short anywhere (0 ≤ k < its length) is rejected. -/
theorem c12_truncated (d : Descriptor) (hwf : d.WF 5 = true) (p : VP9Packet) (k : Nat)
    (hk : k < d.encode.length) : (vp9Unmarshal p (some (d.encode.take k))).1.isErr = true :=
  Proofs.VP9.unmarshal_truncated d hwf p k hk

/-- interpretation, stated rather than hidden: a layer octet with SID ≥ 5 is refused
    (errTooManySpatialLayers), although the 3-bit field of the draft can carry 5 … 7. -/
theorem c12_sid_limit (p : VP9Packet) (b : UInt8) (r : Bytes) (h : (b >>> 1) &&& 0x7 ≥ 5) :
    (vp9ParseLayerInfo p (b :: r)).1 = none :=
  Proofs.VP9.layer_sid_limit p b r h

/-- non-vacuity: flexible mode, 15-bit id, layer indices, two reference indices, an SS with two
    resolutions and two picture groups -/
example :
    let d : Descriptor :=
      { p := true, f := true, b := true, e := false, z := true, picId := some (true, 0x1234),
        layer := some { tid := 5, u := true, sid := 4, d := true }, pdiffs := [127, 3],
        ss := some { ns := 1, res := some [(640, 360), (1280, 720)],
                     pg := some [{ tid := 1, u := true, pdiffs := [9, 8] }, { tid := 7, u := false, pdiffs := [] }] } }
    d.WF 5 = true ∧
    d.encode = [0xFB, 0x92, 0x34, 0xB9, 0xFF, 0x06, 0x38, 0x02, 0x80, 0x01, 0x68, 0x05, 0x00, 0x02, 0xD0,
                0x02, 0x38, 0x09, 0x08, 0xE0] ∧
    (vp9Unmarshal {} (some (d.encode ++ [0xAA]))).1 = .ok [0xAA] ∧
    (vp9Unmarshal {} (some (d.encode ++ [0xAA]))).2.Width = [640, 1280] ∧
    (vp9Unmarshal {} (some (d.encode ++ [0xAA]))).2.PGPDiff = [[9, 8], []] := by
  decide +kernel

/-- `C12.dec` holds of the model's observation, for every descriptor, payload and cut position (decoder
    and truncation in one statement).  The check the harness evaluates for `c12.dec` is the weaker
    `c12DecZ` (Driver/Kinds/Vpx.lean: `c12DecR_of_dec`, `c12DecZ_of_decR`). -/
theorem c12_dec (d : Descriptor) (hwf : d.WF 5 = true) (payload : Bytes) (k : Nat) :
    C12.dec d payload k (d.encode ++ payload) (C12.obsDec (d.encode ++ payload) k) = true := by
  unfold C12.dec C12.obsDec
  simp only [beq_self_eq_true, Bool.true_and]
  by_cases hk : d.encode.length ≤ k
  · simp only [Proofs.Vpx.take_append_cut, hk, if_true, Proofs.VP9.unmarshal_encode d hwf, Proofs.VP9.head_encode d,
      Res.coarse, beq_self_eq_true, Bool.and_self]
  · have he := Proofs.VP9.unmarshal_truncated d hwf {} k (Nat.lt_of_not_le hk)
    simp only [Proofs.Vpx.take_append_cut, hk, if_false]
    generalize vp9Unmarshal {} (some (d.encode.take k)) = r at he
    obtain ⟨r1, r2⟩ := r
    cases r1 <;> simp_all [Res.isErr, Res.coarse]

/-- FLEXIBLE mode (the instance `flex = true` of `c12_rt`, which needs no header facts): for every injected
    initial picture id and every history of (MTU, frame) calls, feeding the payloader's output to
    ONE VP9Packet receiver satisfies the round-trip predicate `C12.rt`:
    for every non-empty frame with MTU > 3 the payloads concatenate to the frame, B / IsPartitionHead
    is set on the first packet only and E on the last only, every packet has I = F = 1 and the 15-bit
    picture id `(init mod 2^15 + call index) mod 2^15` in the two-octet form. -/
theorem c12_rt_flex (init : UInt16) (calls : List C12.Call) :
    C12.rt true init calls (C12.obsRt true init calls) = true :=
  Proofs.VP9.rt_obsRt true init calls (fun _ _ h => by cases h)

/-- the round trip in both modes (proved as `c12_rt` in Rtp/Props/C12Header.lean) -/
def c12_rt_full : Prop :=
  ∀ (flex : Bool) (init : UInt16) (calls : List C12.Call),
    C12.rt flex init calls (C12.obsRt flex init calls) = true

/-- The round trip in both modes, given for each call of the history the header facts (`HdrFacts`: the
    model of vp9.Header.Unmarshal reports the frame type and the coded width and height of a frame that
    starts with the bits of a well-formed header description; `c12_hdrFacts` shows them of every call,
    which gives `c12_rt`).  In NON-FLEXIBLE mode additionally: P = "not a key frame"
    on every packet and the first packet of a key frame carries V with exactly one spatial layer
    (N_S = 0, Y = 1) whose width and height are the coded ones. -/
theorem c12_rt_partial (flex : Bool) (init : UInt16) (calls : List C12.Call)
    (hh : ∀ c ∈ calls, flex = false → Proofs.VP9.HdrFacts c) :
    C12.rt flex init calls (C12.obsRt flex init calls) = true :=
  Proofs.VP9.rt_obsRt flex init calls hh

/-- non-vacuity: flexible mode, MTU 5, ids 0x7FFF then 0 -/
example :
    (vp9PayloadHist { flexible := true, init := 0x7FFF } [(5, some [1, 2, 3]), (5, some [4])]) =
      [[[0x98, 0xFF, 0xFF, 1, 2], [0x94, 0xFF, 0xFF, 3]], [[0x9C, 0x80, 0x00, 4]]] := by
  decide +kernel

open Rtp.Spec.Vp9Bits (bitsOf natOfBits) in
/-- codecs/vp9/bits.go: for every buffer, bit offset and width 1 … 64 that stays inside the buffer,
    readBitsUnsafe returns the number written by the `n` bits at offset `pos`, most significant bit
    first (`bitsOf` = the buffer as a bit string, each byte most significant bit first), and
    advances the position by `n`; in particular it does not panic. -/
theorem c12_bits (buf : Bytes) (pos n : Nat) (hn : 0 < n) (h64 : n ≤ 64) (h : pos + n ≤ 8 * buf.length) :
    vp9ReadBitsUnsafe buf pos n = .ok (natOfBits (((bitsOf buf).drop pos).take n), pos + n) :=
  Proofs.VP9Bits.readBitsUnsafe_eq buf pos n hn h64 h

open Rtp.Spec.Vp9Bits (bitsOf natOfBits) in
/-- readFlagUnsafe returns bit `pos` -/
theorem c12_flag (buf : Bytes) (pos : Nat) (h : pos < 8 * buf.length) :
    vp9ReadFlagUnsafe buf pos = .ok (natOfBits (((bitsOf buf).drop pos).take 1) == 1, pos + 1) :=
  Proofs.VP9Bits.readFlagUnsafe_eq buf pos h

/-- non-vacuity: 13 bits at offset 5 of `A5 3C F0`: 10100|101 00111100 11|110000 -/
example : vp9ReadBitsUnsafe [0xA5, 0x3C, 0xF0] 5 13 = .ok (0b1010011110011, 18) := by decide +kernel

/-- vp9.Header.Unmarshal never panics, whatever the input: every unchecked read is covered by the
    `hasSpace` test before it (so VP9Payloader, which runs it on every non-flexible frame, cannot
    panic there either) -/
theorem c12_header_nopanic (buf : Bytes) : vp9HeaderUnmarshal buf ≠ .panic :=
  Proofs.VP9Bits.header_nopanic buf

/-- what `c12_header` (Rtp/Props/C12Header.lean) states: on every wire that starts with the bits of a
    well-formed header description (every profile, colour configuration and size), the predicate the
    harness evaluates for `c12.hdr` holds of the model's observation -/
def c12_header_full : Prop :=
  ∀ (h : Spec.Vp9Bits.Hdr) (wire : Bytes), h.WF = true → C12.startsWith h wire = true →
    C12.hdr (some h) wire (C12.obsHdr wire) = true

end Rtp.Props.C12
