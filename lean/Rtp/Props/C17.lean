/-
  Rtp/Props/C17.lean — C17: fixed-size header-extension payload codecs are bit-exact and total.
  Property theorems only; helper lemmas live in Rtp/Proofs/ExtCodecs.lean.

  Per codec X two main theorems, both about the very predicates the driver evaluates on the real code
  (Rtp/Pred/C17.lean), for ALL values / receivers / byte strings (no enumeration, no size bound):
    c17_X_marshal    ∀ v prev,          marshalOk XSpec v (modelM X v prev)
        in-range v: Marshal = the specification's bit layout, and Unmarshal of it into any receiver
        `prev` returns v;  out-of-range AudioLevel / PlayoutDelay: Marshal returns an error
    c17_X_unmarshal  ∀ prev hist raw,   unmarshalOk XSpec raw (modelU X prev hist raw)
        |raw| ≥ size: ok, fields = the specified fields of the first `size` bytes (a function of `raw`
        alone: neither `prev` nor the earlier inputs `hist` occur in it); shorter: error; never panic
  then the pair as one `Verified X XSpec`, the same spelled out without the predicates (`c17_X_spelled`),
  totality of all ten functions (`c17_total`), and the specification's own consistency (`c17_spec_*`).
-/
import Rtp.Proofs.ExtCodecs
namespace Rtp.Props.C17
open Rtp Rtp.Model.ExtCodecs Rtp.Pred.C17 Rtp.Spec.ExtLayouts Rtp.Proofs.ExtCodecs

theorem c17_audio_marshal (v prev : AudioLevel) : marshalOk audioSpec v (modelM audio v prev) = true :=
  audio_facts.verified.m v prev

theorem c17_audio_unmarshal (prev : AudioLevel) (hist : List Bytes) (raw : Bytes) :
    unmarshalOk audioSpec raw (modelU audio prev hist raw) = true :=
  audio_facts.verified.u prev hist raw

/-- non-vacuity: level 5 with voice activity is `0x85`, and comes back from a dirty receiver -/
example : modelM audio ⟨5, true⟩ ⟨99, false⟩ = ⟨.ok [0x85], some ⟨.ok (), ⟨5, true⟩⟩⟩ := by decide +kernel
example : audioSpec.inRange ⟨5, true⟩ = true ∧ render (audioLevel true 5) = [0x85] := by decide +kernel
example : modelU audio ⟨99, true⟩ [[0xFF]] [0x05, 0xAA] = ⟨.ok (), ⟨5, false⟩⟩ ∧
    audioSpec.decode [0x05, 0xAA] = some ⟨5, false⟩ := by decide +kernel

theorem c17_tcc_marshal (v prev : TransportCC) : marshalOk tccSpec v (modelM tcc v prev) = true :=
  tcc_facts.verified.m v prev

theorem c17_tcc_unmarshal (prev : TransportCC) (hist : List Bytes) (raw : Bytes) :
    unmarshalOk tccSpec raw (modelU tcc prev hist raw) = true :=
  tcc_facts.verified.u prev hist raw

example : modelM tcc ⟨0xABCD⟩ ⟨7⟩ = ⟨.ok [0xAB, 0xCD], some ⟨.ok (), ⟨0xABCD⟩⟩⟩ := by decide +kernel
example : modelU tcc ⟨7⟩ [] [0x12, 0x34, 0x56] = ⟨.ok (), ⟨0x1234⟩⟩ ∧ modelU tcc ⟨7⟩ [] [0x12] = ⟨.err .other, ⟨7⟩⟩ := by
  decide +kernel

theorem c17_playout_marshal (v prev : PlayoutDelay) :
    marshalOk playoutSpec v (modelM playout v prev) = true :=
  playout_facts.verified.m v prev

theorem c17_playout_unmarshal (prev : PlayoutDelay) (hist : List Bytes) (raw : Bytes) :
    unmarshalOk playoutSpec raw (modelU playout prev hist raw) = true :=
  playout_facts.verified.u prev hist raw

example : modelM playout ⟨0xABC, 0x123⟩ ⟨1, 2⟩ = ⟨.ok [0xAB, 0xC1, 0x23], some ⟨.ok (), ⟨0xABC, 0x123⟩⟩⟩ := by decide +kernel
example : (modelM playout ⟨4096, 0⟩ ⟨1, 2⟩).out = .err .other ∧ playoutSpec.inRange ⟨4096, 0⟩ = false := by decide +kernel

theorem c17_abssend_marshal (v prev : AbsSendTime) :
    marshalOk absSendSpec v (modelM absSend v prev) = true :=
  absSend_facts.verified.m v prev

theorem c17_abssend_unmarshal (prev : AbsSendTime) (hist : List Bytes) (raw : Bytes) :
    unmarshalOk absSendSpec raw (modelU absSend prev hist raw) = true :=
  absSend_facts.verified.u prev hist raw

/-- a 50-bit timestamp (as NewAbsSendTimeExtension produces) is sent as its low 24 bits -/
example : modelM absSend ⟨0x3FFFF_ABCDEF⟩ ⟨1⟩ = ⟨.ok [0xAB, 0xCD, 0xEF], some ⟨.ok (), ⟨0xABCDEF⟩⟩⟩ := by decide +kernel

theorem c17_abscapture_marshal (v prev : AbsCaptureTime) :
    marshalOk absCaptureSpec v (modelM absCapture v prev) = true :=
  absCapture_facts.verified.m v prev

theorem c17_abscapture_unmarshal (prev : AbsCaptureTime) (hist : List Bytes) (raw : Bytes) :
    unmarshalOk absCaptureSpec raw (modelU absCapture prev hist raw) = true :=
  absCapture_facts.verified.u prev hist raw

example : modelM absCapture ⟨0x0102030405060708, some (-2)⟩ ⟨7, some 99⟩ =
    ⟨.ok [1, 2, 3, 4, 5, 6, 7, 8, 0xFF, 0xFF, 0xFF, 0xFF, 0xFF, 0xFF, 0xFF, 0xFE],
     some ⟨.ok (), ⟨0x0102030405060708, some (-2)⟩⟩⟩ := by decide +kernel
/-- the short form clears the offset of a dirty receiver -/
example : modelM absCapture ⟨5, none⟩ ⟨7, some 99⟩ = ⟨.ok [0, 0, 0, 0, 0, 0, 0, 5], some ⟨.ok (), ⟨5, none⟩⟩⟩ := by decide +kernel

/-- finding `c17_abscapture_stale_offset` on the repaired model: 16 bytes, then 8 bytes into the same receiver —
    the offset of the first input is gone -/
example : modelU absCapture ⟨0, none⟩ [[0,0,0,0,0,0,0,1, 0xFF,0xFF,0xFF,0xFF,0xFF,0xFF,0xFF,0xFE]]
    [0,0,0,0,0,0,0,2] = ⟨.ok (), ⟨2, none⟩⟩ := by decide +kernel
example : absCapture.history ⟨0, none⟩ [[0,0,0,0,0,0,0,1, 0xFF,0xFF,0xFF,0xFF,0xFF,0xFF,0xFF,0xFE]] = ⟨1, some (-2)⟩ := by
  decide +kernel

theorem c17_audio_verified : Verified audio audioSpec := audio_facts.verified
theorem c17_tcc_verified : Verified tcc tccSpec := tcc_facts.verified
theorem c17_playout_verified : Verified playout playoutSpec := playout_facts.verified
theorem c17_abssend_verified : Verified absSend absSendSpec := absSend_facts.verified
theorem c17_abscapture_verified : Verified absCapture absCaptureSpec :=
  absCapture_facts.verified

/-! ### the same, spelled out without the predicates

  For each codec: (1) in-range Marshal = the layout; (2) out-of-range Marshal = error; (3) Unmarshal of
  ≥ size bytes into ANY receiver = ok with the specified fields of the first `size` bytes, trailing bytes
  ignored; (4) shorter input = error, receiver untouched; (5) never a panic; (6) round trip. -/

theorem c17_audio_spelled :
    (∀ l v, l ≤ 127 → audioMarshal ⟨l, v⟩ = .ok (render [(1, if v then 1 else 0), (7, l.toNat)])) ∧
    (∀ l v, l > 127 → (audioMarshal ⟨l, v⟩).isErr = true) ∧
    (∀ r r' raw, 1 ≤ raw.length → audioUnmarshal r raw = audioUnmarshal r' (raw.take 1) ∧
        (audioUnmarshal r raw).res = .ok () ∧ audioSpec.decode raw = some (audioUnmarshal r raw).st) ∧
    (∀ r raw, raw.length < 1 → (audioUnmarshal r raw).res.isErr = true ∧ (audioUnmarshal r raw).st = r) ∧
    (∀ r raw, (audioUnmarshal r raw).res ≠ .panic) ∧
    (∀ l v r, l ≤ 127 → audioUnmarshal r (render [(1, if v then 1 else 0), (7, l.toNat)]) = ⟨.ok (), ⟨l, v⟩⟩) := by
  have F := audio_facts
  refine ⟨?_, ?_, ?_, ?_, ?_, ?_⟩
  · intro l v h; exact F.layout ⟨l, v⟩ (decide_eq_true h)
  · intro l v h; exact F.reject ⟨l, v⟩ (decide_eq_true h)
  · intro r r' raw h
    exact F.long r r' raw 1 (mt (audio_decode_none raw).mp (Nat.not_lt.mpr h))
      (audio_decode_take raw h).symm
  · intro r raw h; exact F.short r raw ((audio_decode_none raw).mpr h)
  · intro r raw; exact F.unmarshal_total r raw
  · intro l v r h; exact F.roundtrip ⟨l, v⟩ r (decide_eq_true h)

theorem c17_tcc_spelled :
    (∀ s, tccMarshal ⟨s⟩ = .ok (render [(16, s.toNat)])) ∧
    (∀ r r' raw, 2 ≤ raw.length → tccUnmarshal r raw = tccUnmarshal r' (raw.take 2) ∧
        (tccUnmarshal r raw).res = .ok () ∧ tccSpec.decode raw = some (tccUnmarshal r raw).st) ∧
    (∀ r raw, raw.length < 2 → (tccUnmarshal r raw).res.isErr = true ∧ (tccUnmarshal r raw).st = r) ∧
    (∀ r raw, (tccUnmarshal r raw).res ≠ .panic) ∧
    (∀ s r, tccUnmarshal r (render [(16, s.toNat)]) = ⟨.ok (), ⟨s⟩⟩) := by
  have F := tcc_facts
  refine ⟨?_, ?_, ?_, ?_, ?_⟩
  · intro s; exact F.layout ⟨s⟩ rfl
  · intro r r' raw h
    exact F.long r r' raw 2 (mt (tcc_decode_none raw).mp (Nat.not_lt.mpr h))
      (tcc_decode_take raw h).symm
  · intro r raw h; exact F.short r raw ((tcc_decode_none raw).mpr h)
  · intro r raw; exact F.unmarshal_total r raw
  · intro s r; exact F.roundtrip ⟨s⟩ r rfl

theorem c17_playout_spelled :
    (∀ a b, a ≤ 4095 → b ≤ 4095 → playoutMarshal ⟨a, b⟩ = .ok (render [(12, a.toNat), (12, b.toNat)])) ∧
    (∀ a b, a > 4095 ∨ b > 4095 → (playoutMarshal ⟨a, b⟩).isErr = true) ∧
    (∀ r r' raw, 3 ≤ raw.length → playoutUnmarshal r raw = playoutUnmarshal r' (raw.take 3) ∧
        (playoutUnmarshal r raw).res = .ok () ∧ playoutSpec.decode raw = some (playoutUnmarshal r raw).st) ∧
    (∀ r raw, raw.length < 3 → (playoutUnmarshal r raw).res.isErr = true ∧ (playoutUnmarshal r raw).st = r) ∧
    (∀ r raw, (playoutUnmarshal r raw).res ≠ .panic) ∧
    (∀ a b r, a ≤ 4095 → b ≤ 4095 →
        playoutUnmarshal r (render [(12, a.toNat), (12, b.toNat)]) = ⟨.ok (), ⟨a, b⟩⟩) := by
  have F := playout_facts
  refine ⟨?_, ?_, ?_, ?_, ?_, ?_⟩
  · intro a b h1 h2; exact F.layout ⟨a, b⟩ ((Bool.and_eq_true _ _).mpr ⟨decide_eq_true h1, decide_eq_true h2⟩)
  · intro a b h; exact F.reject ⟨a, b⟩ ((Bool.or_eq_true _ _).mpr (h.imp decide_eq_true decide_eq_true))
  · intro r r' raw h
    exact F.long r r' raw 3 (mt (playout_decode_none raw).mp (Nat.not_lt.mpr h))
      (playout_decode_take raw h).symm
  · intro r raw h; exact F.short r raw ((playout_decode_none raw).mpr h)
  · intro r raw; exact F.unmarshal_total r raw
  · intro a b r h1 h2
    exact F.roundtrip ⟨a, b⟩ r ((Bool.and_eq_true _ _).mpr ⟨decide_eq_true h1, decide_eq_true h2⟩)

theorem c17_abssend_spelled :
    (∀ t, absSendMarshal ⟨t⟩ = .ok (render [(24, t.toNat % 2 ^ 24)])) ∧
    (∀ r r' raw, 3 ≤ raw.length → absSendUnmarshal r raw = absSendUnmarshal r' (raw.take 3) ∧
        (absSendUnmarshal r raw).res = .ok () ∧ absSendSpec.decode raw = some (absSendUnmarshal r raw).st) ∧
    (∀ r raw, raw.length < 3 → (absSendUnmarshal r raw).res.isErr = true ∧ (absSendUnmarshal r raw).st = r) ∧
    (∀ r raw, (absSendUnmarshal r raw).res ≠ .panic) ∧
    (∀ t r, t < 16777216 → absSendUnmarshal r (render [(24, t.toNat % 2 ^ 24)]) = ⟨.ok (), ⟨t⟩⟩) := by
  have F := absSend_facts
  refine ⟨?_, ?_, ?_, ?_, ?_⟩
  · intro t; exact absSend_marshal_layout t  -- no range here: Marshal sends the low 24 bits of any timestamp
  · intro r r' raw h
    exact F.long r r' raw 3 (mt (absSend_decode_none raw).mp (Nat.not_lt.mpr h))
      (absSend_decode_take raw h).symm
  · intro r raw h; exact F.short r raw ((absSend_decode_none raw).mpr h)
  · intro r raw; exact F.unmarshal_total r raw
  · intro t r h; exact F.roundtrip ⟨t⟩ r (decide_eq_true h)

theorem c17_abscapture_spelled :
    (∀ t, absCaptureMarshal ⟨t, none⟩ = .ok (render [(64, t.toNat)])) ∧
    (∀ t o, absCaptureMarshal ⟨t, some o⟩ = .ok (render [(64, t.toNat), (64, (o.toInt % 2 ^ 64).toNat)])) ∧
    (∀ r r' raw, 16 ≤ raw.length → absCaptureUnmarshal r raw = absCaptureUnmarshal r' (raw.take 16) ∧
        (absCaptureUnmarshal r raw).res = .ok () ∧ (absCaptureUnmarshal r raw).st.off.isSome = true ∧
        absCaptureSpec.decode raw = some (absCaptureUnmarshal r raw).st) ∧
    (∀ r r' raw, 8 ≤ raw.length → raw.length < 16 → absCaptureUnmarshal r raw = absCaptureUnmarshal r' (raw.take 8) ∧
        (absCaptureUnmarshal r raw).res = .ok () ∧ (absCaptureUnmarshal r raw).st.off = none ∧
        absCaptureSpec.decode raw = some (absCaptureUnmarshal r raw).st) ∧
    (∀ r raw, raw.length < 8 → (absCaptureUnmarshal r raw).res.isErr = true ∧ (absCaptureUnmarshal r raw).st = r) ∧
    (∀ r raw, (absCaptureUnmarshal r raw).res ≠ .panic) ∧
    (∀ v r, absCaptureUnmarshal r (render (absCaptureTime v.ts.toNat (v.off.map (·.toInt)))) = ⟨.ok (), v⟩) := by
  have F := absCapture_facts
  refine ⟨?_, ?_, ?_, ?_, ?_, ?_, ?_⟩
  · intro t; exact F.layout ⟨t, none⟩ rfl
  · intro t o; exact F.layout ⟨t, some o⟩ rfl
  · intro r r' raw h
    obtain ⟨h1, h2, h3⟩ := F.long r r' raw 16
      (mt (absCapture_decode_none raw).mp (by omega)) (absCapture_decode_take16 raw h).symm
    exact ⟨h1, h2, (absCapture_decode_off h3).trans (decide_eq_true h), h3⟩
  · intro r r' raw h h'
    obtain ⟨h1, h2, h3⟩ := F.long r r' raw 8
      (mt (absCapture_decode_none raw).mp (Nat.not_lt.mpr h)) (absCapture_decode_take8 raw h h').symm
    exact ⟨h1, h2, Option.not_isSome_iff_eq_none.mp (Bool.eq_false_iff.mp
      ((absCapture_decode_off h3).trans (decide_eq_false (Nat.not_le.mpr h')))), h3⟩
  · intro r raw h; exact F.short r raw ((absCapture_decode_none raw).mpr h)
  · intro r raw; exact F.unmarshal_total r raw
  · intro v r; exact F.roundtrip v r rfl

/-- neither Marshal nor Unmarshal of any of the five codecs can panic -/
theorem c17_total :
    (∀ v, audioMarshal v ≠ .panic) ∧ (∀ r raw, (audioUnmarshal r raw).res ≠ .panic) ∧
    (∀ v, tccMarshal v ≠ .panic) ∧ (∀ r raw, (tccUnmarshal r raw).res ≠ .panic) ∧
    (∀ v, playoutMarshal v ≠ .panic) ∧ (∀ r raw, (playoutUnmarshal r raw).res ≠ .panic) ∧
    (∀ v, absSendMarshal v ≠ .panic) ∧ (∀ r raw, (absSendUnmarshal r raw).res ≠ .panic) ∧
    (∀ v, absCaptureMarshal v ≠ .panic) ∧ (∀ r raw, (absCaptureUnmarshal r raw).res ≠ .panic) :=
  ⟨fun v => (by unfold audioMarshal; split <;> exact fun h => nomatch h), audio_facts.unmarshal_total,
   fun _ h => (nomatch h), tcc_facts.unmarshal_total,
   fun v => (by unfold playoutMarshal; split <;> exact fun h => nomatch h), playout_facts.unmarshal_total,
   fun _ h => (nomatch h), absSend_facts.unmarshal_total,
   fun v => (by unfold absCaptureMarshal; split <;> exact fun h => nomatch h), absCapture_facts.unmarshal_total⟩

/-! ### the specification is consistent with itself

  `render` (used to say what Marshal must emit) and `parse` (used to say what Unmarshal must find) are
  inverse to each other for every layout whose values fit their fields and whose width is a whole number
  of bytes — a fact about Rtp/Spec/ExtLayouts.lean alone, proved without reference to the model. -/

theorem c17_spec_parse_render (fs : List Field) (hwf : ∀ f ∈ fs, f.2 < 2 ^ f.1) (h8 : width fs % 8 = 0)
    (trail : Bytes) : parse (fs.map (·.1)) (render fs ++ trail) = fs.map (·.2) :=
  parse_render fs hwf h8 trail

/-- and the five decoders give back the value whose layout they are shown -/
theorem c17_spec_roundtrip :
    (∀ v, audioSpec.inRange v = true → audioSpec.decode (render (audioSpec.layout v)) = some v) ∧
    (∀ v, tccSpec.decode (render (tccSpec.layout v)) = some v) ∧
    (∀ v, playoutSpec.inRange v = true → playoutSpec.decode (render (playoutSpec.layout v)) = some v) ∧
    (∀ v, absSendSpec.inRange v = true → absSendSpec.decode (render (absSendSpec.layout v)) = some v) ∧
    (∀ v, absCaptureSpec.decode (render (absCaptureSpec.layout v)) = some v) :=
  ⟨audio_decode_render, fun v => tcc_decode_render v rfl, playout_decode_render, absSend_decode_render,
   fun v => absCapture_decode_render v rfl⟩

example : parse [12, 12] (render [(12, 0xABC), (12, 0x123)] ++ [0xEE]) = [0xABC, 0x123] := by decide +kernel

end Rtp.Props.C17
