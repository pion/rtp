/-
  Rtp/Props/C01.lean — C01: RTP packet encode/decode round trip is lossless.
  Helper lemmas: Rtp/Proofs/PacketRtWrite (closed form of the write
  sequence), PacketRtBits (header bit fields), PacketRtHeader (parse of the serialised form, through
  the wire descriptions of Rtp/Proofs/Wire*), PacketRtSpec.

  No size bounds: any number of extension elements, any payload length.  `wfP` is the property's
  own domain (version 0–3, PT 0–127, ≤ 15 CSRCs, elements legal for their profile, padding flag
  set exactly when the padding size is 1–255) plus the wire format's limit of 65535 words for the
  extension block, which the format cannot exceed.
-/
import Rtp.Proofs.PacketRtHeader
import Rtp.Proofs.PacketRtSpec
import Rtp.Pred.C01
namespace Rtp.Props.C01
open Rtp Rtp.Model Rtp.Pred.C01 Rtp.Proofs.PacketRt

/-- The main theorem, in the shape of the run-time check: for every well-formed packet `p` and
    whatever the reused receiver decoded before (`prev`, any bytes), the predicate the driver
    evaluates on the real code holds of the model's observation — Marshal succeeds with exactly
    MarshalSize bytes; Unmarshal of them into a fresh and into a used receiver gives `p` back
    (every header field, CSRC list, profile, element ids and values in order, payload, padding
    size); likewise the header alone, with n = the header size. -/
theorem c01_packet_roundtrip (p : Packet) (hwf : wfP p = true) (prev : Bytes) :
    holds p (modelObs p prev) = true := by
  obtain ⟨hh, _⟩ := (wfP_iff p).1 hwf
  have hcan : ∀ r : Packet,
      canonP ⟨Proofs.PacketParse.withProfile r.header.extProfile p.header, p.payload, p.paddingSize⟩ = canonP p := by
    intro r; simp [canonP, Proofs.PacketParse.canonH_withProfile]
  have hnil : hdrWire p.header = hdrWire p.header ++ [] := by simp
  simp only [holds, modelObs, pktMarshal_wf p hwf, hdrMarshal_wf _ hh, pktUnmarshal_wire p hwf,
    Res.map, hcan, pktWire_length p hwf, hdrWire_length _ hh, beq_self_eq_true, Bool.true_and]
  rw [hnil, hdrUnmarshal_wire _ hh]
  simp [canonP, Proofs.PacketParse.canonH_withProfile]

theorem c01_pred (p : Packet) (prev : Bytes) : pred p (modelObs p prev) = true := by
  unfold pred
  cases h : wfP p
  · rfl
  · simpa using c01_packet_roundtrip p h prev

theorem c01_marshal_size (p : Packet) (hwf : wfP p = true) :
    ∃ bs, pktMarshal p = .ok bs ∧ bs.length = pktMarshalSize p :=
  ⟨pktWire p, pktMarshal_wf p hwf, pktWire_length p hwf⟩

/-- Spelled out: Unmarshal of the marshalled bytes into ANY receiver `r` succeeds and yields a
    packet whose canonical observation is `p`'s: all of `p`'s fields, except that with X = 0 the
    (unobservable) `ExtensionProfile` is whatever the receiver held. -/
theorem c01_packet_roundtrip_spec (p : Packet) (hwf : wfP p = true) (r : Packet) :
    ∃ bs q, pktMarshal p = .ok bs ∧ bs.length = pktMarshalSize p ∧ pktUnmarshal r bs = .ok q ∧
      canonP q = canonP p ∧ q.payload = p.payload ∧ q.paddingSize = p.paddingSize ∧
      (p.header.extension = true → q = p) := by
  refine ⟨pktWire p, _, pktMarshal_wf p hwf, pktWire_length p hwf, pktUnmarshal_wire p hwf r, ?_, rfl, rfl, ?_⟩
  · simp [canonP, Proofs.PacketParse.canonH_withProfile]
  · intro hx; simp [Proofs.PacketParse.withProfile, hx]

/-- The same for the header: Header.Marshal succeeds with MarshalSize bytes, and
    Header.Unmarshal of them — even when more bytes follow — returns the header and n = its size. -/
theorem c01_header_roundtrip (h : Header) (hwf : wfH h = true) (r : Header) (tail : Bytes) :
    ∃ bs h', hdrMarshal h = .ok bs ∧ bs.length = hdrMarshalSize h ∧
      hdrUnmarshal r (bs ++ tail) = .ok (h', bs.length) ∧ canonH h' = canonH h ∧
      (h.extension = true → h' = h) := by
  refine ⟨hdrWire h, Proofs.PacketParse.withProfile r.extProfile h, hdrMarshal_wf h hwf, hdrWire_length h hwf, ?_,
    Proofs.PacketParse.canonH_withProfile r.extProfile h, ?_⟩
  · rw [hdrUnmarshal_wire h hwf, hdrWire_length h hwf]
  · intro hx; simp [Proofs.PacketParse.withProfile, hx]

/-- the header round trip with the quantifiers in the order other proofs consume it (one byte
    string for all receivers) -/
theorem c01_header_roundtrip_all (h : Header) (hwf : wfH h = true) :
    ∃ bs, hdrMarshal h = .ok bs ∧ bs.length = hdrMarshalSize h ∧
      ∀ r : Header, ∃ h', hdrUnmarshal r bs = .ok (h', bs.length) ∧ canonH h' = canonH h := by
  refine ⟨hdrWire h, hdrMarshal_wf h hwf, hdrWire_length h hwf,
    fun r => ⟨Proofs.PacketParse.withProfile r.extProfile h, ?_, Proofs.PacketParse.canonH_withProfile r.extProfile h⟩⟩
  have := hdrUnmarshal_wire h hwf r []
  rw [List.append_nil] at this
  rw [this, hdrWire_length h hwf]

/-- The wire image, explicitly: fixed part, CSRCs, extension block (profile, word count,
    elements, zero padding to a word boundary), payload, RTP padding (zeros and the count). -/
theorem c01_wire_form (p : Packet) (hwf : wfP p = true) :
    pktMarshal p = .ok (fixedBytes p.header ++
      ((if p.header.extension then extPart p.header (wireBody p.header) else []) ++
        (p.payload ++ padBytes p))) := by
  rw [pktMarshal_wf p hwf]; simp [pktWire, hdrWire, hdrBytes]

/-- What Marshal produces, octet by octet, is the RFC 3550 / RFC 8285 layout written down
    independently with plain arithmetic in Rtp/Spec/CoreaWire.lean (V·64 + P·32 + X·16 + CC,
    M·128 + PT, network byte order by / and %, one-byte element header id·16 + (len − 1), …).
    Together with the round trip this pins the decoder too: a mistake mirrored in encoder and
    decoder would survive the round trip, but not this theorem. -/
theorem c01_wire_is_spec (p : Packet) (hwf : wfP p = true) :
    ∃ bs, pktMarshal p = .ok bs ∧ bs.map (·.toNat) = Spec.CoreaWire.packet p :=
  ⟨pktWire p, pktMarshal_wf p hwf, packet_octets p hwf⟩

theorem c01_header_wire_is_spec (h : Header) (hwf : wfH h = true) :
    ∃ bs, hdrMarshal h = .ok bs ∧ bs.map (·.toNat) = Spec.CoreaWire.header h :=
  ⟨hdrWire h, hdrMarshal_wf h hwf, header_octets h hwf⟩

/-- Marshal is injective on well-formed packets up to the canonical observation: two packets with
    the same wire image have the same fields (a decoder cannot confuse them). -/
theorem c01_marshal_injective (p q : Packet) (hp : wfP p = true) (hq : wfP q = true)
    (h : pktMarshal p = pktMarshal q) : canonP p = canonP q := by
  rw [pktMarshal_wf p hp, pktMarshal_wf q hq] at h
  injection h with h
  have h1 := pktUnmarshal_wire p hp {}
  have h2 := pktUnmarshal_wire q hq {}
  rw [h, h2] at h1
  injection h1 with h1
  have := congrArg canonP h1
  simpa [canonP, Proofs.PacketParse.canonH_withProfile] using this.symm

/-- elements held while `Extension` is false do not reach the wire -/
theorem c01_hidden_exts_ignored (p : Packet) :
    pktMarshal p = pktMarshal (dropHidden p) ∧ pktMarshalSize p = pktMarshalSize (dropHidden p) ∧
    hdrMarshal p.header = hdrMarshal (dropHidden p).header := by
  unfold dropHidden
  cases hx : p.header.extension
  · simp [pktMarshal, pktMarshalTo, pktMarshalSize, hdrMarshal, hdrMarshalTo, hdrMarshalSize, fixedBytes, hx]
  · simp

/-- so the round trip also holds for a header with X = 0 that still carries elements (reachable by
    clearing `Extension` after `SetExtension`): it decodes as the same packet without them -/
theorem c01_roundtrip_hidden (p : Packet) (hwf : wfP (dropHidden p) = true) (r : Packet) :
    ∃ bs q, pktMarshal p = .ok bs ∧ bs.length = pktMarshalSize p ∧ pktUnmarshal r bs = .ok q ∧
      canonP q = canonP (dropHidden p) := by
  obtain ⟨h1, h2, _⟩ := c01_hidden_exts_ignored p
  obtain ⟨bs, q, hm, hl, hu, hc, _⟩ := c01_packet_roundtrip_spec (dropHidden p) hwf r
  exact ⟨bs, q, by rw [h1, hm], by rw [h2, hl], hu, hc⟩

/-! ### non-vacuity: the hypotheses hold for the boundary packets DESIGN §6 lists, and the
    round trip computes on them -/

/-- 15 CSRCs, a 16-byte one-byte element, a second element ending flush with the block, empty payload
    (region of finding `c01_ext_flush_end`: the element ends exactly at the end of the packet) -/
def exFlush : Packet :=
  { header := { version := 2, marker := true, payloadType := 127, seq := 65535, ts := 0xFFFFFFFF, ssrc := 1,
                csrc := [1, 2, 3, 4, 5, 6, 7, 8, 9, 10, 11, 12, 13, 14, 0xFFFFFFFF], extension := true,
                extProfile := 0xBEDE,
                exts := [{ id := 14, payload := [1, 2, 3, 4, 5, 6, 7, 8, 9, 10, 11, 12, 13, 14, 15, 16] },
                         { id := 1, payload := [0xAA, 0xBB] }] },
    payload := [], paddingSize := 0 }
example : wfP exFlush = true := by decide +kernel
example : pktMarshalSize exFlush = 96 := by decide +kernel
example : (pktMarshal exFlush).isOk = true := by decide +kernel
example : (match pktMarshal exFlush with | .ok bs => pktUnmarshal {} bs | _ => .panic) = .ok exFlush := by decide +kernel

/-- the spec image of `exFlush` starts 0x9F 0xFF 0xFF 0xFF: V=2,X=1,CC=15 | M=1,PT=127 | seq 65535 -/
example : (Spec.CoreaWire.packet exFlush).take 4 = [0x9F, 0xFF, 0xFF, 0xFF] := by decide +kernel
example : (Spec.CoreaWire.packet exFlush).length = 96 := by decide +kernel

/-- a padding-only packet (no payload, 255 bytes of padding) -/
def exPadOnly : Packet :=
  { header := { version := 2, padding := true, payloadType := 0, seq := 1, ts := 2, ssrc := 3, extProfile := 0x7777 },
    payload := [], paddingSize := 255 }
example : wfP exPadOnly = true := by decide +kernel
example : pktMarshalSize exPadOnly = 267 := by decide +kernel
example : (match pktMarshal exPadOnly with | .ok bs => (pktUnmarshal {} bs).map canonP | _ => .panic)
    = .ok (canonP exPadOnly) := by decide +kernel

/-- a 255-byte two-byte element and an empty one (block body of 259 bytes, one byte of zero padding) -/
def exTwoByte : Packet :=
  { header := { version := 2, extension := true, extProfile := 0x1000,
                exts := [{ id := 255, payload := List.replicate 255 0x5A }, { id := 1, payload := [] }] },
    payload := [9], paddingSize := 0 }
example : wfP exTwoByte = true := by decide +kernel
example : pktMarshalSize exTwoByte = 12 + 4 + 260 + 1 := by decide +kernel
example : (match pktMarshal exTwoByte with | .ok bs => pktUnmarshal {} bs | _ => .panic) = .ok exTwoByte := by
  decide +kernel

/-- a legacy (RFC 3550) extension of two words -/
def exLegacy : Header :=
  { version := 1, extension := true, extProfile := 0x1234, exts := [{ id := 0, payload := [1, 2, 3, 4, 5, 6, 7, 8] }] }
example : wfH exLegacy = true := by decide +kernel
example : (match hdrMarshal exLegacy with | .ok bs => hdrUnmarshal {} (bs ++ [0xEE]) | _ => .panic)
    = .ok (exLegacy, 24) := by decide +kernel

/-! ### the hypotheses are sharp: dropping a clause of `wfP` on version, payload type, CSRC count, element
    legality or the padding flag admits a packet that does NOT survive the round trip (each by kernel
    evaluation of the model on a concrete packet) -/

/-- version 4 wraps to 0 -/
theorem c01_sharp_version : rt { header := { version := 4 } } = false := by decide +kernel

/-- payload type 128 sets the marker bit -/
theorem c01_sharp_payload_type : rt { header := { payloadType := 128 } } = false := by decide +kernel

/-- 16 CSRCs: the 4-bit count wraps to 0 and the list is read as payload -/
theorem c01_sharp_csrc :
    rt { header := { version := 2, csrc := List.replicate 16 7 } } = false := by decide +kernel

/-- one-byte profile, 17-byte value: the length nibble wraps -/
theorem c01_sharp_onebyte_len :
    rt { header := { version := 2, extension := true, extProfile := 0xBEDE,
                     exts := [{ id := 1, payload := List.replicate 17 1 }] } } = false := by decide +kernel

/-- one-byte profile, empty value: the header byte becomes 0x1F -/
theorem c01_sharp_onebyte_empty :
    rt { header := { version := 2, extension := true, extProfile := 0xBEDE,
                     exts := [{ id := 1, payload := [] }, { id := 2, payload := [5] }] } } = false := by decide +kernel

/-- one-byte profile, id 15: the reserved id stops the parser -/
theorem c01_sharp_onebyte_id15 :
    rt { header := { version := 2, extension := true, extProfile := 0xBEDE,
                     exts := [{ id := 15, payload := [1] }] } } = false := by decide +kernel

/-- one-byte profile, id 0 is padding -/
theorem c01_sharp_onebyte_id0 :
    rt { header := { version := 2, extension := true, extProfile := 0xBEDE,
                     exts := [{ id := 0, payload := [1] }] } } = false := by decide +kernel

/-- two-byte profile, id 0 is padding -/
theorem c01_sharp_twobyte_id0 :
    rt { header := { version := 2, extension := true, extProfile := 0x1000,
                     exts := [{ id := 0, payload := [1, 2] }] } } = false := by decide +kernel

/-- two-byte profile, 256-byte value: the length byte wraps -/
theorem c01_sharp_twobyte_len :
    rt { header := { version := 2, extension := true, extProfile := 0x1000,
                     exts := [{ id := 1, payload := List.replicate 256 1 }] } } = false := by decide +kernel

/-- legacy profile, value not in whole words: Marshal fails -/
theorem c01_sharp_legacy_words :
    rt { header := { version := 2, extension := true, extProfile := 0x1234,
                     exts := [{ id := 0, payload := [1, 2, 3] }] } } = false := by decide +kernel

/-- legacy profile with two elements: only the first is written -/
theorem c01_sharp_legacy_single :
    rt { header := { version := 2, extension := true, extProfile := 0x1234,
                     exts := [{ id := 0, payload := [1, 2, 3, 4] }, { id := 0, payload := [5, 6, 7, 8] }] } } = false := by
  decide +kernel

/-- padding flag without a size: Marshal fails -/
theorem c01_sharp_padding_flag : rt { header := { version := 2, padding := true }, paddingSize := 0 } = false := by
  decide +kernel

/-- padding size without the flag: the padding octets come back as payload -/
theorem c01_sharp_padding_size :
    rt { header := { version := 2 }, payload := [9], paddingSize := 2 } = false := by decide +kernel

/-- …and a packet that meets every clause does survive (sanity of `rt`) -/
theorem c01_sharp_sanity :
    rt { header := { version := 2, padding := true, extension := true, extProfile := 0xBEDE,
                     exts := [{ id := 1, payload := [1] }] }, payload := [9], paddingSize := 2 } = true := by decide +kernel

/-- kind `c01.reuse`: after decoding Marshal(p) into ANY receiver, the element list and the CSRC
    list are exactly p's — nothing of what the receiver decoded before survives, also while the X
    flag is clear (corollary of the round trip; canonH only touches the profile). -/
theorem c01_reuse_lengths (p : Packet) (hwf : wfP p = true) (r : Packet) :
    ∃ bs, pktMarshal p = .ok bs ∧
      (pktUnmarshal r bs).map (fun q => (q.header.exts.length, q.header.csrc.length)) =
        .ok ((if p.header.extension then p.header.exts.length else 0), p.header.csrc.length) := by
  obtain ⟨bs, q, hm, _, hq, hcan, _, _, _⟩ := c01_packet_roundtrip_spec p hwf r
  refine ⟨bs, hm, ?_⟩
  have hx : (canonP q).header.exts = (canonP p).header.exts := by rw [hcan]
  have hc : (canonP q).header.csrc = (canonP p).header.csrc := by rw [hcan]
  simp only [canonP, canonH] at hx hc
  have hq1 : q.header.exts = p.header.exts := by
    split at hx <;> split at hx <;> simpa using hx
  have hq2 : q.header.csrc = p.header.csrc := by
    split at hc <;> split at hc <;> simpa using hc
  rw [hq]
  simp only [Res.map, hq1, hq2]
  by_cases hX : p.header.extension = true
  · simp [hX]
  · have hw : extsLegal p.header = true := by
      simp only [wfP, wfH, Bool.and_eq_true] at hwf
      exact hwf.1.1.2
    simp only [extsLegal, hX, Bool.not_false, if_true] at hw
    simp [hX, List.isEmpty_iff.mp hw]

/-! ### nesting: unwrapping an encapsulated packet in place (kind `c01.inplace`) -/

theorem wfP_wrap (outer : Packet) (ib : Bytes) : wfP (wrap outer ib) = wfP outer := rfl

/-- The nesting round trip: for all well-formed `inner` and `outer` and ANY receiver `r`, marshal
    `inner`, carry the bytes as the payload of `outer`, marshal that, decode it into `r`, then
    decode the receiver's own payload into the receiver (`recv.Unmarshal(recv.Payload)`): the
    first decode shows the outer packet whose payload is exactly Marshal(inner), the second shows
    `inner` (every header field, CSRCs, profile, element ids and values in order, payload,
    padding size).  The round-trip theorem applied twice. -/
theorem c01_nesting (inner outer : Packet) (hi : wfP inner = true) (ho : wfP outer = true) (r : Packet) :
    ∃ ib ob q1 q2, pktMarshal inner = .ok ib ∧ pktMarshal (wrap outer ib) = .ok ob ∧
      pktUnmarshal r ob = .ok q1 ∧ canonP q1 = canonP (wrap outer ib) ∧ q1.payload = ib ∧
      pktUnmarshal q1 q1.payload = .ok q2 ∧ canonP q2 = canonP inner ∧
      q2.payload = inner.payload ∧ q2.paddingSize = inner.paddingSize ∧
      (inner.header.extension = true → q2 = inner) := by
  obtain ⟨ib, hmi, _⟩ := c01_marshal_size inner hi
  obtain ⟨ob, q1, hmo, _, hu1, hc1, hp1, _, _⟩ := c01_packet_roundtrip_spec (wrap outer ib) (by rw [wfP_wrap]; exact ho) r
  obtain ⟨ib', q2, hmi', _, hu2, hc2, hp2, hs2, hx2⟩ := c01_packet_roundtrip_spec inner hi q1
  have hib : ib' = ib := by rw [hmi] at hmi'; exact (Res.ok.inj hmi').symm
  subst hib
  have hq1 : q1.payload = ib' := hp1
  exact ⟨ib', ob, q1, q2, hmi, hmo, hu1, hc1, hq1, by rw [hq1]; exact hu2, hc2, hp2, hs2, hx2⟩

/-- … in the shape of the run-time check (`c01.inplace`, both modes: after the outer decode, and
    with `recv.Payload` set by hand to the buffer), for whatever the receiver decoded before -/
theorem c01_inplace (x : InplaceIn) (hwf : inplaceWf x = true) : inplaceHolds x (inplaceModel x) = true := by
  simp only [inplaceWf, Bool.and_eq_true, Bool.or_eq_true] at hwf
  obtain ⟨hi, hm⟩ := hwf
  by_cases h1 : (x.mode == 1) = true
  · simp only [inplaceHolds, inplaceModel, pktMarshal_wf x.inner hi, h1, if_true,
      pktUnmarshal_wire x.inner hi, Res.map]
    simp [canonP, Proofs.PacketParse.canonH_withProfile]
  · have ho : wfP x.outer = true := by
      rcases hm with hm | hm
      · exact absurd hm h1
      · exact hm
    have ho' : wfP (wrap x.outer (pktWire x.inner)) = true := by rw [wfP_wrap]; exact ho
    simp only [inplaceHolds, inplaceModel, pktMarshal_wf x.inner hi, h1, pktMarshal_wf _ ho',
      pktUnmarshal_wire _ ho', Res.map]
    simp only [wrap, pktUnmarshal_wire x.inner hi]
    simp [canonP, Proofs.PacketParse.canonH_withProfile]

theorem c01_inplace_pred (x : InplaceIn) : inplacePred x (inplaceModel x) = true := by
  unfold inplacePred
  cases h : inplaceWf x
  · rfl
  · simpa using c01_inplace x h

/-- non-vacuity: an inner packet (2 CSRCs, one-byte id 5 with 8 bytes,
    40-byte payload) inside a padded outer packet with a two-byte extension; the in-place decode
    returns it, and its wire image is long enough for a payload moved to the front of the buffer to
    overwrite the extension value (offset 12+8+4 < 40) -/
def exInner : Packet :=
  { header := { version := 2, marker := true, payloadType := 96, seq := 7, ts := 1000, ssrc := 0xCAFE,
                csrc := [1, 2], extension := true, extProfile := 0xBEDE,
                exts := [{ id := 5, payload := [0xE1, 0xE2, 0xE3, 0xE4, 0xE5, 0xE6, 0xE7, 0xE8] }] },
    payload := (List.range 40).map (fun i => (i + 0x41).toUInt8) }
def exOuter : Packet :=
  { header := { version := 2, padding := true, payloadType := 100, seq := 9, ssrc := 1, csrc := [3],
                extension := true, extProfile := 0x1000, exts := [{ id := 200, payload := [1, 2, 3] }] },
    paddingSize := 4 }
example : inplaceWf { inner := exInner, outer := exOuter, prev := [], mode := 0 } = true := by decide +kernel
example : (inplaceModel { inner := exInner, outer := exOuter, prev := [], mode := 0 }).2 = .ok exInner := by
  decide +kernel
example : (match (inplaceModel { inner := exInner, outer := exOuter, prev := [], mode := 0 }).1 with
    | .ok q => q.payload.length == 76 && q.paddingSize == 4 | _ => false) = true := by decide +kernel

end Rtp.Props.C01
