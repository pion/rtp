/-
  Rtp/Props/C02.lean — C02: RTP parsing is memory-safe and bounded on arbitrary input; decoding into a
  used receiver gives the same result as decoding into a fresh one.
  Helper lemmas live in Rtp/Proofs/PacketParse.lean, PacketParseObs.lean.

  Every theorem quantifies over ALL byte strings `buf` and ALL receivers `r` (no length bound).
-/
import Rtp.Proofs.PacketParseObs
namespace Rtp.Props.C02
open Rtp Rtp.Model Rtp.Pred Rtp.Pred.C02 Rtp.Proofs.PacketParse

/-- main theorem, in the shape the driver evaluates on the real code: for every input and every
    sequence of earlier inputs decoded into the same receivers, the model's observation satisfies the predicate
    (no panic; bounded; values are the input bytes at the reported offsets; reused = fresh). -/
theorem c02_pred_model (buf : Bytes) (prev : List Bytes) :
    Pred.C02.pred buf prev (Pred.C02.modelObs buf prev) = true := by
  simp only [Pred.C02.pred, holds, modelObs, Bool.and_eq_true, beq_iff_eq]
  exact ⟨recvHolds_model {} {} rfl buf, modelRecv_receiver _ _ buf⟩

/-- what the executable predicate says, spelled out (so that `c02_pred_model`, and a `pred=t` verdict
    on an observation of the real code, can be read without the Bool definitions): nothing
    panicked; the used receivers show exactly what the fresh ones show; a successful
    Header.Unmarshal reports a length inside the input; a successful Packet.Unmarshal comes with a
    successful Header.Unmarshal whose length, plus payload and padding, is the input length, and the
    payload is the input bytes after the header. -/
theorem c02_pred_meaning (buf : Bytes) (prev : List Bytes) (o : Obs) (h : Pred.C02.pred buf prev o = true) :
    o.fresh.hun ≠ .panic ∧ o.fresh.pun ≠ .panic ∧ o.reused = o.fresh ∧
    (∀ a, o.fresh.hun = .ok a → a.n ≤ buf.length ∧ locsOk buf a.n a.h.exts a.locs = true) ∧
    (∀ b, o.fresh.pun = .ok b → ∃ a, o.fresh.hun = .ok a ∧
      a.n + b.p.payload.length + b.p.paddingSize.toNat = buf.length ∧
      b.p.payload = slice buf a.n (a.n + b.p.payload.length) ∧
      locsOk buf a.n b.p.header.exts b.locs = true) := by
  simp only [Pred.C02.pred, holds, recvHolds, Bool.and_eq_true, beq_iff_eq] at h
  obtain ⟨⟨hh, hp⟩, hr⟩ := h
  refine ⟨?_, ?_, hr, ?_, ?_⟩
  · intro hc; rw [hc] at hh; simp [hdrHolds] at hh
  · intro hc; rw [hc] at hp; simp [pktHolds] at hp
  · intro a ha
    rw [ha] at hh
    simpa [hdrHolds] using hh
  · intro b hb
    rw [hb] at hp
    cases ha : o.fresh.hun with
    | ok a =>
      rw [ha] at hp
      simp only [pktHolds, Bool.and_eq_true, beq_iff_eq] at hp
      exact ⟨a, rfl, hp.1.1.1, hp.1.1.2, hp.2⟩
    | err e => rw [ha] at hp; simp [pktHolds] at hp
    | panic => rw [ha] at hp; simp [pktHolds] at hp

/-- … and `locsOk`: one reported offset per element; every non-empty value lies at its offset inside
    `[0, n)` and is exactly the input bytes there -/
theorem c02_locsOk_meaning (buf : Bytes) (n : Nat) (exts : List Ext) (locs : List Int)
    (h : locsOk buf n exts locs = true) :
    locs.length = exts.length ∧
    ∀ x ∈ exts.zip locs, x.1.payload = [] ∨
      (0 ≤ x.2 ∧ x.2.toNat + x.1.payload.length ≤ n ∧
        x.1.payload = slice buf x.2.toNat (x.2.toNat + x.1.payload.length)) := by
  induction exts generalizing locs with
  | nil =>
    cases locs with
    | nil => simp
    | cons o os => simp [locsOk] at h
  | cons e es ih =>
    cases locs with
    | nil => simp [locsOk] at h
    | cons o os =>
      simp only [locsOk, Bool.and_eq_true, Bool.or_eq_true, List.isEmpty_iff, decide_eq_true_eq,
        beq_iff_eq] at h
      obtain ⟨he, hrest⟩ := h
      obtain ⟨hl, hall⟩ := ih os hrest
      refine ⟨by simp [hl], fun x hx => ?_⟩
      simp only [List.zip_cons_cons, List.mem_cons] at hx
      rcases hx with rfl | hx
      · rcases he with he | he
        · exact Or.inl he
        · exact Or.inr ⟨he.1.1, he.1.2, he.2⟩
      · exact hall x hx

/-- Header.Unmarshal and Packet.Unmarshal return normally on every byte string, whatever the
    receiver held before. -/
theorem c02_nopanic (r : Packet) (buf : Bytes) :
    hdrUnmarshal r.header buf ≠ .panic ∧ pktUnmarshal r buf ≠ .panic :=
  ⟨hdrUnmarshal_ne_panic _ _, pktUnmarshal_ne_panic _ _⟩

theorem c02_located_agrees (r : Packet) (buf : Bytes) :
    (hdrUnmarshalL r.header buf).map (fun x => (x.1, x.2.1)) = hdrUnmarshal r.header buf ∧
    (pktUnmarshalL r buf).map (·.1) = pktUnmarshal r buf :=
  ⟨hdrUnmarshalL_fst _ _, pktUnmarshalL_fst _ _⟩

/-- Header.Unmarshal, when it succeeds: the reported length lies inside the input (and after the
    12 fixed bytes); every extension value is exactly the input bytes at some offset, between the
    4-byte extension header and the reported end of the header. -/
theorem c02_hdr_bounds (r : Header) (buf : Bytes) (h : Header) (n : Nat)
    (hok : hdrUnmarshal r buf = .ok (h, n)) :
    12 ≤ n ∧ n ≤ buf.length ∧
    ∃ locs : List Nat, hdrUnmarshalL r buf = .ok (h, n, locs) ∧ locs.length = h.exts.length ∧
      ∀ x ∈ h.exts.zip locs, 16 ≤ x.2 ∧ x.2 + x.1.payload.length ≤ n ∧
        x.1.payload = slice buf x.2 (x.2 + x.1.payload.length) := by
  obtain ⟨locs, hl⟩ := (hdrUnmarshal_ok_iff r buf h n).mp hok
  obtain ⟨h1, h2, h3, h4, _⟩ := hdrUnmarshalL_bounds r buf h n locs hl
  exact ⟨h1, h2, locs, hl, h3, h4⟩

/-- beyond the property's wording: the extension values lie in the input in element order and do
    not overlap (each ends before the next starts). -/
theorem c02_ext_disjoint (r : Header) (buf : Bytes) (h : Header) (n : Nat) (locs : List Nat)
    (hok : hdrUnmarshalL r buf = .ok (h, n, locs)) :
    (h.exts.zip locs).Pairwise (fun x y => x.2 + x.1.payload.length ≤ y.2) := by
  rcases hdrUnmarshalL_inv r buf h n locs hok with ⟨_, he, hl, _⟩ | ⟨_, start, block, tail, es, used, hd, hp, he, hl, _⟩
  · rw [he, hl]; exact List.Pairwise.nil
  · rw [he, hl, zip_map_fst_snd]
    exact (parseExtBlockL_spec buf tail _ start block es used hd hp).2.1

/-- Packet.Unmarshal, when it succeeds: header length + payload length + padding size = input
    length, the payload is exactly the input bytes after the header, and the header part is what
    Header.Unmarshal reports (so `c02_hdr_bounds` applies to the extension values). -/
theorem c02_bounds (r : Packet) (buf : Bytes) (p : Packet) (hok : pktUnmarshal r buf = .ok p) :
    ∃ n, hdrUnmarshal r.header buf = .ok (p.header, n) ∧ n ≤ buf.length ∧
      n + p.payload.length + p.paddingSize.toNat = buf.length ∧
      p.payload = slice buf n (n + p.payload.length) := by
  rw [← pktUnmarshalL_fst, Res.map_eq_ok_iff] at hok
  obtain ⟨⟨p', n, locs⟩, hl, rfl⟩ := hok
  obtain ⟨hh, hsum, hpay⟩ := pktUnmarshalL_bounds r buf p' n locs hl
  exact ⟨n, (hdrUnmarshal_ok_iff _ _ _ _).mpr ⟨locs, hh⟩, (hdrUnmarshalL_bounds _ _ _ _ _ hh).2.1, hsum, hpay⟩

/-- the only thing a used receiver can contribute is its stale `ExtensionProfile`, kept
    while the new packet has X = 0 (stated exactly, so that the don't-care is visible). -/
theorem c02_reuse_exact (r : Header) (buf : Bytes) :
    hdrUnmarshal r buf =
      (hdrUnmarshal {} buf).map
        (fun x => (if x.1.extension then x.1 else { x.1 with extProfile := r.extProfile }, x.2)) := by
  rw [← hdrUnmarshalL_fst, ← hdrUnmarshalL_fst, hdrUnmarshalL_receiver r buf]
  cases hdrUnmarshalL {} buf with
  | err e => rfl
  | panic => rfl
  | ok x => simp [Res.map, fstH, withProfile]

/-- … hence reuse = fresh: the canonical result (ExtensionProfile is don't-care while Extension is false,
    DESIGN §6 C02) does not depend on what the receiver held. -/
theorem c02_reuse (r : Packet) (buf : Bytes) :
    (hdrUnmarshal r.header buf).map (fun x => (C01.canonH x.1, x.2)) =
      (hdrUnmarshal {} buf).map (fun x => (C01.canonH x.1, x.2)) ∧
    (pktUnmarshal r buf).map C01.canonP = (pktUnmarshal {} buf).map C01.canonP := by
  constructor
  · rw [c02_reuse_exact r.header buf]
    cases hdrUnmarshal {} buf with
    | err e => rfl
    | panic => rfl
    | ok x => exact congrArg (fun h => Res.ok (h, x.2)) (canonH_withProfile r.header.extProfile x.1)
  · rw [← pktUnmarshalL_fst, ← pktUnmarshalL_fst, pktUnmarshalL_receiver r buf]
    cases pktUnmarshalL {} buf with
    | err e => rfl
    | panic => rfl
    | ok x => simp [Res.map, C01.canonP, canonH_withProfile]

/-- Recorded interpretation (DESIGN §6 C02 / §7): the stale profile is treated as don't-care because
    neither a read accessor nor Marshal / MarshalSize looks at it while X = 0.  It is NOT invisible
    to SetExtension: a first value of 256 bytes or more is validated against whatever profile the
    receiver still holds.  The same 12 bytes decoded into a fresh receiver and into one that held a
    one-byte packet before give headers on which `SetExtension(0, 256 bytes)` succeeds resp. fails. -/
theorem c02_stale_profile_witness :
    ∃ (buf : Bytes) (r : Header) (h1 h2 : Header) (n : Nat),
      hdrUnmarshal {} buf = .ok (h1, n) ∧ hdrUnmarshal r buf = .ok (h2, n) ∧
      C01.canonH h1 = C01.canonH h2 ∧
      (setExtension h1 0 (List.replicate 256 0)).1 = none ∧
      (setExtension h2 0 (List.replicate 256 0)).1 = some .idRange :=
  ⟨[0x80, 0, 0, 0, 0, 0, 0, 0, 0, 0, 0, 0], { extProfile := 0xBEDE },
   { version := 2 }, { version := 2, extProfile := 0xBEDE }, 12,
   by decide, by decide, by decide, by decide +kernel, by decide +kernel⟩

/-- a legacy (RFC 3550) extension block `AA BB CC DD` at offset 16, payload `01 02`, 2 bytes of
    RTP padding: success, n = 20, 20 + 2 + 2 = 24 -/
example :
    pktUnmarshalL {} [0xB0, 0x60, 0, 1, 0, 0, 0, 2, 0, 0, 0, 3, 0x12, 0x34, 0, 1, 0xAA, 0xBB, 0xCC, 0xDD,
                      1, 2, 0, 2] =
      .ok ({ header := { version := 2, padding := true, extension := true, payloadType := 0x60, seq := 1,
                         ts := 2, ssrc := 3, extProfile := 0x1234,
                         exts := [{ id := 0, payload := [0xAA, 0xBB, 0xCC, 0xDD] }] },
             payload := [1, 2], paddingSize := 2 }, 20, [16]) := by
  decide

/-- one-byte elements: pad byte, id 1 with the value `AA BB` at offset 18, pad byte -/
example : parseOneByteL 16 [0, 0x11, 0xAA, 0xBB, 0] = .ok ([({ id := 1, payload := [0xAA, 0xBB] }, 18)], 0) := by
  simp [parseOneByteL]; decide

/-- two-byte elements: id 7 with an empty value (offset 18), id 9 with `CC` at offset 20 -/
example : parseTwoByteL 16 [7, 0, 9, 1, 0xCC] =
    .ok [({ id := 7, payload := [] }, 18), ({ id := 9, payload := [0xCC] }, 20)] := by
  simp [parseTwoByteL]

/-- a used receiver: the stale profile 0x1000 survives an X = 0 packet -/
example :
    hdrUnmarshal { extProfile := 0x1000 } [0x80, 0, 0, 0, 0, 0, 0, 0, 0, 0, 0, 0] =
      .ok ({ version := 2, extProfile := 0x1000 }, 12) := by
  decide

example : pktUnmarshal {} [0x90, 0, 0, 0, 0, 0, 0, 0, 0, 0, 0, 0, 0x12, 0x34, 0, 2, 0x10] = .err .shortExt := by
  decide

end Rtp.Props.C02
