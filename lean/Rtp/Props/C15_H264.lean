/-
  Rtp/Props/C15_H264.lean — C15, H264 half: after ANY history (any loss pattern of earlier frames,
  any garbage — i.e. from any receiver state) a completely delivered frame decodes to exactly what
  a fresh H264Packet produces for it.
  "Frame" = a payload sequence that is self-starting: every FU-A continuation fragment in it is
  preceded, inside the sequence, by the start fragment of its unit (`selfStarting`).  The output of
  the RFC 6184 encoder and of the payloader are decoded independently of the receiver state altogether
  (`c15_h264_encoded`, `c15_h264_payloader`).
-/
import Rtp.Proofs.H264Basic
import Rtp.Proofs.H264History
import Rtp.Model.H264Obs
namespace Rtp.Props.C15.H264
open Rtp Rtp.Model.H264 Rtp.Model.H264.Obs Rtp.Pred Rtp.Pred.C15H264 Rtp.Proofs.H264 Rtp.Spec.Rfc6184

/-- for ALL receiver states `st` (the FU-A buffer left by whatever came before) -/
theorem c15_h264 (avc : Bool) (st : Bytes) (frame : List Bytes)
    (h : selfStarting false frame = true) :
    (run avc st frame).1 = (run avc [] frame).1 :=
  run_selfStarting avc frame false st [] h (by simp)

/-- every loss pattern, spelled out: whatever sub-sequence `got` of an earlier frame's packets was
    delivered (and whatever garbage `junk` came before it), the next frame decodes as on a fresh
    receiver.  (`got` need not even be a sub-sequence — the receiver state is arbitrary — but this is
    the form the property is worded in.) -/
theorem c15_h264_any_loss (avc : Bool) (junk earlier got frame : List Bytes)
    (_hsub : got.Sublist earlier) (h : selfStarting false frame = true) :
    (run avc (run avc [] (junk ++ got)).2 frame).1 = (run avc [] frame).1 :=
  c15_h264 avc _ frame h

/-- frames of the independent RFC 6184 encoder: every legal plan, after any history -/
theorem c15_h264_encoded (avc : Bool) (st : Bytes) (plan : List Item) (hw : plan.all Item.wf = true) :
    (run avc st (encode plan)).1 = (run avc [] (encode plan)).1 := by
  rw [run_encode avc plan hw st, run_encode avc plan hw []]

/-- frames of pion's payloader: all payloads of any history of calls (MTU ≥ 3, well-formed units,
    STAP-A on or off) on a new H264Payloader, after any receiver history -/
theorem c15_h264_payloader (disable avc : Bool) (st : Bytes) (calls : List C10.RtCall)
    (hw : ∀ c ∈ calls, C10.RtCall.WF c) :
    (run avc st (fragsCalls disable {} calls)).1 = (run avc [] (fragsCalls disable {} calls)).1 := by
  obtain ⟨plan, e, w, _, _, _⟩ := history_plan disable calls hw
  rw [e]
  exact c15_h264_encoded avc st plan w

/-- in the form the harness checks: prehistory `pre` (arbitrary payloads), then the frame -/
theorem c15_h264_pred (i : Input) : C15H264.ok i (c15Model i) = true := by
  simp only [C15H264.ok, c15Model, Bool.not_false, Bool.true_and, Bool.and_eq_true, beq_iff_eq,
    List.length_map, run_length, Bool.or_eq_true, Bool.not_eq_true', true_and]
  by_cases hw : i.wf = true
  · right
    simp only [Input.wf] at hw
    rw [c15_h264 i.avc _ i.frame hw]
  · left; simpa using hw

/-- the buffer of an abandoned FU-A is never prepended: the history of DESIGN §7 `c15_h264_fua_not_reset`.  The first unit
    loses its end fragment; the unit `[0x65, 7, 8, 9]` still comes out clean. -/
example :
    (run false [] [[0x7C, 0x85, 1, 2, 3], [0x7C, 0x05, 4], [0x7C, 0x85, 7, 8], [0x7C, 0x45, 9]]).1 =
      [.ok [], .ok [], .ok [], .ok [0, 0, 0, 1, 0x65, 7, 8, 9]] := by decide

/-- non-vacuity of the hypothesis: a frame with a single unit, a STAP-A and a 3-fragment FU-A -/
example : selfStarting false [[0x65, 1], [0x78, 0, 1, 0x67], [0x7C, 0x85, 1], [0x7C, 0x05, 2],
    [0x7C, 0x45, 3]] = true := by decide

/-- … and a frame that is NOT self-starting (continuation first) really depends on the state -/
example : (run false [0xAA] [[0x7C, 0x45, 3]]).1 ≠ (run false [] [[0x7C, 0x45, 3]]).1 := by decide

/-- the predicate is not vacuous: DESIGN §7 `c15_h264_fua_not_reset` as the code before /repo
    `42a66eb` behaved (the stale byte 0x93 of an abandoned unit is prepended) is rejected -/
example : C15H264.ok
    { avc := true, pre := [[0xC0, 0xA6, 0xDC], [0x9C, 0x90, 0x93]], frame := [[0x3C, 0x85], [0x3C, 0x45]] }
    { panicked := false, after := [.ok [], .ok [0, 0, 0, 2, 0x25, 0x93]],
      fresh := [.ok [], .ok [0, 0, 0, 1, 0x25]] } = false := by decide

end Rtp.Props.C15.H264
