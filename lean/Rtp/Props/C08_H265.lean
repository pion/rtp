/-
  Rtp/Props/C08_H265.lean — the H265 part of C08: `H265Payloader.Payload` respects the MTU, never
  panics and hands out non-empty fragments, for every option setting, MTU, input and call history.
-/
import Rtp.Proofs.H265Pay
import Rtp.Proofs.Lib.CallOk
namespace Rtp.Props.C08.H265
open Rtp Rtp.Model.H265 Rtp.Pred

/-- one call, any state of the DONL counter: every fragment is at most `mtu` octets and non-empty -/
theorem c08_h265_call (cfg : Cfg) (mtu donl : UInt16) (input : Option Bytes) :
    (∀ f ∈ (payload cfg mtu donl input).1, f.length ≤ mtu.toNat) ∧
    (∀ f ∈ (payload cfg mtu donl input).1, f ≠ []) :=
  ⟨fun f hf => (payload_bounded cfg mtu donl input f hf).1,
   fun f hf => (payload_bounded cfg mtu donl input f hf).2⟩

/-- C08 for H265 on the model, as the predicate the harness evaluates on the real code: for every
    history of `Payload(mtu, input)` calls on one payloader (MTU 0…65535, nil and empty inputs
    included, AddDONL and SkipAggregation in every combination) no call panics (the model has no
    panicking branch: every index is guarded, and the aggregation buffer is written exactly —
    `agg_exact`), every fragment is ≤ MTU and non-empty (`histOk false`: not the Opus exception).  In
    this observation "fragments are fresh copies" is a constant (`PayObs.ofFrags`); it is proved on the
    provenance model in Rtp/Props/C08_Prov.lean. -/
theorem c08_h265_from (cfg : Cfg) (d : UInt16) (calls : List (UInt16 × Option Bytes)) :
    C08.histOk false calls ((payloadHist cfg d calls).map PayObs.ofFrags) = true := by
  induction calls generalizing d with
  | nil => rfl
  | cons c cs ih =>
    obtain ⟨m, i⟩ := c
    simp only [payloadHist, List.map_cons, C08.histOk, Bool.and_eq_true]
    exact ⟨C08.callOk_frags m i _ (payload_bounded cfg m d i), ih _⟩

theorem c08_h265 (cfg : Cfg) (calls : List (UInt16 × Option Bytes)) :
    C08.histOk false calls (c08Obs cfg calls) = true := c08_h265_from cfg 0 calls

/-- the size bookkeeping of the aggregation buffer is exact (no out-of-range write, no stale
    trailing octet), whenever two or more units are buffered.  `Inv` holds of every state a `Payload`
    call goes through (`inv_of_empty`, `step_spec` in Rtp/Proofs/H265Pay.lean). -/
theorem c08_h265_agg_exact (cfg : Cfg) (mtu : Nat) (s : St) (h : Inv cfg mtu s) (h2 : 2 ≤ s.buf.length) :
    (aggPacket cfg s.donl s.buf).length = s.agg := agg_exact cfg mtu s h h2

/-- non-vacuity: MTU 10, two 2-byte units are aggregated into one 10-byte packet; a raw 9-byte
    buffer at MTU 6 is fragmented into three FUs of 6, 6 and 4 octets -/
example : (run ⟨false, false⟩ 10 { buf := [], agg := 0, donl := 0 } [[0, 1], [2, 3]]).1 =
    [[0x60, 1, 0, 2, 0, 1, 0, 2, 2, 3]] := by decide
example : (payload ⟨false, false⟩ 6 0 (some [0x26, 1, 1, 2, 3, 4, 5, 6, 7])).1 =
    [[0x62, 1, 0x93, 1, 2, 3], [0x62, 1, 0x13, 4, 5, 6], [0x62, 1, 0x53, 7]] := by decide

end Rtp.Props.C08.H265
