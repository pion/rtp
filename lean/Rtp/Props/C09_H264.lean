/-
  Rtp/Props/C09_H264.lean — the H264 part of C09: H264Packet (Annex-B and AVC) never panics on any
  sequence of payloads (nil and empty included), from any receiver state; the receiver state matters only to FU-A
  continuation fragments.  That what it retains is its own cannot be said of this model (values are
  immutable): it is proved at the provenance level in Props/C09_Prov.lean and observed on the Go side
  by the twin/overwrite probe.
-/
import Rtp.Proofs.H264Basic
import Rtp.Proofs.Lib.Res
import Rtp.Model.H264Obs
namespace Rtp.Props.C09.H264
open Rtp Rtp.Model.H264 Rtp.Model.H264.Obs Rtp.Pred Rtp.Proofs.H264

/-- Unmarshal never panics: every payload, every receiver state, both framings -/
theorem c09_nopanic_h264 (avc : Bool) (buf payload : Bytes) :
    (unmarshal avc buf payload).1 ≠ .panic :=
  unmarshal_ne_panic avc buf payload

/-- the same with the `SetZeroAllocation` switch (`zero`) -/
theorem c09_nopanic_h264_zero (zero avc : Bool) (buf payload : Bytes) :
    (unmarshalZ zero avc buf payload).1 ≠ .panic := by
  unfold unmarshalZ
  split
  · simp
  · exact unmarshal_ne_panic avc buf payload

/-- the predicate the harness evaluates on the real receiver holds of the model's observation, for
    every history of payloads, every initial FU-A buffer, Annex-B or AVC output, with or without
    `SetZeroAllocation` -/
theorem c09_h264 (zero avc : Bool) (buf : Bytes) (payloads : List (Option Bytes)) :
    C09.histOk false (c09Calls zero avc buf payloads) = true := by
  induction payloads generalizing buf with
  | nil => simp [c09Calls, C09.histOk]
  | cons p ps ih =>
    have hp := c09_nopanic_h264_zero zero avc buf (p.getD [])
    have := ih (unmarshalZ zero avc buf (p.getD [])).2
    simp only [C09.histOk, List.all_eq_true] at this ⊢
    intro o ho
    simp only [c09Calls, List.mem_cons] at ho
    rcases ho with rfl | ho
    · simp [C09.callOk, Res.isPanic_eq_false_iff.mpr hp]
    · exact this o ho

theorem c09_run_nopanic_h264 (avc : Bool) (buf : Bytes) (ps : List Bytes) :
    ∀ r ∈ (run avc buf ps).1, r ≠ .panic := by
  induction ps generalizing buf with
  | nil => simp [run]
  | cons p ps ih =>
    intro r hr
    simp only [run, List.mem_cons] at hr
    rcases hr with rfl | hr
    · exact unmarshal_ne_panic avc buf p
    · exact ih _ r hr

/-- reuse: the receiver's state matters only to FU-A packets (type 28, ≥ 2 bytes).  Every other
    payload — single NAL unit, STAP-A, rejected ones, nil/empty — is decoded exactly as by a fresh
    receiver and leaves the retained buffer untouched. -/
theorem c09_h264_state_only_fua (avc : Bool) (buf p : Bytes)
    (hp : ∀ h fh tl, p = h :: fh :: tl → Rtp.Spec.Rfc6184.hType h ≠ 28) :
    unmarshal avc buf p = ((unmarshal avc [] p).1, buf) :=
  unmarshal_other avc buf p hp

/-- … and an FU-A start fragment makes the state irrelevant too (DESIGN §7 `c15_h264_fua_not_reset`) -/
theorem c09_h264_start_resets (avc : Bool) (buf : Bytes) (h fh : UInt8) (tl : Bytes)
    (e : Rtp.Spec.Rfc6184.hType h = 28) (hs : Rtp.Spec.Rfc6184.fuS fh = true) :
    unmarshal avc buf (h :: fh :: tl) = unmarshal avc [] (h :: fh :: tl) := by
  rw [unmarshal_fua avc buf h fh tl e, unmarshal_fua avc [] h fh tl e]
  simp [hs]

/-- non-vacuity: the history of that entry — the abandoned fragment is dropped -/
example : (run false [] [[0x7C, 0x85, 1, 2, 3], [0x7C, 0x85, 7, 8], [0x7C, 0x45, 9]]).1 =
    [.ok [], .ok [], .ok [0, 0, 0, 1, 0x65, 7, 8, 9]] := by decide

end Rtp.Props.C09.H264
