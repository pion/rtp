/-
  Rtp/Props/C13Closed.lean — the results that Rtp/Props/C13.lean states with a binder
  `hleb : LebGoSpec` (ReadLeb128 ∘ WriteToLeb128 = id below 2^56), stated without it; `LebGoSpec`
  itself is `Rtp.Model.readLebGo_writeLeb` (Rtp/Proofs/Leb128Go.lean).
-/
import Rtp.Props.C13
namespace Rtp.Props.C13
open Rtp Rtp.Model Rtp.Model.AV1 Rtp.Spec.Av1Rtp

/-- LEB128: WriteToLeb128 then ReadLeb128 is the identity on 0 … 2^32−1 (predicate of kind c13.leb) -/
theorem c13_leb_go_closed (n : UInt64) (tail : Bytes) : Pred.C13.leb n (lebObs n tail) = true :=
  c13_leb_go readLebGo_writeLeb n tail

/-- what the payloads denote = the input OBUs minus temporal delimiters / tile lists, size fields removed -/
theorem c13_denotes_closed (mtu : UInt16) (hm : 2 ≤ mtu.toNat) (obus : List Obu)
    (hwf : obusWF obus = true) :
    denote (AV1.payload mtu (serialise obus)) = some (normalise obus) :=
  c13_denotes readLebGo_writeLeb mtu hm obus hwf

/-- kind `c13.rt`: the predicate `Pred.C13.rt` holds of the model for every MTU ≥ 2 and every
    well-formed OBU sequence -/
theorem c13_roundtrip_closed (mtu : UInt16) (hm : 2 ≤ mtu.toNat) (obus : List Obu)
    (hwf : obusWF obus = true) :
    Pred.C13.rt mtu.toNat obus (rtObs mtu (serialise obus)) = true :=
  c13_roundtrip readLebGo_writeLeb mtu hm obus hwf

/-- the round trip spelled out: AV1Depacketizer delivers the OBUs with size fields, frame.AV1 the OBUs -/
theorem c13_roundtrip_spec_closed (mtu : UInt16) (hm : 2 ≤ mtu.toNat) (obus : List Obu)
    (hwf : obusWF obus = true) :
    (∃ outs : List Bytes,
      (depFeed {} (AV1.payload mtu (serialise obus))).1 = outs.map Res.ok ∧
      outs.flatten = (normaliseSized obus).flatten) ∧
    (framesOf [] (AV1.payload mtu (serialise obus))).flatten = normalise obus :=
  c13_roundtrip_spec readLebGo_writeLeb mtu hm obus hwf

end Rtp.Props.C13
