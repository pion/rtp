/-
  Rtp/Props/C08_VP8.lean — C08 for VP8Payloader: MTU bound, no panic, non-empty fragments, for every
  option setting, every payloader state and every history of calls.  (The model has no panic
  outcome at all: `vp8Payload` is a total function returning fragments; that the real code does not
  panic and writes nothing into its input is observed by kind `c08.vp8`; that the fragments are fresh
  copies is proved of the provenance model, `c08_prov_vp8_owned`, `c08_prov_vp8_history` in
  Props/C08_Prov2.lean.)
-/
import Rtp.Proofs.VP8Own
namespace Rtp.Props.C08.VP8
open Rtp Rtp.Model Rtp.Pred

/-- the predicate the harness evaluates for `c08.vp8` (`false`: not Opus, the MTU binds) holds of the
    model's observation, for every picture-id mode and every history of (MTU, input) calls, MTU 0 … 65535,
    nil and empty included -/
theorem c08_vp8 (enable : Bool) (calls : List (UInt16 × Option Bytes)) :
    C08.histOk false calls (C11.obsPay enable calls) = true :=
  Proofs.VP8.histOk_vp8 calls _

/-- from ANY state (any picture id, reachable or not): every fragment is at most
    MTU bytes long and not empty -/
theorem c08_vp8_sizes (st : VP8Pay) (mtu : UInt16) (input : Option Bytes) :
    ∀ f ∈ (vp8Payload st mtu input).1, f.length ≤ mtu.toNat ∧ f ≠ [] :=
  Proofs.VP8.payload_frag st mtu input

/-- non-vacuity: MTU 4 leaves one byte per packet next to a 7-bit picture id -/
example : (vp8Payload { enablePictureID := true, pictureID := 5 } 4 (some [7, 8])).1 =
    [[0x90, 0x80, 5, 7], [0x80, 0x80, 5, 8]] := by decide

end Rtp.Props.C08.VP8
