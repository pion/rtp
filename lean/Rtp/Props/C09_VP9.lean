/-
  Rtp/Props/C09_VP9.lean — C09 for VP9Packet (Unmarshal resets the per-packet fields before parsing):
  no panic; a reused receiver gives the same result and (on success) metadata as a fresh one.
  IsPartitionHead / IsPartitionTail are pure functions of their arguments in the model.  That the
  receiver retains nothing of the caller's buffer except the returned sub-slice is observed by kind
  `c09.vp9` (twinSame), not proved.
-/
import Rtp.Proofs.VP9
namespace Rtp.Props.C09.VP9
open Rtp Rtp.Model Rtp.Pred

theorem c09_nopanic_vp9 (p : VP9Packet) (payload : Option Bytes) :
    (vp9Unmarshal p payload).1 ≠ .panic :=
  Proofs.VP9.unmarshal_nopanic p payload

/-- reuse: whatever the receiver held before, the result equals that of a fresh receiver and,
    when the call succeeds, so does every metadata field (PDiff, PGTID, PGU, PGPDiff, Width and
    Height do not accumulate; PictureID, TID, … do not survive a packet without them) -/
theorem c09_reuse_vp9 (p : VP9Packet) (payload : Option Bytes) :
    (vp9Unmarshal p payload).1 = (vp9Unmarshal {} payload).1 ∧
    ((vp9Unmarshal p payload).1.isOk = true → (vp9Unmarshal p payload).2 = (vp9Unmarshal {} payload).2) :=
  Proofs.VP9.unmarshal_reuse p {} payload

/-- stronger for non-empty packets: outcome and receiver do not depend on the receiver at all -/
theorem c09_fresh_vp9 (p q : VP9Packet) (b0 : UInt8) (r : Bytes) :
    vp9Unmarshal p (some (b0 :: r)) = vp9Unmarshal q (some (b0 :: r)) :=
  Proofs.VP9.unmarshal_fresh p q b0 r

/-- as `c09_vp8`, for kind `c09.vp9` -/
theorem c09_vp9 (p : VP9Packet) (payloads : List (Option Bytes)) :
    C09.histOk true (C12.obsDep p payloads) = true :=
  Proofs.VP9.obsDep_ok payloads p

/-- non-vacuity: the input of the finding `c09_vp9_reuse` (DESIGN.md §7) — `D0 05 04 AA` four times gives PDiff = [2] each time -/
example :
    let w : Option Bytes := some [0xD0, 0x05, 0x04, 0xAA]
    let p1 := (vp9Unmarshal {} w).2
    let p2 := (vp9Unmarshal p1 w).2
    let p3 := (vp9Unmarshal p2 w).2
    (vp9Unmarshal p3 w) = (.ok [0xAA], { I := true, P := true, F := true, PictureID := 5, PDiff := [2] }) := by
  decide +kernel

end Rtp.Props.C09.VP9
