/-
  Rtp/Props/C09_Prov.lean — C09 "depacketizers that carry fragment state between calls
  (AV1Depacketizer, H264Packet) keep their own copy of it", at the provenance level.

  In the value-level models the retained fragment is an immutable value (`DepObs.twinSame := true`
  is a constant of the C09 handlers).  Here both depacketizers are transcribed once more over
  `PBytes` (contents + origin of the backing array, Rtp/Model/Prov.lean) and it is proved that
    (i)   PROJECTION: forgetting the origins gives exactly the value-level model, results and state;
    (ii)  OWNERSHIP: after any sequence of payloads the retained fragment is `fresh`, and so is
          everything `Unmarshal` returns (H264Packet: with the zero-allocation switch off — with it
          on the caller's slice is handed back, as documented, and nothing is retained);
    (iii) the layer is not blind: the same transcription with the copy removed (AV1: the code before
          the repair, `d.buffer = obuBuffer`) leaves `input i` in the state.
-/
import Rtp.Proofs.ProvH264
import Rtp.Proofs.ProvAV1
namespace Rtp.Props.C09.Prov
open Rtp Rtp.Model Rtp.Model.Prov

/-- all results of a run and the buffer retained at its end are owned -/
def RunOwned (rs : List (Res PBytes)) (buffer : PBytes) : Prop :=
  (∀ res ∈ rs, ∀ r, res = .ok r → r.Owned) ∧ buffer.Owned

/-! ### AV1Depacketizer (`buffer`: the trailing fragment of a packet with Y set) -/
section AV1
open Rtp.Model.AV1 Rtp.Proofs.ProvAV1

/-- (i) projection, one call: result and receiver, for every receiver state, call number, payload -/
theorem c09_prov_av1_projection (d : PDSt) (i : Nat) (payload : Bytes) :
    ((provDepUnmarshal d i payload).1.map PBytes.bytes, (provDepUnmarshal d i payload).2.forget) =
      depUnmarshal d.forget payload :=
  forget_pDepUnmarshalG PBytes.copy (fun _ => rfl) d i payload

/-- (i) projection, a whole sequence of payloads -/
theorem c09_prov_av1_history_projection (d : PDSt) (i : Nat) (ps : List Bytes) :
    ((runProvDep d i ps).1.map (·.map PBytes.bytes), (runProvDep d i ps).2.forget) = depFeed d.forget ps :=
  forget_pDepFeedG PBytes.copy (fun _ => rfl) d i ps

/-- (ii) ownership, one call: the returned OBU stream is a new array; the retained fragment is
    owned afterwards if it was before (error returns included: they also change the receiver) -/
theorem c09_prov_av1_owned (d : PDSt) (i : Nat) (payload : Bytes) (hd : d.Owned) :
    (∀ r, (provDepUnmarshal d i payload).1 = .ok r → r.Owned) ∧ (provDepUnmarshal d i payload).2.Owned :=
  let h := owned_pDepUnmarshalG PBytes.copy d i payload
  ⟨h.1, h.2 (fun _ => rfl) hd⟩

/-- (ii) ownership, any sequence of payloads on a new depacketizer -/
theorem c09_prov_av1_history (i : Nat) (ps : List Bytes) :
    RunOwned (runProvDep {} i ps).1 (runProvDep {} i ps).2.buffer :=
  owned_pDepFeedG PBytes.copy (fun _ => rfl) {} i ps rfl

/-- the same from any owned receiver -/
theorem c09_prov_av1_history_any_state (d : PDSt) (hd : d.Owned) (i : Nat) (ps : List Bytes) :
    RunOwned (runProvDep d i ps).1 (runProvDep d i ps).2.buffer :=
  owned_pDepFeedG PBytes.copy (fun _ => rfl) d i ps hd

/-- the code before the repair computes the same VALUES (the defect is invisible in the
    value-level model) and returns new arrays … -/
theorem c09_prov_av1_unrepaired_projection (d : PDSt) (i : Nat) (payload : Bytes) :
    ((provDepUnmarshalUnrepaired d i payload).1.map PBytes.bytes,
      (provDepUnmarshalUnrepaired d i payload).2.forget) = depUnmarshal d.forget payload ∧
    ∀ r, (provDepUnmarshalUnrepaired d i payload).1 = .ok r → r.Owned :=
  ⟨forget_pDepUnmarshalG id (fun _ => rfl) d i payload, (owned_pDepUnmarshalG id d i payload).1⟩

/-- (iii) … but the fragment it retains is a view of the caller's packet: W=1, Y set, call 7 -/
theorem c09_prov_av1_unrepaired_witness :
    (provDepUnmarshalUnrepaired {} 7 [0x50, 0x30, 0x01, 0x02, 0x03]).2.buffer =
      ⟨[0x30, 0x01, 0x02, 0x03], .input 7⟩ := by decide +kernel

/-- the repaired code on the same call: the same bytes in a new array -/
example : (provDepUnmarshal {} 7 [0x50, 0x30, 0x01, 0x02, 0x03]).2.buffer =
    ⟨[0x30, 0x01, 0x02, 0x03], .fresh⟩ := by decide +kernel

/-- non-vacuity (the witness of DESIGN §7 `c09_av1_buffer_alias`): the fragment is retained in call 0, joined in
    call 1, the OBU comes out in a new array and nothing is left -/
example : runProvDep {} 0 [[0x50, 0x30, 0x01, 0x02, 0x03], [0x90, 0x04, 0x05]] =
    ([.ok ⟨[], .fresh⟩, .ok ⟨[0x32, 0x05, 0x01, 0x02, 0x03, 0x04, 0x05], .fresh⟩],
     { buffer := ⟨[], .fresh⟩, z := true, y := false, n := false }) := by decide +kernel

end AV1

/-! ### H264Packet (`fuaBuffer`: the FU-A fragments received so far) -/
section H264
open Rtp.Model.H264 Rtp.Proofs.ProvH264

/-- (i) projection, one call (zero-allocation off) -/
theorem c09_prov_h264_projection (avc : Bool) (buf : PBytes) (i : Nat) (payload : Bytes) :
    ((provUnmarshal avc buf i payload).1.map PBytes.bytes, (provUnmarshal avc buf i payload).2.bytes) =
      unmarshal avc buf.bytes payload :=
  (pUnmarshalG_tracks fuaAppend (fun _ _ => rfl) avc buf i payload).forget

/-- (i) projection with the zero-allocation switch -/
theorem c09_prov_h264_projection_z (zero avc : Bool) (buf : PBytes) (i : Nat) (payload : Bytes) :
    ((provUnmarshalZ zero avc buf i payload).1.map PBytes.bytes, (provUnmarshalZ zero avc buf i payload).2.bytes) =
      unmarshalZ zero avc buf.bytes payload := by
  unfold provUnmarshalZ unmarshalZ
  split
  · rfl
  · exact c09_prov_h264_projection avc buf i payload

/-- (i) projection, a whole sequence of payloads -/
theorem c09_prov_h264_history_projection (avc : Bool) (buf : PBytes) (i : Nat) (ps : List Bytes) :
    ((runProvUnmarshal avc buf i ps).1.map (·.map PBytes.bytes), (runProvUnmarshal avc buf i ps).2.bytes) =
      run avc buf.bytes ps :=
  forget_pRunG fuaAppend (fun _ _ => rfl) avc buf i ps

/-- (ii) ownership, one call: what is returned is a new array and the FU-A buffer stays owned -/
theorem c09_prov_h264_owned (avc : Bool) (buf : PBytes) (i : Nat) (payload : Bytes) (hb : buf.Owned) :
    (∀ r, (provUnmarshal avc buf i payload).1 = .ok r → r.Owned) ∧ (provUnmarshal avc buf i payload).2.Owned :=
  let h := pUnmarshalG_tracks fuaAppend (fun _ _ => rfl) avc buf i payload
  ⟨fun _ hr => Rtp.Proofs.Prov.owned_of_map_make (h.1 ▸ hr), h.2.2 (fun _ _ => rfl) hb⟩

/-- (ii) the retained buffer is owned whatever the zero-allocation switch says (with the switch
    on, the RESULT is the caller's slice — that is the documented meaning of the switch) -/
theorem c09_prov_h264_owned_z (zero avc : Bool) (buf : PBytes) (i : Nat) (payload : Bytes) (hb : buf.Owned) :
    (provUnmarshalZ zero avc buf i payload).2.Owned := by
  unfold provUnmarshalZ
  split
  · exact hb
  · exact (c09_prov_h264_owned avc buf i payload hb).2

/-- (ii) ownership, any sequence of payloads from any owned buffer -/
theorem c09_prov_h264_history_any_state (avc : Bool) (buf : PBytes) (hb : buf.Owned) (i : Nat)
    (ps : List Bytes) :
    RunOwned (runProvUnmarshal avc buf i ps).1 (runProvUnmarshal avc buf i ps).2 :=
  ⟨results_owned_pRunG fuaAppend (fun _ _ => rfl) avc buf i ps,
    (pRunG_spec fuaAppend (fun _ _ => rfl) avc buf i ps).2.2 (fun _ _ => rfl) hb⟩

/-- … in particular on a new H264Packet -/
theorem c09_prov_h264_history (avc : Bool) (i : Nat) (ps : List Bytes) :
    RunOwned (runProvUnmarshal avc PBytes.nil i ps).1 (runProvUnmarshal avc PBytes.nil i ps).2 :=
  c09_prov_h264_history_any_state avc PBytes.nil rfl i ps

/-- (iii) a variant that skips the copy when nothing is buffered (`p.fuaBuffer = payload[2:]`)
    computes the same values but retains a view of the caller's packet: FU-A start fragment, call 5 -/
theorem c09_prov_h264_alias_witness :
    ((provUnmarshalAlias false PBytes.nil 5 [0x7C, 0x85, 0xAA, 0xBB]).1.map PBytes.bytes,
      (provUnmarshalAlias false PBytes.nil 5 [0x7C, 0x85, 0xAA, 0xBB]).2.bytes) =
      unmarshal false [] [0x7C, 0x85, 0xAA, 0xBB] ∧
    (provUnmarshalAlias false PBytes.nil 5 [0x7C, 0x85, 0xAA, 0xBB]).2 = ⟨[0xAA, 0xBB], .input 5⟩ := by
  decide +kernel

/-- the code as it is, same call: the same bytes in the depacketizer's own array -/
example : (provUnmarshal false PBytes.nil 5 [0x7C, 0x85, 0xAA, 0xBB]).2 = ⟨[0xAA, 0xBB], .fresh⟩ := by
  decide +kernel

/-- non-vacuity: start fragment in call 0, end fragment in call 1 — the unit comes out behind a
    start code in a new array and the buffer is released -/
example : runProvUnmarshal false PBytes.nil 0 [[0x7C, 0x85, 0xAA], [0x7C, 0x45, 0xBB]] =
    ([.ok ⟨[], .fresh⟩, .ok ⟨[0, 0, 0, 1, 0x65, 0xAA, 0xBB], .fresh⟩], ⟨[], .fresh⟩) := by decide +kernel

end H264

end Rtp.Props.C09.Prov
