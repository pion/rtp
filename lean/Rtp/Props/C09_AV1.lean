/-
  Rtp/Props/C09_AV1.lean — the AV1 parts of C09: AV1Depacketizer and the deprecated AV1Packet +
  frame.AV1 path never panic, for every sequence of payloads (nil and empty included) on one receiver.
  In this value-level model a retained fragment cannot alias anything (`twinSame := true`); that the
  receiver owns what it retains is proved on the provenance model (Rtp/Props/C09_Prov.lean:
  `c09_prov_av1_owned`, `c09_prov_av1_unrepaired_witness`).
-/
import Rtp.Proofs.AV1Depack
import Rtp.Proofs.AV1DepackIdx
import Rtp.Proofs.AV1Packet
import Rtp.Proofs.AV1PacketIdx
import Rtp.Proofs.Lib.Res
namespace Rtp.Props.C09.AV1
open Rtp Rtp.Model Rtp.Model.AV1

/-- AV1Depacketizer, every receiver state and every sequence of payloads: the C09 predicate holds
    of the model's observation (no panic in Unmarshal, IsPartitionHead, IsPartitionTail) -/
theorem c09_av1 (d : DSt) (ps : List (Option Bytes)) :
    Pred.C09.histOk false (depObsOf d ps) = true := by
  induction ps generalizing d with
  | nil => simp [depObsOf, Pred.C09.histOk]
  | cons p ps ih =>
    have ih' := ih (depUnmarshal d (p.getD [])).2
    simp only [Pred.C09.histOk] at ih' ⊢
    simp [depObsOf, depUnmarshalX_eq, ih', Pred.C09.callOk,
      Res.isPanic_eq_false_iff.mpr (depUnmarshal_ne_panic d (p.getD []))]

/-- the offset-based model with CHECKED slice expressions (`payload[a:b]` fails unless a ≤ b ≤ len)
    never fails a check, on any receiver and any payload, and computes what the list-consuming
    model computes: every slice expression of Unmarshal is in range -/
theorem c09_av1_slices_in_range (d : DSt) (p : Bytes) :
    depUnmarshalC d p = some (depUnmarshal d p) := depUnmarshalC_eq d p

/-- spelled out: Unmarshal on any receiver and any payload returns a value or an error -/
theorem c09_av1_nopanic (d : DSt) (p : Bytes) : (depUnmarshal d p).1 ≠ .panic :=
  depUnmarshal_ne_panic d p

/-- AV1Packet (fresh per payload or reused) with one frame.AV1 assembler; ReadFrames after every
    successful Unmarshal and, for the payloads flagged so, also after a refused one (on the fields the
    refused call left in the packet) -/
theorem c09_av1packet (reuse : Bool) (st : PktSt) (buf : Bytes) (ps : List (Option Bytes × Bool)) :
    Pred.C09Av1.histOk (pktCallsOf reuse st buf ps) = true := by
  induction ps generalizing st buf with
  | nil => simp [pktCallsOf, Pred.C09Av1.histOk]
  | cons pa ps ih =>
    obtain ⟨p, always⟩ := pa
    simp only [Pred.C09Av1.histOk] at ih ⊢
    simp only [pktCallsOf, pktUnmarshalX_eq, readFramesC_eq, List.all_cons, ih, Bool.and_true,
      Pred.C09Av1.callOk]
    have hnp := Res.isPanic_eq_false_iff.mpr (pktUnmarshal_ne_panic (if reuse = true then st else {}) p)
    simp only [Res.isPanic_coarse, hnp, Bool.not_false, Bool.and_true,
      apply_ite Prod.fst, apply_ite Res.isPanic, Res.isPanic_ok, ite_self]

/-- the index-based models of AV1Packet.Unmarshal / parseBody and frame.AV1.ReadFrames with CHECKED
    slice and index expressions never fail a check and compute what the list models compute -/
theorem c09_av1packet_slices_in_range (p : PktSt) (payload : Option Bytes) (buf : Bytes) (z y : Bool)
    (elems : List Bytes) :
    pktUnmarshalC p payload = some (pktUnmarshal p payload) ∧
    readFramesC buf z y elems = some (readFrames buf z y elems) :=
  ⟨pktUnmarshalC_eq p payload, readFramesC_eq buf z y elems⟩

/-- non-vacuity of the refused-then-ReadFrames histories: a fresh AV1Packet refuses `80 05 01` (Z = 1,
    element longer than the packet) and `88 00` (Z with N) but has stored Z = true; ReadFrames on it
    returns no OBU; a fragment cached before (`50 30 01`) survives such a call and is completed by the
    next continuation -/
example :
    let os := pktCallsOf false {} [] [(some [0x80, 0x05, 0x01], true), (some [0x50, 0x30, 0x01], false),
      (some [0x88, 0x00], true), (some [0x90, 0x02], true)]
    os.map (·.res.isOk) = [false, true, false, true] ∧ os.map (·.z) = [true, false, true, true] ∧
    os.map (·.elems) = [[], [[0x30, 0x01]], [], [[0x02]]] ∧
    os.map (·.frames) = [.ok [], .ok [], .ok [], .ok [[0x30, 0x01, 0x02]]] := by decide +kernel

/-- non-vacuity: the witness of finding `c09_av1_buffer_alias` (DESIGN §7) on the model (the OBU comes out) -/
example : ((depObsOf {} [some [0x50, 0x30, 0x01, 0x02, 0x03], some [0x90, 0x04, 0x05]]).map (·.res)) =
    [.ok [], .ok [0x32, 0x05, 0x01, 0x02, 0x03, 0x04, 0x05]] := by decide +kernel

end Rtp.Props.C09.AV1
