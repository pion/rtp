/-
  Rtp/Props/C13Width.lean — C13 for inputs whose `obu_size` fields are not minimally encoded.

  AV1 spec 4.10.5 lets leb128() use more bytes than necessary (at most 8): `85 80 80 00` is the size 5
  in four bytes, as written by encoders that reserve a fixed-width field before the OBU length is
  known.  `serialiseW` lays an OBU sequence out with a chosen width per size field (0 = minimal);
  `widthsOK` admits the minimal width and every width 1 … 8 that holds the value.
-/
import Rtp.Props.C13Closed
import Rtp.Proofs.AV1Walk
namespace Rtp.Props.C13
open Rtp Rtp.Model Rtp.Model.AV1 Rtp.Spec.Av1Rtp

/-- ReadLeb128 on a size field of any allowed width returns the value and reports exactly the width
    as the number of bytes read, whatever follows -/
theorem c13_size_field_read (n w : Nat) (hn : n < 2 ^ 56) (hw : widthOK n w = true) (rest : Bytes) :
    readLebGo (sizeField n w ++ rest) = some (n.toUInt64, (sizeField n w).length) :=
  readLebGo_sizeField n w hn hw rest

/-- AV1Payloader.Payload does not depend on the widths of the size fields of its input: for every MTU,
    every well-formed OBU sequence and every allowed choice of a width per OBU, the payloads are those
    of the minimally encoded sequence -/
theorem c13_width_independent (mtu : UInt16) (ows : List (Obu × Nat))
    (hwf : obusWF (ows.map (·.1)) = true) (hww : widthsOK ows = true) :
    AV1.payload mtu (serialiseW ows) = AV1.payload mtu (serialise (ows.map (·.1))) :=
  payload_serialiseW mtu ows hwf hww

/-- kind `c13.rt` with size fields of chosen widths: the whole observation (payloads, both receive
    paths) is that of the minimally encoded input … -/
theorem c13_rtobs_width_independent (mtu : UInt16) (ows : List (Obu × Nat))
    (hwf : obusWF (ows.map (·.1)) = true) (hww : widthsOK ows = true) :
    rtObs mtu (serialiseW ows) = rtObs mtu (serialise (ows.map (·.1))) := by
  unfold rtObs
  rw [AV1B.payloadB_eq, AV1B.payloadB_eq, payload_serialiseW mtu ows hwf hww]

/-- … so the C13 round trip holds for it: for every MTU ≥ 2, every well-formed OBU sequence and every
    allowed width per size field, the predicate of kind `c13.rt` (rules, denotation, element
    structure seen by AV1Packet, OBUs reassembled by frame.AV1, OBUs with size fields delivered by
    AV1Depacketizer) holds of the model run on the padded bytes -/
theorem c13_roundtrip_widths (mtu : UInt16) (hm : 2 ≤ mtu.toNat) (ows : List (Obu × Nat))
    (hwf : obusWF (ows.map (·.1)) = true) (hww : widthsOK ows = true) :
    Pred.C13.rt mtu.toNat (ows.map (·.1)) (rtObs mtu (serialiseW ows)) = true := by
  rw [c13_rtobs_width_independent mtu ows hwf hww]
  exact c13_roundtrip_closed mtu hm _ hwf

/-- non-vacuity: `1A 85 80 80 00 <5 bytes>` (size 5 in four bytes) followed by an OBU with a two-byte
    field for size 1 — allowed widths, the padded bytes, and the payload at MTU 5 -/
example :
    widthsOK [(⟨⟨3, none, true, false⟩, [1, 2, 3, 4, 5]⟩, 4), (⟨⟨6, none, true, false⟩, [9]⟩, 2)] = true ∧
    obusWF [⟨⟨3, none, true, false⟩, [1, 2, 3, 4, 5]⟩, ⟨⟨6, none, true, false⟩, [9]⟩] = true ∧
    serialiseW [(⟨⟨3, none, true, false⟩, [1, 2, 3, 4, 5]⟩, 4), (⟨⟨6, none, true, false⟩, [9]⟩, 2)] =
      [0x1A, 0x85, 0x80, 0x80, 0x00, 1, 2, 3, 4, 5, 0x32, 0x81, 0x00, 9] ∧
    AV1.payload 5 [0x1A, 0x85, 0x80, 0x80, 0x00, 1, 2, 3, 4, 5, 0x32, 0x81, 0x00, 9] =
      [[0x50, 0x18, 1, 2, 3], [0xE0, 0x02, 4, 5, 0x30], [0x90, 9]] := by
  decide +kernel

end Rtp.Props.C13
