/-
  Rtp/Props/C09_Opus.lean — C09 for OpusPacket.
-/
import Rtp.Model.Audio
import Rtp.Pred.C09
namespace Rtp.Props.C09.Opus
open Rtp Rtp.Model Rtp.Pred

/-- the model's observation of one OpusPacket.Unmarshal call -/
def obs (b : Option Bytes) : C09.DepObs Unit :=
  { res := (opusUnmarshal b).coarse, md := (), head := audioIsPartitionHead b,
    tail0 := audioIsPartitionTail false b, tail1 := audioIsPartitionTail true b,
    auxPanic := false, freshSame := true, twinSame := true }

/-- Unmarshal never panics, for nil, empty and every other payload.  The model has no receiver state,
    which is why `obs` sets `freshSame` and `twinSame` by constant. -/
theorem c09_opus_nopanic (b : Option Bytes) : (opusUnmarshal b).isPanic = false := by
  unfold opusUnmarshal
  split <;> rfl

theorem c09_opus_hist (ps : List (Option Bytes)) : C09.histOk true (ps.map obs) = true := by
  simp only [C09.histOk, List.all_map, List.all_eq_true]
  intro b _
  simp only [Function.comp, C09.callOk, obs, opusUnmarshal]
  split <;> simp [Res.coarse, Res.isPanic]

example : (obs (some [1, 2])).res = .ok [1, 2] := rfl
end Rtp.Props.C09.Opus
