/-
  Rtp/Props/C12Header.lean — C12, the uncompressed-header parser (`c12_header_parse`, `c12_header`) and
  what rests on it: the header facts of every call (`c12_hdrFacts`), hence the payloader round trip in
  both modes (`c12_rt`), with `FlexibleMode` set per call (`c12_rt_flip`, `c12_rt_flip_from`), and the
  per-frame form for every history (`c12_rt_local`).  The lemmas about the parser are in
  Rtp/Proofs/VP9HeaderParse.lean.
-/
import Rtp.Props.C12
import Rtp.Proofs.VP9HeaderParse
namespace Rtp.Props.C12
open Rtp Rtp.Model Rtp.Pred
open Rtp.Spec.Vp9Bits (Hdr Color)

/-- vp9.Header.Unmarshal, run on ANY buffer whose first bits are the
    ones the specification's bit writer produces for a well-formed header description — profile
    0 … 3 (with the reserved bit of profile 3), show_existing_frame with its 3-bit index, non-key
    frames, key frames with every colour configuration (bit depth for profiles 2/3, the eight colour
    spaces including sRGB with its implied range/subsampling, coded subsampling for profiles 1/3)
    and frame sizes 1 … 65536 — whatever bytes follow, returns exactly the described header. -/
theorem c12_header_parse (h : Hdr) (wire : Bytes) (hwf : h.WF = true)
    (hs : C12.startsWith h wire = true) : vp9HeaderUnmarshal wire = .ok (C12.expectedHdr h) :=
  Proofs.VP9Hdr.header_parse h wire hwf hs

/-- Header.Width() / Header.Height() of a parsed key-frame header are the coded sizes as `uint16`
    (a coded size of 65536, which `WF` admits, is not representable in the accessor: both sides wrap to 0). -/
theorem c12_header_dims (p : UInt8) (sf er : Bool) (c : Color) (w ht : Nat) (wire : Bytes)
    (hwf : (Hdr.key p sf er c w ht).WF = true) (hs : C12.startsWith (.key p sf er c w ht) wire = true) :
    ∃ hd, vp9HeaderUnmarshal wire = .ok hd ∧ hd.width = w.toUInt16 ∧ hd.height = ht.toUInt16 := by
  refine ⟨_, c12_header_parse _ wire hwf hs, ?_⟩
  simp only [Hdr.WF, Bool.and_eq_true, decide_eq_true_eq] at hwf
  exact Proofs.VP9Hdr.expected_dims p sf er c w ht hwf.1.1.1.2 hwf.1.2

/-- The predicate the harness evaluates for kind `c12.hdr` on the real code holds of
    the model's observation for every well-formed header description and every wire starting with
    its bits. -/
theorem c12_header : c12_header_full := by
  intro h wire hwf hs
  unfold C12.hdr C12.obsHdr
  rw [c12_header_parse h wire hwf hs]
  simp only [Res.coarse, Res.map, Res.isPanic, Bool.not_false, Bool.true_and, hwf, hs, beq_self_eq_true]
  cases h with
  | showExisting p idx => rfl
  | nonKey p sf er => rfl
  | key p sf er c w ht =>
    simp only [Hdr.WF, Bool.and_eq_true, decide_eq_true_eq] at hwf
    obtain ⟨e1, e2⟩ := Proofs.VP9Hdr.expected_dims p sf er c w ht hwf.1.1.1.2 hwf.1.2
    simp only [C12.expectedDim]
    by_cases hd : (decide (w ≤ 65535) && decide (ht ≤ 65535)) = true
    · simp only [hd, if_true, e1, e2, beq_self_eq_true, Bool.and_self, Bool.not_true, Bool.false_or]
    · simp only [hd, Bool.false_eq_true, if_false, Bool.not_true, Bool.false_or]

/-- non-vacuity: a profile-3 key frame, 12 bit, BT.709 (space 2), full range, 4:4:0 subsampling,
    1920×1080, followed by two arbitrary bytes -/
example :
    let h : Hdr := .key 3 true false { bit12 := true, space := 2, range := true, subX := false, subY := true } 1920 1080
    let wire : Bytes := h.encode [] ++ [0xAB, 0xCD]
    h.WF = true ∧ C12.startsWith h wire = true ∧
    wire = [0xB1, 0x24, 0xC1, 0xA1, 0x55, 0x03, 0xBF, 0x82, 0x1B, 0x80, 0xAB, 0xCD] := by
  decide +kernel

/-- the header facts that the non-flexible round trip needs hold of EVERY call: `frameInfo` is defined only for
    frames that start with the bits of a well-formed key / non-key header description -/
theorem c12_hdrFacts (c : C12.Call) : Proofs.VP9.HdrFacts c := by
  intro nk w h hfi
  unfold C12.frameInfo at hfi
  split at hfi
  · rename_i p sf er col w' h' _
    split at hfi
    · rename_i hc
      simp only [Bool.and_eq_true, decide_eq_true_eq] at hc
      obtain ⟨⟨⟨hwf, _⟩, _⟩, hs⟩ := hc
      simp only [Option.some.injEq, Prod.mk.injEq] at hfi
      obtain ⟨rfl, rfl, rfl⟩ := hfi
      obtain ⟨hd, hok, hwd, hht⟩ := c12_header_dims p sf er col w' h' _ hwf hs
      refine ⟨hd, hok, ?_, fun _ => ⟨hwd, hht⟩⟩
      rw [c12_header_parse _ _ hwf hs] at hok
      cases hok; rfl
    · cases hfi
  · rename_i p sf er _
    split at hfi
    · rename_i hc
      simp only [Bool.and_eq_true] at hc
      simp only [Option.some.injEq, Prod.mk.injEq] at hfi
      obtain ⟨rfl, rfl, rfl⟩ := hfi
      exact ⟨_, c12_header_parse _ _ hc.1 hc.2, rfl, fun h => by cases h⟩
    · cases hfi
  · cases hfi

/-- BOTH modes: for every mode, injected initial picture id and history of (MTU, frame, header description)
    calls, the payloader's output fed to one VP9Packet receiver satisfies the round-trip predicate
    `C12.rt` (every clause of C12: lossless, B/E marks, picture id, P, scalability structure).  In non-flexible mode, for every frame that starts with
    a well-formed key / non-key header: P = "not a key frame" on every packet, and the first packet
    of a key frame carries the scalability structure with exactly one spatial layer whose width
    and height are the coded ones. -/
theorem c12_rt : c12_rt_full :=
  fun flex init calls => c12_rt_partial flex init calls (fun c _ _ => c12_hdrFacts c)

/-- non-vacuity: a non-flexible call with a described 640×360 key frame is `proper`
    (the statement of `c12_rt` is about it) -/
example :
    let h : Hdr := .key 0 true false { space := 1, range := false } 640 360
    let c : C12.Call := { mtu := 1200, frame := some (h.encode [] ++ [1, 2, 3]), desc := some h }
    C12.proper false c = true ∧ C12.frameInfo c = some (false, 640, 360) := by
  decide +kernel

/-- `c12_rt` generalised to per-call flags.  `VP9Payloader.FlexibleMode` is an exported field; for
    EVERY injected initial picture id and EVERY history of (flag, (MTU, frame, header description))
    pairs — the caller sets the field to `flag` before the call — the payloader's output fed to one
    VP9Packet receiver satisfies the round-trip predicate `C12.rtFlip` (the whole-history part of what
    the harness evaluates for `c12.rt`, Driver/Kinds/Vpx.lean `c12RtL_of`): every frame inside the property's domain for the mode of ITS call (`proper flag call`) comes
    back losslessly with B on the first and E on the last packet only, F = flag, and the 15-bit
    picture id `(init mod 2^15 + call index) mod 2^15`, which runs on across the changes of mode;
    a frame sent with the flag off has P = "not a key frame" on every packet and, if it is a key
    frame, the scalability structure with the coded width and height on its first packet —
    whatever the mode of the frames before it was. -/
theorem c12_rt_flip (init : UInt16) (calls : List (Bool × C12.Call)) :
    C12.rtFlip init calls (C12.obsRtFlip init calls) = true :=
  Proofs.VP9.rtFlip_obsRtFlip init calls (fun fc _ _ => c12_hdrFacts fc.2)

/-- the same from EVERY state a used payloader can be in (any earlier `FlexibleMode`, any running
    picture id below 2^15, where `Payload` keeps it) and every receiver state; `c12_rt_flip` is the
    case of a new payloader, whose first call sets the id to `init mod 2^15`, and a new receiver -/
theorem c12_rt_flip_from (flex0 : Bool) (init : UInt16) (pid : Nat) (hp : pid < 32768) (p : VP9Packet)
    (calls : List (Bool × C12.Call)) :
    C12.rtFlipFrom pid calls
      (C12.obsRtFlipFrom { flexible := flex0, init := init, pictureID := pid.toUInt16, initialized := true }
        p calls) = true :=
  Proofs.VP9.rtFlip_from init calls flex0 pid p hp (fun fc _ _ => c12_hdrFacts fc.2)

/-- the whole-history predicate implies the per-frame one: a frame that is right with the running
    picture id is right with the id its own first packet carries -/
theorem c12_rtLocal_of_rtFlipFrom (pid : Nat) (calls : List (Bool × C12.Call)) (o : List (List C12.FragObs)) :
    C12.rtFlipFrom pid calls o = true → C12.rtLocal calls o = true := by
  induction calls generalizing pid o with
  | nil => cases o <;> simp [C12.rtFlipFrom, C12.rtLocal]
  | cons fc cs ih =>
    obtain ⟨flex, c⟩ := fc
    cases o with
    | nil => simp [C12.rtFlipFrom]
    | cons o os =>
      intro h
      simp only [C12.rtFlipFrom, Bool.and_eq_true, Bool.or_eq_true] at h
      simp only [C12.rtLocal, Bool.and_eq_true]
      refine ⟨?_, ih _ _ h.2⟩
      unfold C12.frameLocal
      rcases h.1 with hp | hf
      · simp [hp]
      · cases o with
        | nil => simp [C12.frameOk] at hf
        | cons f fs =>
          have hpid : f.md.PictureID.toNat = pid := by
            simp only [C12.frameOk, List.all_cons, Bool.and_eq_true, C12.fragOk, beq_iff_eq] at hf
            exact hf.1.1.1.2.1.1.1.1.2
          simp only [hpid, hf, Bool.or_true]

/-- Per frame, in every history: whatever calls a payloader has seen — refused ones (MTU too
    small for the descriptor, empty or malformed frames) included, `FlexibleMode` set by hand in
    between — every call made with a well-formed frame and a sufficient MTU yields packets that
    reproduce the frame, carry B/E on the first/last packet only, one 15-bit picture id, F = the
    mode of the call, P = the frame type, and on a non-flexible key frame the scalability structure
    with the coded width and height. -/
theorem c12_rt_local (init : UInt16) (calls : List (Bool × C12.Call)) :
    C12.rtLocal calls (C12.obsRtFlip init calls) = true :=
  c12_rtLocal_of_rtFlipFrom _ _ _ (c12_rt_flip init calls)

/-- non-vacuity: a key frame, the next key frame of another size REFUSED (MTU 8 < 12), then accepted:
    the third call is proper and its first packet carries 1280×720 -/
example :
    let k1 : Hdr := .key 0 true false { space := 1, range := false } 640 480
    let k2 : Hdr := .key 0 true false { space := 1, range := false } 1280 720
    let calls : List (Bool × C12.Call) :=
      [(false, { mtu := 30, frame := some (k1.encode [] ++ [1]), desc := some k1 }),
       (false, { mtu := 8, frame := some (k2.encode [] ++ [2]), desc := some k2 }),
       (false, { mtu := 30, frame := some (k2.encode [] ++ [2]), desc := some k2 })]
    calls.map (fun fc => C12.proper fc.1 fc.2) = [true, false, true] ∧
    ((C12.obsRtFlip 0 calls).getD 2 []).head?.map (fun f => (f.md.Width, f.md.Height)) = some ([1280], [720]) := by
  decide +kernel

/-- `c12_rt` is the instance of `c12_rt_flip` in which the flag never changes: predicate and model
    observation of a per-history mode are those of the per-call form on the constant flag list -/
theorem c12_rt_is_flip_const (flex : Bool) (init : UInt16) (calls : List C12.Call) (o : List (List C12.FragObs)) :
    C12.rt flex init calls o = C12.rtFlip init (calls.map (fun c => (flex, c))) o ∧
    C12.obsRt flex init calls = C12.obsRtFlip init (calls.map (fun c => (flex, c))) := by
  constructor
  · unfold C12.rt C12.rtFlip
    exact (Proofs.VP9.rtFlipFrom_const flex calls _ o).symm
  · unfold C12.obsRt C12.obsRtFlip
    exact (Proofs.VP9.obsRtFlipFrom_const flex calls { flexible := false, init := init } {}).symm

/-- non-vacuity: start id 0x7FFE; a frame in flexible mode, the field cleared, a described non-key
    frame and a described 640×360 key frame in non-flexible mode, the field set again, one more
    frame.  All four calls are `proper` for their mode; the packets carry F/P = (1,0) (0,1) (0,0)
    (1,0), ids 0x7FFE, 0x7FFF, 0, 1, and the key frame's first packet the 640×360 structure. -/
example :
    let nk : Hdr := .nonKey 0 true false
    let key : Hdr := .key 0 true false { space := 1, range := false } 640 360
    let calls : List (Bool × C12.Call) :=
      [(true, { mtu := 5, frame := some [1, 2, 3], desc := none }),
       (false, { mtu := 5, frame := some (nk.encode [] ++ [7, 8]), desc := some nk }),
       (false, { mtu := 14, frame := some (key.encode [] ++ [9]), desc := some key }),
       (true, { mtu := 5, frame := some [4], desc := none })]
    calls.all (fun fc => C12.proper fc.1 fc.2) = true ∧
    (C12.obsRtFlip 0x7FFE calls).map (·.map (·.bytes)) =
      [[[0x98, 0xFF, 0xFE, 1, 2], [0x94, 0xFF, 0xFE, 3]],
       [[0xC9, 0xFF, 0xFF, 0x86, 7], [0xC5, 0xFF, 0xFF, 8]],
       [[0x8B, 0x80, 0x00, 0x18, 0x02, 0x80, 0x01, 0x68, 0x01, 0x14, 0x01, 0x82, 0x49, 0x83],
        [0x85, 0x80, 0x00, 0x42, 0x20, 0x27, 0xF0, 0x16, 0x70, 9]],
       [[0x9C, 0x80, 0x01, 4]]] ∧
    (C12.obsRtFlip 0x7FFE calls).map (·.map (fun f => (f.md.F, f.md.P, f.md.PictureID))) =
      [[(true, false, 0x7FFE), (true, false, 0x7FFE)], [(false, true, 0x7FFF), (false, true, 0x7FFF)],
       [(false, false, 0), (false, false, 0)], [(true, false, 1)]] := by
  decide +kernel

end Rtp.Props.C12
