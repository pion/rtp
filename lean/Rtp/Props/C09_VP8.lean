/-
  Rtp/Props/C09_VP8.lean — C09 for VP8Packet: Unmarshal never panics, and a reused receiver gives the
  same result and (on success) the same metadata as a fresh one.  IsPartitionHead and IsPartitionTail
  are total Boolean functions of their arguments in the model (they do not take the receiver, and
  `auxPanic` is constantly false), so any interleaving of the three methods is covered by quantifying
  over the receiver state.  That the receiver retains nothing of the caller's buffer except the returned
  sub-slice is observed by kind `c09.vp8` (twinSame), not proved.
-/
import Rtp.Proofs.VP8Own
namespace Rtp.Props.C09.VP8
open Rtp Rtp.Model Rtp.Pred

/-- no panic, for every receiver state and every payload (nil and empty included) -/
theorem c09_nopanic_vp8 (p : VP8Packet) (payload : Option Bytes) :
    (vp8Unmarshal p payload).1 ≠ .panic :=
  Proofs.VP8.unmarshal_nopanic p payload

/-- reuse: whatever the receiver held before (`p`), the result equals that of a fresh receiver,
    and when the call succeeds so does every metadata field -/
theorem c09_reuse_vp8 (p : VP8Packet) (payload : Option Bytes) :
    (vp8Unmarshal p payload).1 = (vp8Unmarshal {} payload).1 ∧
    ((vp8Unmarshal p payload).1.isOk = true → (vp8Unmarshal p payload).2 = (vp8Unmarshal {} payload).2) :=
  Proofs.VP8.unmarshal_reuse p {} payload

/-- the predicate the harness evaluates for `c09.vp8` (`true`: the format decodes each packet on its own,
    so a reused receiver must agree with a fresh one) holds of the model's observation for every
    sequence of payloads fed to one receiver, starting in any state -/
theorem c09_vp8 (p : VP8Packet) (payloads : List (Option Bytes)) :
    C09.histOk true (C11.obsDep p payloads) = true :=
  Proofs.VP8.obsDep_ok payloads p

/-- non-vacuity: a receiver that has seen every field set decodes `00 01` like a fresh one -/
example :
    let full : VP8Packet := (vp8Unmarshal {} (some [0xFF, 0xFF, 0xFF, 0xFF, 0xFF, 0xFF, 0xAA])).2
    full.PictureID = 0x7FFF ∧ full.KEYIDX = 0x1F ∧
    vp8Unmarshal full (some [0x00, 0x01]) = (.ok [0x01], {}) := by decide

end Rtp.Props.C09.VP8
