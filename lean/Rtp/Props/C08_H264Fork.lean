/-
  Rtp/Props/C08_H264Fork.lean — C08 on FORKED histories of an H264Payloader (kind `c08.h264fork`): the
  struct is copied by value after `fork` calls (while it may hold back SPS/PPS), the remaining calls
  go to one copy or the other in any interleaving.

  * `c08_h264_fork_lanes`: the results of the calls of each copy are exactly the results of ONE
    payloader run alone from the state reached at the fork on that copy's calls — whatever the
    other copy is given in between (in the model this is immutability of `PayState`; on the Go side
    it is what the harness observes: twin of each copy, fragments overwritten by the caller).
  * `c08_h264_fork`: the predicate the harness evaluates (no panic, every fragment non-empty and at
    most MTU bytes, ownership flags) holds of the model's observation of every forked history,
    from every initial state, every fork point, every lane assignment, DisableStapA per call.
-/
import Rtp.Proofs.H264Size
import Rtp.Model.H264Fork
namespace Rtp.Props.C08.H264Fork
open Rtp Rtp.Model.H264 Rtp.Model.H264.Obs Rtp.Model.H264.Fork Rtp.Pred Rtp.Proofs.H264

theorem laneCalls_cons (k : Nat) (c : Nat × Bool × UInt16 × Bytes) (cs : List (Nat × Bool × UInt16 × Bytes)) :
    laneCalls k (c :: cs) = if (c.1 == 0) == (k == 0) then c.2 :: laneCalls k cs else laneCalls k cs := by
  simp only [laneCalls, List.filter_cons]
  split <;> rfl

/-- after the fork: the results of lane `k` = that lane run alone from its own state (for every pair
    of states): a call of the other lane changes neither `k`'s state nor `k`'s calls and results -/
theorem lanes_project (k : Nat) (s0 s1 : PayState) (cs : List (Nat × Bool × UInt16 × Bytes)) :
    laneOuts k cs (payloadLanes s0 s1 cs) = payloadHist (if k = 0 then s0 else s1) (laneCalls k cs) := by
  induction cs generalizing s0 s1 with
  | nil => rfl
  | cons c cs ih =>
    obtain ⟨lane, d, m, i⟩ := c
    have h0 : ∀ n : Nat, (n + 1 == 0) = false := fun _ => rfl
    rw [laneCalls_cons, payloadLanes]
    cases lane <;> cases k <;>
      simp only [laneOuts, payloadHist, ih, h0, Nat.add_one_ne_zero, beq_self_eq_true, if_true, if_false,
        beq_true, beq_false, Bool.not_true, Bool.false_eq_true]

/-- For every state `st`, every history prefix (the first `fork` calls), and
    every continuation with its lane assignment: the results of the prefix are those of one
    payloader, and the results of the calls of copy k (k = 0, 1), in order, are those of ONE payloader
    run alone on copy k's calls from the state the prefix ended in. -/
theorem c08_h264_fork_lanes (st : PayState) (fork : Nat) (calls : List (Nat × Bool × UInt16 × Bytes)) :
    let pre := (calls.take fork).map (·.2)
    let post := calls.drop fork
    let outs := payloadFork st fork calls
    outs.take pre.length = payloadHist st pre ∧
    laneOuts 0 post (outs.drop pre.length) = payloadHist (stateAfter st pre) (laneCalls 0 post) ∧
    laneOuts 1 post (outs.drop pre.length) = payloadHist (stateAfter st pre) (laneCalls 1 post) := by
  intro pre post outs
  have ho : outs = payloadHist st pre ++ payloadLanes (stateAfter st pre) (stateAfter st pre) post := rfl
  rw [ho, List.take_left' (payloadHist_length st pre), List.drop_left' (payloadHist_length st pre)]
  exact ⟨rfl, lanes_project 0 _ _ post, lanes_project 1 _ _ post⟩

/-- the per-call predicate over two interleaved copies, from any two states -/
theorem histOk_lanes (s0 s1 : PayState) (lanes : List Nat) (flags : List Bool)
    (calls : List (UInt16 × Option Bytes)) :
    C08.histOk false calls ((payloadLanes s0 s1 (c08ForkCalls lanes flags calls)).map PayObs.ofFrags) = true := by
  induction calls generalizing s0 s1 lanes flags with
  | nil => simp [c08ForkCalls, payloadLanes, C08.histOk]
  | cons c cs ih =>
    obtain ⟨m, b⟩ := c
    by_cases hl : lanes.headD 0 = 0
    all_goals
      simp only [c08ForkCalls, payloadLanes, hl, if_true, if_false, List.map_cons, C08.histOk, Bool.and_eq_true]
      exact ⟨callOk_of_bounded m b _ (payload_bounded _ m _ (b.getD [])), ih _ _ _ _⟩

/-- a forked history one call further: the first call (before the fork) is an ordinary call -/
theorem payloadFork_succ (st : PayState) (n : Nat) (l : Nat) (d : Bool) (m : UInt16) (i : Bytes)
    (rest : List (Nat × Bool × UInt16 × Bytes)) :
    payloadFork st (n + 1) ((l, d, m, i) :: rest) =
      (payload d m st i).1 :: payloadFork (payload d m st i).2 n rest := by
  simp [payloadFork, payloadHist, stateAfter]

/-- the per-call predicate over a forked history, from every initial state -/
theorem histOk_fork (st : PayState) (fork : Nat) (lanes : List Nat) (flags : List Bool)
    (calls : List (UInt16 × Option Bytes)) :
    C08.histOk false calls ((payloadFork st fork (c08ForkCalls lanes flags calls)).map PayObs.ofFrags) = true := by
  induction calls generalizing st fork lanes flags with
  | nil => simp [c08ForkCalls, payloadFork, payloadHist, payloadLanes, C08.histOk]
  | cons c cs ih =>
    cases fork with
    | zero =>
      have := histOk_lanes st st lanes flags (c :: cs)
      simpa [payloadFork, payloadHist, stateAfter] using this
    | succ n =>
      obtain ⟨m, b⟩ := c
      simp only [c08ForkCalls, payloadFork_succ, List.map_cons, C08.histOk, Bool.and_eq_true]
      exact ⟨callOk_of_bounded m b _ (payload_bounded _ m st (b.getD [])), ih _ _ _ _⟩

/-- The predicate the harness evaluates on the real payloaders holds of the model's
    observation of every forked history: every fork point, every lane assignment, every flag
    sequence, every list of `(mtu, input)` calls (nil inputs included). -/
theorem c08_h264_fork (fork : Nat) (lanes : List Nat) (flags : List Bool) (calls : List (UInt16 × Option Bytes)) :
    C08.histOk false calls (c08ForkModel fork lanes flags calls) = true :=
  histOk_fork {} fork lanes flags calls

/-- non-vacuity: SPS and PPS are held back when the struct is copied (fork = 1); copy 1 is then given
    a P slice at MTU 1200 (STAP-A), copy 0 an IDR slice at MTU 10 (the STAP-A of 5+4+3 bytes does not
    fit: SPS and PPS leave on their own) — both copies still send the parameter sets -/
example : payloadFork {} 1
    [(0, false, 1200, [0,0,1, 0x67,1,2,3, 0,0,1, 0x68,9,9]), (1, false, 1200, [0,0,1, 0x41,5]),
     (0, false, 10, [0,0,1, 0x65,7])] =
    [[], [[0x78, 0,4, 0x67,1,2,3, 0,3, 0x68,9,9], [0x41,5]], [[0x67,1,2,3], [0x68,9,9], [0x65,7]]] := by
  decide +kernel

end Rtp.Props.C08.H264Fork
