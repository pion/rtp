/-
  Rtp/Props/C10.lean — C10: H264 packetization is lossless and RFC 6184-shaped.
  The property theorems, with the hypotheses on histories (`HistWF`) and examples that show the
  hypotheses are needed and the predicates refuse wrong outputs.
-/
import Rtp.Proofs.H264Obs
import Rtp.Proofs.H264Split
import Rtp.Proofs.H264History
import Rtp.Proofs.H264Agg
import Rtp.Proofs.H264ParseSound
namespace Rtp.Props.C10
open Rtp Rtp.Model Rtp.Model.H264 Rtp.Model.H264.Obs Rtp.Spec.Rfc6184 Rtp.Pred Rtp.Proofs.H264

/-- Every Annex-B stream of well-formed NAL units (type 1–23, F = 0, ≥ 2 bytes, no start code
    inside, no trailing zero byte — H.264 §7.4.1/B.1; the last two are forced: the code strips a
    trailing 0x00 in front of a 3-byte start code), with any mix of 3- and 4-byte start codes, is
    split into exactly those units.  No bound on sizes or on the number of units. -/
theorem c10_split (units : List (Bool × Bytes)) (hne : units ≠ [])
    (h : units.all (fun u => nalWF u.2) = true) :
    emitNalus (annexB units) = units.map (·.2) :=
  emitNalus_annexB units hne
    (fun u hu => nalOk_of_wf u.2 (by simpa using (List.all_eq_true.mp h) u hu))

theorem c10_split_bare (n : Bytes) (h : nalWF n = true) : emitNalus n = [n] :=
  emitNalus_bare n (nalOk_of_wf n h)

/-- on ANY buffer (no hypothesis at all) no unit the splitter emits contains a start code; hence
    re-splitting an emitted unit returns it whole — which is what `Payload` relies on when the STAP-A
    does not fit and it passes the pending SPS/PPS through a nested `Payload` (DESIGN §7
    `c10_stapa_too_big_dropped`) -/
theorem c10_split_units_clean (buf : Bytes) : ∀ u ∈ emitNalus buf, hasSC u = false :=
  emitNalus_noSC buf

theorem c10_repair_resplit (mtu : Nat) (s : Bytes) (h : hasSC s = false) :
    payloadNoStap mtu s = stepNoStap mtu s :=
  payloadNoStap_of_noSC mtu s h

/-- non-vacuity (emulation-prevention bytes inside a unit are no start code), and why `nalWF`
    excludes a trailing zero: in front of a 3-byte start code it is stripped -/
example : nalWF [0x65, 0, 0, 3, 1] = true := by decide
example : emitNalus (annexB [(false, [0x65, 0, 0, 3, 1]), (true, [0x41, 0x9A])]) =
    [[0x65, 0, 0, 3, 1], [0x41, 0x9A]] := by decide +kernel
example : emitNalus (annexB [(false, [0x65, 7, 0]), (false, [0x41, 0x9A])]) =
    [[0x65, 7], [0x41, 0x9A]] := by decide +kernel

/-- For EVERY packetisation plan (any mix of single NAL unit packets of type 1–23, STAP-As of one or
    more units shorter than 2^16, FU-As of any type cut into ≥ 2 fragments of any sizes, empty ones
    included) and from EVERY receiver state, the receiver returns a value for each payload and the
    values concatenate to the Annex-B / AVC framed units of the plan. -/
theorem c10_decoder (avc : Bool) (plan : List Item) (hw : plan.all Item.wf = true) (buf : Bytes) :
    (∀ r ∈ (run avc buf (encode plan)).1, r.isOk = true) ∧
    ((run avc buf (encode plan)).1.flatMap C10.resBytes) = frame avc (plan.flatMap Item.nals) :=
  run_encode_frame avc plan hw buf

/-- IsPartitionHead is true exactly on the first payload of each unit of the plan -/
theorem c10_decoder_heads (plan : List Item) (hw : plan.all Item.wf = true)
    (ha : plan.all C10.headsApply = true) :
    (encode plan).map isPartitionHead = plan.flatMap Item.heads :=
  heads_plan plan hw ha

/-- the predicate the harness evaluates on the real H264Packet (kind `c10.dec`) holds of the model -/
theorem c10_decoder_pred (i : C10.DecInput) : C10.decOk i (decModel i) = true := by
  simp only [C10.decOk, decModel, Bool.not_false, Bool.true_and, Bool.or_eq_true,
    Bool.not_eq_true', Bool.and_eq_true, beq_iff_eq]
  by_cases hw : i.wf = true
  · right
    have hp := run_encode_frame i.avc i.plan hw []
    have hr := observePkts_res i.avc [] (encode i.plan)
    refine ⟨decodeOk_of_run i.avc _ _ _ hr.1 hp.1 hp.2, ?_⟩
    by_cases ha : i.plan.all C10.headsApply = true
    · right
      rw [observePkts_head]
      exact heads_plan i.plan hw ha
    · left; simpa using ha
  · left; simpa using hw

/-- non-vacuity: a plan with all three packet kinds (FU-A with an empty middle fragment) -/
example : ([Item.single [0x65, 1, 2], .stapA 0x78 [[0x67, 9], [0x68, 8, 7]], .fuA 0x41 [[1, 2], [], [3]]].all
    Item.wf) = true := by decide
example : encode [Item.single [0x65, 1, 2], .stapA 0x78 [[0x67, 9], [0x68, 8, 7]], .fuA 0x41 [[1, 2], [], [3]]] =
    [[0x65, 1, 2], [0x78, 0, 2, 0x67, 9, 0, 3, 0x68, 8, 7], [0x5C, 0x81, 1, 2], [0x5C, 0x01], [0x5C, 0x41, 3]] := by
  decide

/-! ### the shape predicate is exact: `parse` accepts precisely the encodings of plans -/

/-- whatever `Spec.Rfc6184.parse` accepts is, byte for byte, the RFC 6184 encoding of the plan it
    returns (no payload sequence "parses by accident") -/
theorem c10_parse_sound (ps : List Bytes) (plan : List Item) (h : parse ps = some plan) :
    encode plan = ps :=
  parse_sound ps plan h

/-- … and every encoding of a legal plan parses back to that plan -/
theorem c10_parse_complete (plan : List Item) (hw : plan.all Item.wf = true) :
    parse (encode plan) = some plan :=
  parse_encode plan hw

example : parse [[0x65, 1], [0x7C, 0x85, 1], [0x7C, 0x45]] =
    some [.single [0x65, 1], .fuA 0x65 [[1], []]] := by decide
example : parse [[0x7C, 0x85, 1], [0x7C, 0x05, 2]] = none := by decide          -- unit never ends
example : parse [[0x7C, 0x85, 1], [0x5C, 0x45, 2]] = none := by decide          -- NRI changes
example : parse [[0x7C, 0xC5, 1]] = none := by decide                           -- S and E together

/-- the hypotheses of C10 on a history of calls: every call has MTU ≥ 3 and carries well-formed
    units (type 1–23, ≥ 2 bytes, …) behind 3- or 4-byte start codes, or one bare unit.
    No bound on the number of calls, units, or their sizes; the MTU may change from call to call. -/
def HistWF (calls : List C10.RtCall) : Prop := ∀ c ∈ calls, C10.RtCall.WF c

/-- all payloads of a history on a new H264Payloader, in order -/
def payloads (disable : Bool) (calls : List C10.RtCall) : List Bytes := fragsCalls disable {} calls

/-- The payloads of every history PARSE as RFC 6184 units (`Spec.Rfc6184.parse`): each
    is a single NAL unit packet, a STAP-A, or one of ≥ 2 FU-A fragments with the unit's NRI in the
    indicator and its type in the header, S only on the first, E only on the last (that is what
    `parse` accepts and `Item.wf` demands); the units carried are `delivered` (hold-back applied);
    IsPartitionHead is true exactly on the first payload of each unit. -/
theorem c10_shape (disable : Bool) (calls : List C10.RtCall) (hw : HistWF calls) :
    ∃ plan, parse (payloads disable calls) = some plan ∧ plan.all Item.wf = true ∧
      plan.flatMap Item.nals = delivered disable (calls.flatMap C10.RtCall.nals) ∧
      (payloads disable calls).map isPartitionHead = plan.flatMap Item.heads ∧
      (disable = true → ∀ it ∈ plan, it.isStap = false) := by
  obtain ⟨plan, e, w, ha, kg, k⟩ := history_plan disable calls hw
  refine ⟨plan, ?_, w, k, ?_, ?_⟩
  · rw [payloads, e]; exact parse_encode plan w
  · rw [payloads, e]; exact heads_plan plan w ha
  · intro hd it hit
    subst hd
    have := (stepsOut_disable (none, none) (calls.flatMap C10.RtCall.tagged)).2 it.group
      (by rw [← kg]; exact List.mem_map_of_mem hit)
    simpa [Item.group] using this

/-- "SPS/PPS arrive as one STAP-A before the next unit": on histories whose parameter
    sets come as SPS,PPS pairs followed by a unit, whenever `5 + |sps| + |pps|` fits the MTU of the
    call that hands over that unit, the packet carrying the SPS is a STAP-A that carries the PPS
    too (`aggOk`); with STAP-A disabled no STAP-A is sent at all. -/
theorem c10_stapa (disable : Bool) (calls : List C10.RtCall) (hw : HistWF calls)
    (hp : disable = true ∨ paired (calls.flatMap C10.RtCall.nals) = true) :
    ∃ plan, parse (payloads disable calls) = some plan ∧
      aggOk disable ((calls.flatMap C10.RtCall.tagged).filter (fun u => !isDropped u.2)) plan = true := by
  show ∃ plan, parse (payloads disable calls) = some plan ∧
      aggOk disable (keepT (calls.flatMap C10.RtCall.tagged)) plan = true
  obtain ⟨plan, e, w, _, kg, _⟩ := history_plan disable calls hw
  refine ⟨plan, by rw [payloads, e]; exact parse_encode plan w, ?_⟩
  cases disable with
  | true =>
    simp only [aggOk, if_true, List.all_eq_true, Bool.not_eq_true']
    intro it hit
    have := (stepsOut_disable (none, none) (calls.flatMap C10.RtCall.tagged)).2 it.group
      (by rw [← kg]; exact List.mem_map_of_mem hit)
    simpa [Item.group] using this
  | false =>
    rcases hp with hp | hp
    · cases hp
    · simp only [aggOk, Bool.false_eq_true, if_false, kg]
      apply agg_paired
      rw [tagged_snd]; exact hp

/-- For every history of calls, feeding all payloads in order to an H264Packet in
    ANY state (fresh included) yields a value for each payload, and the values concatenate to the
    start-code- (or length-) framed `delivered` units: AUD and filler dropped, SPS/PPS held back
    until both are there and released (as one STAP-A, or individually if it does not fit the MTU)
    in front of the next unit. -/
theorem c10_roundtrip (disable avc : Bool) (calls : List C10.RtCall) (hw : HistWF calls) (buf : Bytes) :
    (∀ r ∈ (run avc buf (payloads disable calls)).1, r.isOk = true) ∧
    (run avc buf (payloads disable calls)).1.flatMap C10.resBytes =
      frame avc (delivered disable (calls.flatMap C10.RtCall.nals)) := by
  obtain ⟨plan, e, w, _, _, k⟩ := history_plan disable calls hw
  rw [payloads, e, ← k]
  exact c10_decoder avc plan w buf

/-- When parameter sets come as SPS,PPS pairs followed by a unit (or STAP-A is
    disabled) nothing is lost or reordered: the receiver reproduces exactly the input's units minus
    AUD/filler, in order.  (Stated from the empty buffer; `c10_roundtrip` gives it from any.) -/
theorem c10_lossless (disable avc : Bool) (calls : List C10.RtCall) (hw : HistWF calls)
    (hp : disable = true ∨ paired (calls.flatMap C10.RtCall.nals) = true) :
    (run avc [] (payloads disable calls)).1.flatMap C10.resBytes =
      frame avc ((calls.flatMap C10.RtCall.nals).filter (fun n => !isDropped n)) := by
  rw [(c10_roundtrip disable avc calls hw []).2]
  congr 1
  cases disable with
  | true => simp [delivered]
  | false =>
    rcases hp with hp | hp
    · cases hp
    · simp only [delivered, Bool.false_eq_true, if_false]
      exact holdback_paired _ hp

/-- the predicate the harness evaluates on the real payloader and depacketizer (kind `c10.rt`)
    holds of the model, for every input (on inputs outside the hypotheses it only says "no panic") -/
theorem c10_rt_pred (i : C10.RtInput) : C10.rtOk i (rtModel i) = true := by
  obtain ⟨hflat, hlen⟩ := rtCalls_flatten i.disable i.avc {} [] i.calls
  simp only [C10.rtOk, rtModel, Bool.not_false, Bool.true_and, hlen, beq_self_eq_true,
    Bool.or_eq_true, Bool.not_eq_true', Bool.and_eq_true]
  by_cases hwf : i.wf = true
  · right
    -- the payloads are `encode plan` (`history_plan`); shape from `parse_encode`, `heads_plan` and
    -- `c10_stapa`, decoding from `run_encode_frame`; `hexpT` ties the input's tagged units to `expected`
    have hw := callWF_of_wf i hwf
    obtain ⟨plan, e, w, ha, kg, k⟩ := history_plan i.disable i.calls hw
    have kexp : plan.flatMap Item.nals = i.expected := by
      rw [k]; exact expected_of_wf i hwf
    have hexpT : i.expectedT.map (·.2) = i.expected := by
      have := keepT_map i.tagged
      simp only [keepT, keep, C10.RtInput.tagged, tagged_snd] at this
      exact this
    have hagg : aggOk i.disable i.expectedT plan = true := by
      have hp : i.disable = true ∨ paired (i.calls.flatMap C10.RtCall.nals) = true := by
        simp only [C10.RtInput.wf, Bool.and_eq_true, Bool.or_eq_true] at hwf
        exact hwf.2
      obtain ⟨plan', hp', ha'⟩ := c10_stapa i.disable i.calls hw hp
      rw [payloads, e, parse_encode plan w] at hp'
      cases hp'
      exact ha'
    simp only [C10.RtObs.pkts, hflat]
    constructor
    · simp only [C10.shapeOk, observePkts_payload, e, parse_encode plan w, w, kexp, hexpT,
        observePkts_head, heads_plan plan w ha, hagg, beq_self_eq_true, Bool.and_self]
    · have hp := run_encode_frame i.avc plan w []
      have hr := observePkts_res i.avc [] (encode plan)
      rw [e]
      exact decodeOk_of_run i.avc _ _ _ hr.1 hp.1 (by rw [hp.2, kexp])
  · left; simpa using hwf

/-- non-vacuity: SPS, PPS (4-byte codes), IDR in one buffer at MTU 5 — the STAP-A does not fit, the
    IDR is fragmented; then the same units with SPS and PPS in calls of their own at MTU 1200 -/
def exampleCalls : List C10.RtCall :=
  [{ mtu := 5, bare := false, units := [(true, [0x67, 1, 2]), (true, [0x68, 3]), (false, [0x65, 1, 2, 3, 4, 5, 6])] },
   { mtu := 1200, bare := true, units := [(false, [0x67, 1, 2])] },
   { mtu := 1200, bare := true, units := [(false, [0x68, 3])] },
   { mtu := 1200, bare := false, units := [(false, [0x09, 0x10]), (true, [0x41, 7])] }]

example : (C10.RtInput.wf { disable := false, avc := false, calls := exampleCalls }) = true := by decide
example : HistWF exampleCalls :=
  callWF_of_wf { disable := false, avc := false, calls := exampleCalls } (by decide)
example : paired (exampleCalls.flatMap C10.RtCall.nals) = true := by decide
example : payloads false exampleCalls =
    [[0x67, 1, 2], [0x68, 3], [0x7C, 0x85, 1, 2, 3], [0x7C, 0x45, 4, 5, 6],
     [0x78, 0, 3, 0x67, 1, 2, 0, 2, 0x68, 3], [0x41, 7]] := by decide +kernel

/-- why MTU ≥ 3 is a hypothesis: at MTU 2 a 3-byte unit cannot be sent at all (FU-A needs 2 header
    bytes plus at least one payload byte) and the code drops it silently -/
example : (payload false 2 {} [0, 0, 1, 0x65, 1, 2]).1 = [] := by decide +kernel

/-- why "pairs followed by a unit" is a hypothesis of c10_lossless: a lone SPS waits for a PPS, so
    the unit after it overtakes it (`holdback` says exactly that) -/
example : holdback none none [[0x67, 1], [0x65, 2], [0x68, 3], [0x41, 4]] =
    [[0x65, 2], [0x67, 1], [0x68, 3], [0x41, 4]] := by decide

/-- For every unit (any type, any F/NRI, any content) and every MTU the payloader sends nothing
    (only when MTU ≤ 2 and the unit does not fit), the unit itself (when it fits), or AT LEAST TWO
    FU-A fragments carrying the unit's NRI and type, S on the first only, E on the last only, each
    with `mtu - 2` payload bytes except possibly the last. -/
theorem c10_fua_train (mtu : Nat) (h : UInt8) (body : Bytes) :
    singleOrFua mtu (h :: body) = [] ∧ mtu ≤ 2 ∧ mtu < (h :: body).length
    ∨ singleOrFua mtu (h :: body) = [h :: body] ∧ (h :: body).length ≤ mtu
    ∨ singleOrFua mtu (h :: body) = encFu (mkHdr 0 (hNri h) 28) (hType h) true (chunks (mtu - 2) body) ∧
        2 ≤ (chunks (mtu - 2) body).length ∧ 3 ≤ mtu ∧ mtu < (h :: body).length :=
  singleOrFua_cases mtu h body

example : singleOrFua 5 [0xE5, 1, 2, 3, 4, 5, 6, 7] =
    [[0x7C, 0x85, 1, 2, 3], [0x7C, 0x05, 4, 5, 6], [0x7C, 0x45, 7]] := by decide +kernel

/-! ### the predicates are not vacuous: they refuse the defect of DESIGN §7 and other wrong shapes -/

/-- DESIGN §7 `c10_stapa_too_big_dropped` as the code before /repo `beb4ec2` behaved: MTU 3, SPS, PPS, IDR of
    two bytes each — only the IDR was sent.  The predicate says no. -/
example : C10.rtOk
    { disable := false, avc := true,
      calls := [{ mtu := 3, bare := false, units := [(true, [0x47, 0x01]), (false, [0x68, 0x89]), (true, [0x25, 0x01])] }] }
    { panicked := false,
      calls := [[{ payload := [0x25, 0x01], head := true, res := .ok [0, 0, 0, 2, 0x25, 0x01] }]] } = false := by
  decide

/-- an E bit on the middle fragment: the payloads do not parse as RFC 6184 units -/
example : parse [[0x7C, 0x85, 1], [0x7C, 0x45, 2], [0x7C, 0x45, 3]] = none := by decide

/-- SPS and PPS sent on their own although the STAP-A would fit MTU 1200: the units are all there
    (`shapeOk` without the aggregation clause would pass), `aggOk` says no -/
example : aggOk false [(1200, [0x67, 1]), (1200, [0x68, 2]), (1200, [0x65, 3])]
    [.single [0x67, 1], .single [0x68, 2], .single [0x65, 3]] = false := by decide
example : aggOk false [(1200, [0x67, 1]), (1200, [0x68, 2]), (1200, [0x65, 3])]
    [.stapA 0x78 [[0x67, 1], [0x68, 2]], .single [0x65, 3]] = true := by decide
/-- … and it does not ask for a STAP-A that cannot fit (MTU 8 < 5 + 2 + 2) -/
example : aggOk false [(8, [0x67, 1]), (8, [0x68, 2]), (8, [0x65, 3])]
    [.single [0x67, 1], .single [0x68, 2], .single [0x65, 3]] = true := by decide
/-- with STAP-A disabled any STAP-A is refused -/
example : aggOk true [] [.stapA 0x78 [[0x67, 1], [0x68, 2]]] = false := by decide

/-- a receiver that loses the NRI when reassembling fails `decodeOk` -/
example : C10.decodeOk false [[0x65, 1, 2]]
    [{ payload := [0x7C, 0x85, 1], head := true, res := .ok [] },
     { payload := [0x7C, 0x45, 2], head := false, res := .ok [0, 0, 0, 1, 0x45, 1, 2] }] = false := by
  decide

end Rtp.Props.C10
