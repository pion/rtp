/-
  Rtp/Props/C03.lean — C03: decoding conforms to RFC 3550/8285, re-encoding is stable, the
  standalone views agree.  Helper lemmas live in Rtp/Proofs/Wire*.lean.
-/
import Rtp.Proofs.WireCanonical
import Rtp.Proofs.WireViewPred
import Rtp.Proofs.WireAgree
import Rtp.Proofs.WireDecode
import Rtp.Pred.C03
namespace Rtp.Props.C03
open Rtp Rtp.Model Rtp.Spec.Wire Rtp.Proofs.Wire
open Rtp.Pred.C01 (canonP canonH)

/-! ### sentence (1): a well-formed wire image is accepted and decoded to what it was built from -/

/-- the full statement: every RFC-well-formed image (pads anywhere in the block, reserved id and
    non-zero appbits included), decoded into any receiver `r` -/
def c03_accepts_full : Prop :=
  ∀ (w : Wire), w.WF = true → ∀ r : Packet,
    ∃ p, pktUnmarshal r w.encode = .ok p ∧ canonP p = canonP w.toPacket ∧
      hdrUnmarshal r.header w.encode = .ok (p.header, w.extEnd)

/-- proved outside the regions of the two findings `c03_reserved_id` (a reserved id 15 in a
    one-byte block with at least one block byte behind it: `w.ignored > 0`) and
    `c03_twobyte_appbits` (two-byte profile with non-zero appbits): accepted, every field / element /
    payload byte as composed, payload offset = end of the extension block.  No size bound: any number
    of pads and elements up to the 16-bit word count.  A reserved id that is the very last byte of
    the block is inside the theorem. -/
theorem c03_accepts_partial (w : Wire) (hw : w.WF = true) (hi : w.ignored = 0) (ha : w.appbits = false) (r : Packet) :
    ∃ p, pktUnmarshal r w.encode = .ok p ∧ canonP p = canonP w.toPacket ∧
      hdrUnmarshal r.header w.encode = .ok (p.header, w.extEnd) := by
  refine ⟨_, pktUnmarshal_encode_wf w hw hi ha r, ?_, ?_⟩
  · simp only [canonP, canonH_hdrOf]
    simp [Wire.toPacket]
  · simpa [hi] using hdrUnmarshal_encode w r.header (wireOk_of_WF w hw ha)

/-- kind `c03.wire`, sentence (1) -/
theorem c03_accepts_pred (w : Wire) (hw : w.WF = true) (hi : w.ignored = 0) (ha : w.appbits = false)
    (qs : List UInt8) (prev : Bytes) :
    Pred.C03.acceptsOK w (Pred.C03.modelObs w.encode qs prev) = true := by
  have h1 := pktUnmarshal_encode_wf w hw hi ha {}
  have h1d := pktUnmarshal_encode_wf w hw hi ha (Pred.C03.dirtyReceiver prev)
  have h2 := hdrUnmarshal_encode w {} (wireOk_of_WF w hw ha)
  simp only [hi, Nat.sub_zero] at h2
  simp only [Pred.C03.acceptsOK, Pred.C03.modelObs, h1, h1d, h2, Res.map, Res.coarse, Bool.and_eq_true, beq_iff_eq,
    canonP_decoded, and_self]

/-- non-vacuity: pads before, between and after two elements, the second one ending flush with a
    word boundary, a whole word of trailing pads, empty payload, RTP padding with non-zero filler -/
def exWire : Wire :=
  { version := 2, pt := 96, csrc := [7],
    ext := some (.oneByte [.pad, .elem 1 [0xAA], .pad, .pad, .elem 14 [1, 2], .pad, .pad, .pad, .pad] none),
    pad := some [0xFF, 0xFF] }

example : exWire.WF = true ∧ exWire.ignored = 0 ∧ exWire.appbits = false := by decide

/-- also inside the theorem: a reserved id as the very last byte of the block (nothing ignored) -/
example : (Wire.WF { ext := some (.oneByte [.elem 1 [7, 8]] (some (3, []))) } = true) ∧
    (Wire.ignored { ext := some (.oneByte [.elem 1 [7, 8]] (some (3, []))) } = 0) := by decide

/-! ### sentence (2): re-encoding any accepted input is stable -/

/-- For ANY byte string that Unmarshal accepts (into any receiver, no bound on the length):
    Marshal reports invalid padding exactly when P = 1 with count 0, and otherwise yields bytes
    that decode (into any receiver) to an equal packet.  Holds inside the reserved-id region too. -/
theorem c03_remarshal (r : Packet) (buf : Bytes) (p : Packet) (h : pktUnmarshal r buf = .ok p) :
    (p.header.padding = true ∧ p.paddingSize = 0 ∧ pktMarshal p = .err .invalidPadding) ∨
    (¬ (p.header.padding = true ∧ p.paddingSize = 0) ∧
      ∃ bs, pktMarshal p = .ok bs ∧ ∀ r', ∃ p', pktUnmarshal r' bs = .ok p' ∧ canonP p' = canonP p) := by
  by_cases hp : (p.header.padding && p.paddingSize == 0) = true
  · left
    have hp' := hp
    simp only [Bool.and_eq_true, beq_iff_eq] at hp'
    exact ⟨hp'.1, hp'.2, by simp [pktMarshal, pktMarshalTo, hp]⟩
  · right
    simp only [Bool.not_eq_true] at hp
    have henc := pktUnmarshal_out r buf p h hp
    refine ⟨by simpa using hp, (ofPacket p).encode, pktMarshal_ofPacket p henc, ?_⟩
    intro r'
    obtain ⟨bs, p', h1, h2, h3⟩ := marshal_unmarshal p henc r'
    rw [pktMarshal_ofPacket p henc] at h1
    cases h1
    exact ⟨p', h2, h3⟩

/-- kind `c03.mut` (and the second conjunct of `c03.wire`): every byte string -/
theorem c03_remarshal_pred (buf : Bytes) (qs : List UInt8) (prev : Bytes) :
    Pred.C03.remarshalOK (Pred.C03.modelObs buf qs prev) = true := by
  simp only [Pred.C03.remarshalOK, Pred.C03.modelObs]
  cases hu : pktUnmarshal {} buf with
  | err e => simp [Res.map, Res.coarse]
  | panic => simp [Res.map, Res.coarse]
  | ok p =>
    simp only [Res.map, Res.coarse]
    have hc : ((canonP p).header.padding && (canonP p).paddingSize == 0) = (p.header.padding && p.paddingSize == 0) := by
      cases hx : p.header.extension <;> simp [canonP, canonH, hx]
    rcases c03_remarshal {} buf p hu with ⟨h1, h2, h3⟩ | ⟨h1, bs, h2, h3⟩
    · simp [hc, h1, h2, h3]
    · have hp : (p.header.padding && p.paddingSize == 0) = false := by
        rw [Bool.eq_false_iff]; intro hh; simp only [Bool.and_eq_true, beq_iff_eq] at hh; exact h1 hh
      obtain ⟨p', h4, h5⟩ := h3 {}
      simp [hc, hp, h2, h4, h5]

/-- non-vacuity of `c03_remarshal`: an input the decoder accepts although no conforming encoder
    writes it — a one-byte "element" with id 0 and two bytes, an interior pad, non-zero filler -/
def exOdd : Wire :=
  { version := 2, pt := 96, ext := some (.oneByte [.elem 0 [7, 8], .pad, .elem 5 [9, 9]] none), pad := some [0xAA, 0xBB] }
example : exOdd.WF = false ∧ (pktUnmarshal {} exOdd.encode).isOk = true :=
  ⟨by decide, by rw [pktUnmarshal_encode exOdd {} (by decide) (by decide)]; rfl⟩

/-- canonical layout: Marshal of the described packet is the image, byte for byte -/
theorem c03_canonical (w : Wire) (h : w.canonical = true) : pktMarshal w.toPacket = .ok w.encode := by
  have hwf : w.WF = true := by simp only [Wire.canonical, Bool.and_eq_true] at h; exact h.1.1
  have hreg : w.ignored = 0 ∧ w.appbits = false := by
    simp only [Wire.canonical, Bool.and_eq_true] at h
    cases hx : w.ext with
    | none => simp [Wire.ignored, Wire.appbits, hx]
    | some b =>
      have hc := h.1.2
      simp only [hx] at hc
      cases b with
      | oneByte items stop =>
        simp only [ExtBlock.canonical, Bool.and_eq_true, Option.isNone_iff_eq_none] at hc
        simp [Wire.ignored, Wire.appbits, hx, ExtBlock.ignored, ExtBlock.appbits, hc.2]
      | twoByte a items =>
        simp only [ExtBlock.canonical, Bool.and_eq_true, beq_iff_eq] at hc
        simp [Wire.ignored, Wire.appbits, hx, ExtBlock.ignored, ExtBlock.appbits, hc.1]
      | legacy p ws => simp [Wire.ignored, Wire.appbits, hx, ExtBlock.ignored, ExtBlock.appbits]
  have hun := pktUnmarshal_encode_fresh w hwf hreg.1 hreg.2
  have hpad : (w.toPacket.header.padding && w.toPacket.paddingSize == 0) = false := by
    cases hp : w.pad with
    | none => simp [Wire.toPacket, hp]
    | some f =>
      simp only [Wire.WF, Bool.and_eq_true, hp, decide_eq_true_eq] at hwf
      have : (f.length + 1).toUInt8 ≠ 0 := by
        intro h0
        have := congrArg UInt8.toNat h0
        simp [Nat.toUInt8] at this; omega
      simp only [Wire.toPacket, hp, Option.isSome_some, Bool.true_and, beq_eq_false_iff_ne, ne_eq]
      exact this
  have henc := pktUnmarshal_out {} w.encode w.toPacket hun hpad
  rw [pktMarshal_ofPacket _ henc, ofPacket_toPacket w h]

/-- sentence (1) through the public accessors: `GetExtensionIDs` lists the elements in wire order,
    `GetExtension q` returns the first element with id `q` (nil when there is none), for any queries -/
theorem c03_accessors_pred (w : Wire) (hw : w.WF = true) (hi : w.ignored = 0) (ha : w.appbits = false)
    (qs : List UInt8) (prev : Bytes) :
    Pred.C03.accessorsOK w qs (Pred.C03.modelObs w.encode qs prev) = true := by
  have h1 := pktUnmarshal_encode_wf w hw hi ha {}
  simp only [Pred.C03.accessorsOK, Pred.C03.modelObs, h1, Bool.and_eq_true, beq_iff_eq]
  exact accessors_hdrOf w {} qs

theorem c03_wire_pred (w : Wire) (hw : w.WF = true) (hi : w.ignored = 0) (ha : w.appbits = false)
    (qs : List UInt8) (prev : Bytes) :
    Pred.C03.wire w w.encode qs (Pred.C03.modelObs w.encode qs prev) = true := by
  have h1 := c03_accepts_pred w hw hi ha qs prev
  have h2 := c03_remarshal_pred w.encode qs prev
  have h3 := c03_accessors_pred w hw hi ha qs prev
  simp only [Pred.C03.wire, h1, h2, h3, hw, Bool.not_true, Bool.false_or, Bool.true_and, Bool.or_eq_true,
    Bool.not_eq_true', Pred.C03.canonOK, beq_iff_eq, Bool.and_self]
  by_cases hc : w.canonical = true
  · right
    simp only [Pred.C03.modelObs, pktUnmarshal_encode_fresh w hw hi ha, c03_canonical w hc]
  · left; simpa using hc

/-- the predicate of `c03.mut` on the model's observation of ANY byte string: sentence (2) always,
    and sentence (1) whenever the string is the image of a well-formed description outside the
    known-finding regions (found by the specification's own decoder `Wire.describe` and re-checked
    with `Wire.encode`) -/
theorem c03_mut_pred (buf : Bytes) (qs : List UInt8) (prev : Bytes)
    (hreg : ∀ w, Wire.describe buf = some w → w.ignored = 0 ∧ w.appbits = false) :
    Pred.C03.mutOK buf qs (Pred.C03.modelObs buf qs prev) = true := by
  simp only [Pred.C03.mutOK]
  cases hd : Wire.describe buf with
  | none => exact c03_remarshal_pred buf qs prev
  | some w =>
    obtain ⟨hi, ha⟩ := hreg w hd
    simp only [Wire.describe] at hd
    split at hd
    · rename_i w' hdec
      split at hd
      · rename_i hc
        cases hd
        simp only [Bool.and_eq_true, beq_iff_eq] at hc
        have := c03_wire_pred w hc.1 hi ha qs prev
        rw [hc.2] at this
        exact this
      · cases hd
    · cases hd

/-- the oracle of `c03.mut` is complete: EVERY well-formed image is recognised as one (with a
    description of the same packet, in the same region), so `c03.mut` applies sentence (1) to every
    mutated input that is still a well-formed image -/
theorem c03_oracle_complete (w : Wire) (hw : w.WF = true) :
    ∃ w', Wire.describe w.encode = some w' ∧ w'.toPacket = w.toPacket ∧ w'.ignored = w.ignored ∧
      w'.appbits = w.appbits := by
  refine ⟨normW w, ?_, ?_, ?_, ?_⟩
  · have henc : (normW w).encode = w.encode := by
      cases hx : w.ext with
      | none => simp [normW, hx, Wire.encode]
      | some b =>
        have hb := WF_ext hw hx
        simp [normW, hx, Wire.encode, encodeExt, normBlock_encode b hb]
    have hwf : (normW w).WF = true := by
      cases hx : w.ext with
      | none => simpa [normW, hx, Wire.WF] using hw
      | some b =>
        have hb := WF_ext hw hx
        simp only [Wire.WF, Bool.and_eq_true, hx] at hw
        simp only [normW, hx, Wire.WF, Option.map_some, Bool.and_eq_true, (normBlock_facts b hb).1, and_true]
        exact ⟨hw.1.1, hw.2⟩
    simp only [Wire.describe, decode_encode w hw, hwf, henc, beq_self_eq_true, Bool.and_self, ↓reduceIte]
  all_goals
    cases hx : w.ext with
    | none => simp [normW, hx, Wire.toPacket, Wire.ignored, Wire.appbits]
    | some b =>
      have hb := WF_ext hw hx
      obtain ⟨_, f2, f3, f4⟩ := normBlock_facts b hb
      simp [normW, hx, Wire.toPacket, Wire.ignored, Wire.appbits, f2, f3, f4, normBlock_profile]

/-- the oracle finds the description of a mutated-looking image: non-vacuity of `c03_mut_pred` -/
example : (Wire.describe exWire.encode).isSome = true := by decide

example : exWire.canonical = false := by decide

/-- non-vacuity of `c03_canonical`: 2 CSRCs, three two-byte elements (one of length 0), padding -/
def exCanon : Wire :=
  { version := 2, marker := true, pt := 111, csrc := [1, 2],
    ext := some (.twoByte 0 [.elem 1 [], .elem 200 [1, 2, 3], .elem 7 [9]]), payload := [5, 6], pad := some [0, 0, 0] }
example : exCanon.canonical = true := by decide

/-! ### sentence (3): the standalone views decode the same block to the same ids and values and
    re-serialise it byte-identically -/

section
open Rtp.Pred.C03

/-- OneByteHeaderExtension on any well-formed one-byte block (pads anywhere; a reserved id with
    arbitrary bytes behind it allowed: `GetIDs` stops there as RFC 8285 asks, `Get` of a listed id
    returns the first such element, `Get` of an id that can stand nowhere returns nil), for any
    queries and destination contents -/
theorem c03_view_onebyte (items : List Item) (stop : Option (UInt8 × Bytes)) (qs : List UInt8) (fill : UInt8)
    (hw : (ExtBlock.oneByte items stop).WF = true) :
    Pred.C03.view { kind := .oneByte, block := some (.oneByte items stop),
                    bytes := (ExtBlock.oneByte items stop).encode, queries := qs, fill := fill }
      (Pred.C03.modelView { kind := .oneByte, block := some (.oneByte items stop),
                            bytes := (ExtBlock.oneByte items stop).encode, queries := qs, fill := fill }) = true := by
  have hbo := blockOk_of_WF _ hw rfl
  simp only [blockOk, Bool.and_eq_true] at hbo
  obtain ⟨⟨hok, hstop⟩, _⟩ := hbo
  have h4 := encode_length_pos (.oneByte items stop)
  have hlt : ¬ (ExtBlock.oneByte items stop).encode.length < 4 := by omega
  refine view_of .oneByte _ qs fill rfl hw rfl ?_ (fun q v he => ?_)
  · have htail : oneByteIDs (stopBytes stop ++ rep (padTo4 (body1 items ++ stopBytes stop).length) 0) = [] := by
      cases stop with
      | none => simpa [stopBytes] using oneByteIDs_pads _
      | some st =>
        obtain ⟨n, rest⟩ := st
        simp only [stopWF, decide_eq_true_eq] at hstop
        exact oneByteIDs_stop n rest _ hstop
    simp only [viewGetIDs, hlt, ↓reduceIte, drop4_encode, ExtBlock.body, List.append_assoc,
      oneByteIDs_body items _ hok htail]
    rfl
  · simp only [viewGet, drop4_encode, ExtBlock.body, List.append_assoc, oneByteGet_body items _ q hok]
    rcases expectGet_cases he with ⟨hin, rfl⟩ | ⟨hm, rfl⟩
    · obtain ⟨e, hfe⟩ := find?_of_contains (elems items) q hin
      simp [ExtBlock.lookup, ExtBlock.elements, hfe]
    · simp only [ExtBlock.mentions, Bool.or_eq_false_iff] at hm
      obtain rfl : stop = none := by simpa using hm.1
      simp only [find?_of_not_any _ q hm.2, stopBytes, List.nil_append]
      exact oneByteGet_pads _ q

/-- TwoByteHeaderExtension on any well-formed two-byte block with zero appbits (`_partial`: with
    non-zero appbits the view refuses the block — known finding `c03_twobyte_appbits`) -/
theorem c03_view_twobyte_partial (items : List Item) (qs : List UInt8) (fill : UInt8)
    (hw : (ExtBlock.twoByte 0 items).WF = true) :
    Pred.C03.view { kind := .twoByte, block := some (.twoByte 0 items), bytes := (ExtBlock.twoByte 0 items).encode,
                    queries := qs, fill := fill }
      (Pred.C03.modelView { kind := .twoByte, block := some (.twoByte 0 items),
                            bytes := (ExtBlock.twoByte 0 items).encode, queries := qs, fill := fill }) = true := by
  have hbo := blockOk_of_WF _ hw rfl
  simp only [blockOk, Bool.and_eq_true] at hbo
  obtain ⟨⟨_, hok⟩, _⟩ := hbo
  have h4 := encode_length_pos (.twoByte 0 items)
  refine view_of .twoByte _ qs fill rfl hw rfl ?_ (fun q v he => ?_)
  · have : ¬ (ExtBlock.twoByte 0 items).encode.length < 4 := by omega
    simp only [viewGetIDs, this, ↓reduceIte, drop4_encode, ExtBlock.body, twoByteIDs_body items _ hok]
    rfl
  · simp only [viewGet, drop4_encode, ExtBlock.body, twoByteGet_body items _ q hok]
    rcases expectGet_cases he with ⟨_, rfl⟩ | ⟨hm, rfl⟩
    · simp only [ExtBlock.lookup, ExtBlock.elements]
    · simp [find?_of_not_any _ q hm]

def c03_view_twobyte_full : Prop :=
  ∀ (a : UInt8) (items : List Item) (qs : List UInt8) (fill : UInt8), (ExtBlock.twoByte a items).WF = true →
    Pred.C03.view { kind := .twoByte, block := some (.twoByte a items), bytes := (ExtBlock.twoByte a items).encode,
                    queries := qs, fill := fill }
      (Pred.C03.modelView { kind := .twoByte, block := some (.twoByte a items),
                            bytes := (ExtBlock.twoByte a items).encode, queries := qs, fill := fill }) = true

/-- RawExtension on any RFC 3550 block: one id 0 whose value is the whole block *including* its
    4-byte header (API quirk recorded in DESIGN §7, outside the property's wording) -/
theorem c03_view_raw (p : UInt16) (ws : Bytes) (qs : List UInt8) (fill : UInt8)
    (hw : (ExtBlock.legacy p ws).WF = true) :
    Pred.C03.view { kind := .raw, block := some (.legacy p ws), bytes := (ExtBlock.legacy p ws).encode,
                    queries := qs, fill := fill }
      (Pred.C03.modelView { kind := .raw, block := some (.legacy p ws),
                            bytes := (ExtBlock.legacy p ws).encode, queries := qs, fill := fill }) = true := by
  refine view_of .raw _ qs fill rfl hw rfl ?_ (fun q v he => ?_)
  · simp [viewGetIDs, ExtBlock.ids, ExtBlock.elements]
  · simp only [viewGet]
    rcases expectGet_cases he with ⟨hin, rfl⟩ | ⟨hm, rfl⟩
    · have hq : q = 0 := by simpa [ExtBlock.ids, ExtBlock.elements] using hin
      simp [hq]
    · have hq : q ≠ 0 := by simpa [ExtBlock.mentions] using hm
      simp [hq]

end

/-- spelled out for the two-byte view (no reserved id there, so `Get` is first-match lookup for
    every id) -/
theorem c03_view_twobyte_spec (items : List Item) (hw : (ExtBlock.twoByte 0 items).WF = true) :
    let b := ExtBlock.twoByte 0 items
    viewUnmarshal .twoByte b.encode = .ok b.encode.length ∧
    viewGetIDs .twoByte b.encode = .ok b.ids ∧
    (∀ q, viewGet .twoByte b.encode q = .ok (b.lookup q)) ∧
    viewMarshal b.encode = b.encode ∧ viewMarshalSize b.encode = b.encode.length := by
  have hbo := blockOk_of_WF _ hw rfl
  simp only [blockOk, Bool.and_eq_true] at hbo
  have hok := hbo.1.2
  have h4 := encode_length_pos (.twoByte 0 items)
  have : ¬ (ExtBlock.twoByte 0 items).encode.length < 4 := by omega
  refine ⟨viewUnmarshal_encode _ _ rfl hw rfl, ?_, ?_, rfl, rfl⟩
  · simp only [viewGetIDs, this, ↓reduceIte, drop4_encode, ExtBlock.body, twoByteIDs_body items _ hok]; rfl
  · intro q
    simp only [viewGet, drop4_encode, ExtBlock.body, twoByteGet_body items _ q hok]; rfl

/-- non-vacuity for the views: a one-byte block with interior pads and a reserved id followed by
    garbage; a two-byte block with a zero-length element; a legacy block -/
example : (ExtBlock.oneByte [.pad, .elem 3 [1, 2], .pad] (some (0, [0xBB, 0xCC, 0xDD]))).WF = true ∧
    (ExtBlock.oneByte [.pad, .elem 3 [1, 2], .pad] (some (0, [0xBB, 0xCC, 0xDD]))).ids = [3] ∧
    (ExtBlock.twoByte 0 [.elem 200 [], .pad, .pad, .elem 1 [1, 2, 3]]).WF = true ∧
    (ExtBlock.legacy 0x1234 [1, 2, 3, 4]).WF = true := by decide

/-- `c03.view` on ARBITRARY bytes: whenever they are the image of a well-formed block (found by the
    specification's decoder, re-checked with `ExtBlock.encode`) with zero appbits, the view of the
    matching form satisfies sentence (3) -/
theorem c03_view_any (k : ViewKind) (bytes : Bytes) (qs : List UInt8) (fill : UInt8)
    (hreg : ∀ b, ExtBlock.describe bytes = some b → b.appbits = false) :
    Pred.C03.view { kind := k, block := none, bytes := bytes, queries := qs, fill := fill }
      (Pred.C03.modelView { kind := k, block := none, bytes := bytes, queries := qs, fill := fill }) = true := by
  simp only [Pred.C03.view, Pred.C03.ViewIn.desc]
  cases hd : ExtBlock.describe bytes with
  | none => rfl
  | some b =>
    obtain ⟨hw, henc⟩ := describeBlock_sound bytes b hd
    have ha := hreg b hd
    subst henc
    simp only
    by_cases hf : Pred.C03.formMatches k b = true
    · cases b with
      | oneByte items stop =>
        obtain rfl := formMatches_oneByte hf
        have := c03_view_onebyte items stop qs fill hw
        simp only [Pred.C03.view, Pred.C03.ViewIn.desc] at this
        exact this
      | twoByte a items =>
        obtain rfl := formMatches_twoByte hf
        have ha0 : a = 0 := by simpa [ExtBlock.appbits] using ha
        subst ha0
        have := c03_view_twobyte_partial items qs fill hw
        simp only [Pred.C03.view, Pred.C03.ViewIn.desc] at this
        exact this
      | legacy p ws =>
        obtain rfl := formMatches_legacy hf
        have := c03_view_raw p ws qs fill hw
        simp only [Pred.C03.view, Pred.C03.ViewIn.desc] at this
        exact this
    · simp only [Bool.not_eq_true] at hf
      simp [hf]

section
open Rtp.Pred.C03

/-- "the views decode the same block to the same ids and values" stated between the two decoders
    directly: `Header.GetExtensionIDs` / `GetExtension` on the header decoded from a well-formed
    image (no reserved id, zero appbits) and `GetIDs` / `Get` of the one-byte resp. two-byte view on
    the same block bytes return the same list and, for EVERY id, the same value -/
theorem c03_views_agree (w : Wire) (b : ExtBlock) (hext : w.ext = some b) (hw : w.WF = true)
    (hr : w.reserved = false) (ha : w.appbits = false) (r : Header) (k : ViewKind)
    (hk : Pred.C03.formMatches k b = true) (hnl : k ≠ .raw) :
    ∃ h n, hdrUnmarshal r w.encode = .ok (h, n) ∧
      viewGetIDs k b.encode = .ok (getExtensionIDs h) ∧
      ∀ q, viewGet k b.encode q = .ok (getExtension h q) := by
  have hok := wireOk_of_WF w hw ha
  have hbw := WF_ext hw hext
  have hba : b.appbits = false := by simpa [Wire.appbits, hext] using ha
  have hbo := blockOk_of_WF b hbw hba
  have hx : (hdrOf r w).extension = true := by simp [hdrOf, Wire.toPacket, hext]
  have he : (hdrOf r w).exts = b.elements := by simp [hdrOf, Wire.toPacket, hext]
  have h4 := encode_length_pos b
  have hlt : ¬ b.encode.length < 4 := by omega
  refine ⟨_, _, hdrUnmarshal_encode w r hok, ?_⟩
  cases b with
  | oneByte items stop =>
    obtain rfl := formMatches_oneByte hk
    have hs : stop = none := by simpa [Wire.reserved, hext, ExtBlock.reserved] using hr
    subst hs
    simp only [blockOk, Bool.and_eq_true] at hbo
    refine ⟨?_, fun q => ?_⟩
    · simp only [viewGetIDs, hlt, ↓reduceIte, drop4_encode, ExtBlock.body, stopBytes, List.append_nil,
        oneByteIDs_body items _ hbo.1.1 (oneByteIDs_pads _),
        getExtensionIDs, hx, he, ExtBlock.elements, Bool.not_true, Bool.false_eq_true]
    · simp only [viewGet, drop4_encode, ExtBlock.body, stopBytes, List.append_nil, oneByteGet_body items _ q hbo.1.1,
        getExtension, hx, he, ExtBlock.elements, Bool.not_true, Bool.false_eq_true, ↓reduceIte, oneByteGet_pads]
      cases (elems items).find? (·.id == q) <;> rfl
  | twoByte a items =>
    obtain rfl := formMatches_twoByte hk
    simp only [blockOk, Bool.and_eq_true] at hbo
    refine ⟨?_, fun q => ?_⟩
    · simp only [viewGetIDs, hlt, ↓reduceIte, drop4_encode, ExtBlock.body, twoByteIDs_body items _ hbo.1.2,
        getExtensionIDs, hx, he, ExtBlock.elements, Bool.not_true, Bool.false_eq_true]
    · simp only [viewGet, drop4_encode, ExtBlock.body, twoByteGet_body items _ q hbo.1.2,
        getExtension, hx, he, ExtBlock.elements, Bool.not_true, Bool.false_eq_true, ↓reduceIte]
  | legacy p ws =>
    exact absurd (formMatches_legacy hk) hnl

end

/-! ### the known finding `c03_reserved_id` -/

/-- the finding's input: element 1 = AA, then the reserved id (F0) and five arbitrary
    bytes in the rest of the two-word block, payload 01 02 03 -/
def reservedWire : Wire :=
  { version := 2, ext := some (.oneByte [.elem 1 [0xAA]] (some (0, [0xBB, 0xCC, 0xDD, 0xEE, 0xFF]))), payload := [1, 2, 3] }

example : reservedWire.WF = true ∧ reservedWire.ignored = 5 ∧
    reservedWire.encode = [0x90, 0, 0, 0, 0, 0, 0, 0, 0, 0, 0, 0, 0xBE, 0xDE, 0, 2,
                           0x10, 0xAA, 0xF0, 0xBB, 0xCC, 0xDD, 0xEE, 0xFF, 1, 2, 3] := by decide

/-- what the model (and, by the correspondence run, the code) does there: the header ends right
    after the id-15 byte — offset 19 instead of 24 — and the five ignored block bytes are handed
    out as payload: BB CC DD EE FF 01 02 03 -/
theorem c03_reserved_id_model :
    hdrUnmarshal {} reservedWire.encode = .ok (hdrOf {} reservedWire, 19) ∧ reservedWire.extEnd = 24 ∧
    (pktUnmarshal {} reservedWire.encode).map (·.payload) = .ok [0xBB, 0xCC, 0xDD, 0xEE, 0xFF, 1, 2, 3] := by
  have h := hdrUnmarshal_encode reservedWire {} (by decide)
  have e : reservedWire.extEnd - reservedWire.ignored = 19 := by decide
  rw [e] at h
  refine ⟨h, by decide, ?_⟩
  have hh : hdrUnmarshal ({} : Packet).header reservedWire.encode = .ok (hdrOf {} reservedWire, 19) := h
  simp only [pktUnmarshal, hh]
  decide

/-- the full statement of sentence (1) is false: the negation on a concrete input -/
theorem c03_reserved_id_witness : ¬ c03_accepts_full := by
  intro hfull
  obtain ⟨p, _, _, h3⟩ := hfull reservedWire (by decide) {}
  have h := c03_reserved_id_model.1
  have hh : hdrUnmarshal ({} : Packet).header reservedWire.encode = .ok (hdrOf {} reservedWire, 19) := h
  rw [hh] at h3
  have : (19 : Nat) = reservedWire.extEnd := by
    injection h3 with h3; exact (Prod.mk.injEq _ _ _ _ ▸ h3).2
  rw [c03_reserved_id_model.2.1] at this
  exact absurd this (by decide)

/-- and the predicate the driver evaluates fails on the model's observation of that input -/
theorem c03_reserved_id_pred (qs : List UInt8) (prev : Bytes) :
    Pred.C03.acceptsOK reservedWire (Pred.C03.modelObs reservedWire.encode qs prev) = false := by
  have h := c03_reserved_id_model.1
  simp only [Pred.C03.acceptsOK, Pred.C03.modelObs, h, Res.map, Res.coarse]
  rw [Bool.and_eq_false_iff]; right
  rw [c03_reserved_id_model.2.1]; decide

/-- the packet of the repo's own test TestRFC8285OneByteExtensionTermianteProcessingWhenReservedIDEncountered,
    which pins the behaviour (`payload := reservedIDPkt[17:]`): it is the image of a well-formed
    description whose extension block ends at offset 20; the model returns what the test demands,
    i.e. the three ignored block bytes AA 98 36 in front of the payload BE 88 9E -/
def pinnedWire : Wire :=
  { version := 2, marker := true, pt := 96, seq := 0x698f, ts := 0xd9c293da, ssrc := 0x1c642782,
    ext := some (.oneByte [] (some (0, [0xAA, 0x98, 0x36]))), payload := [0xbe, 0x88, 0x9e] }

theorem c03_reserved_id_pinned :
    pinnedWire.WF = true ∧ pinnedWire.extEnd = 20 ∧
    pinnedWire.encode = [0x90, 0xe0, 0x69, 0x8f, 0xd9, 0xc2, 0x93, 0xda, 0x1c, 0x64, 0x27, 0x82,
                         0xBE, 0xDE, 0x00, 0x01, 0xF0, 0xAA, 0x98, 0x36, 0xbe, 0x88, 0x9e] ∧
    (pktUnmarshal {} pinnedWire.encode).map (fun p => (p.header.exts, p.payload)) =
      .ok ([], pinnedWire.encode.drop 17) := by
  refine ⟨by decide, by decide, by decide, ?_⟩
  have h := pktUnmarshal_encode_gen pinnedWire {} (by decide)
  rw [h]
  decide

/-- the region is exact: on EVERY well-formed image with a reserved id and at least one block byte
    behind it the header is reported to end before the end of the extension block, so sentence (1)
    fails there (and, by `c03_accepts_partial`, nowhere else apart from the appbits region) -/
theorem c03_reserved_region_offset (w : Wire) (hw : w.WF = true) (hi : 0 < w.ignored) (r : Header) :
    ∃ n, hdrUnmarshal r w.encode = .ok (hdrOf r w, n) ∧ n < w.extEnd := by
  have ha := appbits_of_ignored_pos hi
  have h2 := ignored_le_extEnd w
  refine ⟨_, hdrUnmarshal_encode w r (wireOk_of_WF w hw ha), ?_⟩
  omega

theorem c03_reserved_region_fails (w : Wire) (hw : w.WF = true) (hi : 0 < w.ignored) (qs : List UInt8) (prev : Bytes) :
    Pred.C03.acceptsOK w (Pred.C03.modelObs w.encode qs prev) = false := by
  obtain ⟨n, h1, h2⟩ := c03_reserved_region_offset w hw hi {}
  simp only [Pred.C03.acceptsOK, Pred.C03.modelObs, h1, Res.map, Res.coarse]
  rw [Bool.and_eq_false_iff]; right
  rw [beq_eq_false_iff_ne]
  intro h; injection h with h; omega

/-- … and what exactly happens to the packet there: it is still accepted, the elements in front of
    the reserved id are right, and the ignored bytes of the block (the last `w.ignored` bytes in
    front of offset `w.extEnd`) are handed out in front of the payload -/
theorem c03_reserved_region_payload (w : Wire) (hw : w.WF = true) (hi : 0 < w.ignored) (r : Packet) :
    ∃ p, pktUnmarshal r w.encode = .ok p ∧ p.header = hdrOf r.header w ∧
      p.payload = (w.encode.take w.extEnd).drop (w.extEnd - w.ignored) ++ w.payload ∧
      p.payload.length = w.ignored + w.payload.length := by
  have ha := appbits_of_ignored_pos hi
  have h := pktUnmarshal_encode_gen w r (wireOk_of_WF w hw ha)
  have hle := ignored_le_extEnd w
  refine ⟨_, h, rfl, by simp only [take_extEnd], ?_⟩
  simp only [List.length_append, List.length_drop, headBytes_length]
  omega

/-! ### the known finding `c03_twobyte_appbits` (RFC 8285 §4.3: appbits MUST be ignored by
    the receiver) -/

/-- a two-byte block with profile 0x1001 carrying element 1 = AA -/
def appbitsWire : Wire :=
  { version := 2, pt := 96, seq := 1, ts := 2, ssrc := 3, ext := some (.twoByte 1 [.elem 1 [0xAA]]) }

example : appbitsWire.WF = true ∧ appbitsWire.appbits = true ∧
    appbitsWire.encode = [0x90, 0x60, 0, 1, 0, 0, 0, 2, 0, 0, 0, 3, 0x10, 0x01, 0, 1, 0x01, 0x01, 0xAA, 0x00] := by decide

/-- what the model (and, by the correspondence run, the code) does there: the block is taken for
    an RFC 3550 opaque block — one element with id 0 holding the whole block content — instead of
    element 1 = AA -/
theorem c03_twobyte_appbits_model :
    (pktUnmarshal {} appbitsWire.encode).map (·.header.exts) = .ok [{ id := 0, payload := [0x01, 0x01, 0xAA, 0x00] }] ∧
    appbitsWire.toPacket.header.exts = [{ id := 1, payload := [0xAA] }] := by
  constructor
  · decide
  · decide

theorem c03_twobyte_appbits_witness : ¬ c03_accepts_full := by
  intro hfull
  obtain ⟨p, h1, h2, _⟩ := hfull appbitsWire (by decide) {}
  have hm := c03_twobyte_appbits_model.1
  rw [h1] at hm
  simp only [Res.map, Res.ok.injEq] at hm
  have hx : p.header.extension = true := by
    have := congrArg (fun q => q.header.extension) h2
    simp only [canonP, canonH] at this
    split at this <;> simp_all [Wire.toPacket, appbitsWire]
  have := congrArg (fun q => q.header.exts) h2
  simp only [canonP, canonH, hx, ↓reduceIte, hm] at this
  revert this
  decide

section
open Rtp.Pred.C03

/-- the region is exact here too: EVERY well-formed two-byte image with non-zero appbits is decoded to
    one opaque element with id 0 (the block content with its alignment pads) … -/
theorem c03_appbits_region_decode (w : Wire) (a : UInt8) (items : List Item)
    (hext : w.ext = some (.twoByte a items)) (hw : w.WF = true) (ha : a ≠ 0) :
    ∃ p, pktUnmarshal {} w.encode = .ok p ∧
      p.header.exts = [{ id := 0, payload := body2 items ++ rep (padTo4 (body2 items).length) 0 }] := by
  let w' : Wire := { w with ext := some (asLegacy a items) }
  have henc : w'.encode = w.encode := by
    simp only [Wire.encode, w', hext, Option.isSome_some, encodeExt, asLegacy_encode]
  have hwf := hw
  simp only [Wire.WF, Bool.and_eq_true, hext, ExtBlock.WF, decide_eq_true_eq] at hwf
  obtain ⟨⟨⟨⟨hv, hpt⟩, hcc⟩, ⟨⟨ha16, hitems⟩, hlen⟩⟩, hpad⟩ := hwf
  have han : a.toNat ≠ 0 := by
    intro h0; apply ha; exact UInt8.toNat_inj.mp (by simpa using h0)
  obtain ⟨p1, p2⟩ := appbits_profile ⟨a.toNat, ha16⟩ han
  obtain ⟨hm, hlt⟩ := padTo4_facts (body2 items).length
  have hok : wireOk w' = true := by
    simp only [wireOk, w', Bool.and_eq_true, decide_eq_true_eq, asLegacy, blockOk, bne_iff_ne, ne_eq, beq_iff_eq,
      List.length_append, rep, List.length_replicate]
    refine ⟨⟨⟨⟨hv, hpt⟩, hcc⟩, ⟨⟨⟨p1, p2⟩, hm⟩, ?_⟩⟩, hpad⟩
    simp only [maxBody] at hlen ⊢; omega
  have hu : w'.ignored = 0 := by simp [Wire.ignored, w', asLegacy, ExtBlock.ignored]
  have := pktUnmarshal_encode w' {} hok hu
  rw [henc] at this
  exact ⟨_, this, by simp [hdrOf, Wire.toPacket, w', asLegacy, ExtBlock.elements]⟩

theorem c03_appbits_region_fails (w : Wire) (hw : w.WF = true) (ha : w.appbits = true) (qs : List UInt8)
    (prev : Bytes) :
    Pred.C03.acceptsOK w (Pred.C03.modelObs w.encode qs prev) = false := by
  cases hx : w.ext with
  | none => simp [Wire.appbits, hx] at ha
  | some b =>
    cases b with
    | oneByte items stop => simp [Wire.appbits, hx, ExtBlock.appbits] at ha
    | legacy p ws => simp [Wire.appbits, hx, ExtBlock.appbits] at ha
    | twoByte a items =>
      have ha' : a ≠ 0 := by simpa [Wire.appbits, hx, ExtBlock.appbits] using ha
      obtain ⟨p, h1, h2⟩ := c03_appbits_region_decode w a items hx hw ha'
      have hitems : items.all Item.wf2 = true := by
        simp only [Wire.WF, Bool.and_eq_true, hx, ExtBlock.WF] at hw; exact hw.1.2.1.2
      simp only [acceptsOK, modelObs, h1, Res.map, Res.coarse]
      rw [Bool.and_eq_false_iff]; left
      rw [Bool.and_eq_false_iff]; left
      rw [beq_eq_false_iff_ne]
      intro hc
      injection hc with hc
      have := congrArg (fun q => q.header.exts) hc
      have hxp : p.header.extension = true := by
        have := congrArg (fun q => q.header.extension) hc
        simp only [canonP, canonH] at this
        split at this <;> simp_all [Wire.toPacket]
      simp only [canonP, canonH, hxp, ↓reduceIte, h2, Wire.toPacket, hx, Option.isSome_some, ExtBlock.elements] at this
      exact elems_ne_legacy items hitems _ this.symm

end

end Rtp.Props.C03
