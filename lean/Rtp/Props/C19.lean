/-
  Rtp/Props/C19.lean — C19: the Video Layers Allocation extension encodes per spec and round-trips.
  Property theorems only; the lemmas are in Rtp/Proofs/VLAMarshal.lean (sender), VLABuf.lean (the buffer
  model of Marshal), VLA.lean and VLADec.lean (receiver).
-/
import Rtp.Proofs.VLA
import Rtp.Proofs.VLABuf
import Rtp.Proofs.VLADec
import Rtp.Pred.C19
namespace Rtp.Props.C19
open Rtp Rtp.Spec.VlaSpec Rtp.Model.Vla Rtp.Pred.C19

/-- The statement-by-statement model of Marshal (`marshalGo`: index writes into a zeroed buffer of
    `requiredLen` bytes, panicking where Go would) equals the section model (`marshal`) on every
    input; the theorems below are stated about `marshalGo`, which is what the driver runs. -/
theorem c19_marshal_sections (v : VLA) : marshalGo v = marshal v := marshalGo_eq_marshal v

/-- Marshal of a valid allocation returns exactly the bytes the specification prescribes —
    in particular the buffer it sizes beforehand is filled completely (no surplus byte) and never
    overrun (no panic). -/
theorem c19_encode (v : VLA) (h : v.WF) : marshalGo v = .ok (encode v) := by
  rw [c19_marshal_sections]; exact marshal_eq_encode v h

/-- non-vacuity: the three-stream allocation of TestVLAMarshal (with resolutions), two streams
    with different bitmasks (finding `c19_surplus_byte`) and a paused stream next to an active one
    (finding `c19_shared_bitmask_paused_stream`) are valid,
    and `encode` gives the expected bytes -/
example : (⟨2, 3, [⟨0, 0, [150], 320, 180, 30⟩, ⟨1, 0, [240, 400], 640, 360, 30⟩,
    ⟨2, 0, [720, 1200], 1280, 720, 30⟩], true⟩ : VLA).WF := by decide +kernel
example : encode ⟨2, 3, [⟨0, 0, [150], 320, 180, 30⟩, ⟨1, 0, [240, 400], 640, 360, 30⟩,
    ⟨2, 0, [720, 1200], 1280, 720, 30⟩], true⟩ =
    [0xa1, 0x14, 0x96, 0x01, 0xf0, 0x01, 0x90, 0x03, 0xd0, 0x05, 0xb0, 0x09, 0x01, 0x3f, 0x00, 0xb3, 0x1e,
     0x02, 0x7f, 0x01, 0x67, 0x1e, 0x04, 0xff, 0x02, 0xcf, 0x1e] := by decide +kernel
example : (⟨0, 2, [⟨0, 0, [100], 0, 0, 0⟩, ⟨1, 0, [200], 0, 0, 0⟩, ⟨1, 1, [300], 0, 0, 0⟩], false⟩ : VLA).WF := by
  decide +kernel
example : encode ⟨0, 2, [⟨0, 0, [100], 0, 0, 0⟩, ⟨1, 0, [200], 0, 0, 0⟩, ⟨1, 1, [300], 0, 0, 0⟩], false⟩ =
      [0x10, 0x13, 0x00, 0x64, 0xc8, 0x01, 0xac, 0x02] := by decide +kernel
example : (⟨0, 2, [⟨0, 0, [100], 0, 0, 0⟩], false⟩ : VLA).WF := by decide +kernel
example : encode ⟨0, 2, [⟨0, 0, [100], 0, 0, 0⟩], false⟩ = [0x10, 0x10, 0x00, 0x64] := by decide +kernel

/-- The specification encoder against captured payloads: the remaining vectors of TestVLAUnmarshal
    (two streams with a shared bitmask; a paused middle stream with resolutions; two paused streams)
    decode to valid allocations whose `encode` is the vector again. -/
example : unmarshal default [0x11, 0x10, 0xc8, 0x01, 0xd0, 0x05, 0xb0, 0x09] =
    .ok 8 ⟨0, 2, [⟨0, 0, [200], 0, 0, 0⟩, ⟨1, 0, [720, 1200], 0, 0, 0⟩], false⟩ := by decide +kernel
example : (⟨0, 2, [⟨0, 0, [200], 0, 0, 0⟩, ⟨1, 0, [720, 1200], 0, 0, 0⟩], false⟩ : VLA).WF ∧
    encode ⟨0, 2, [⟨0, 0, [200], 0, 0, 0⟩, ⟨1, 0, [720, 1200], 0, 0, 0⟩], false⟩ =
      [0x11, 0x10, 0xc8, 0x01, 0xd0, 0x05, 0xb0, 0x09] := by decide +kernel
example : encode ⟨1, 3, [⟨0, 0, [150], 320, 180, 30⟩, ⟨2, 0, [720, 1200], 1280, 720, 30⟩], true⟩ =
    [0x60, 0x10, 0x10, 0x10, 0x96, 0x01, 0xd0, 0x05, 0xb0, 0x09, 0x01, 0x3f, 0x00, 0xb3, 0x1e, 0x04, 0xff,
     0x02, 0xcf, 0x1e] := by decide +kernel
example : unmarshal default [0xa0, 0x00, 0x10, 0x40, 0xac, 0x02, 0xf4, 0x03] =
    .ok 8 ⟨2, 3, [⟨2, 0, [300, 500], 0, 0, 0⟩], false⟩ := by decide +kernel
example : (⟨2, 3, [⟨2, 0, [300, 500], 0, 0, 0⟩], false⟩ : VLA).WF ∧
    encode ⟨2, 3, [⟨2, 0, [300, 500], 0, 0, 0⟩], false⟩ = [0xa0, 0x00, 0x10, 0x40, 0xac, 0x02, 0xf4, 0x03] := by decide +kernel
example : unmarshal default [0xa0, 0x00, 0x10, 0x40, 0x94, 0x05, 0xcc, 0x08] =
    .ok 8 ⟨2, 3, [⟨2, 0, [660, 1100], 0, 0, 0⟩], false⟩ := by decide +kernel
example : encode ⟨2, 3, [⟨2, 0, [660, 1100], 0, 0, 0⟩], false⟩ =
    [0xa0, 0x00, 0x10, 0x40, 0x94, 0x05, 0xcc, 0x08] := by decide +kernel

/-- Round trip, for every receiver state: the bytes of a valid allocation whose bitrates are below
    2^56 kbps decode to the same allocation (resolution fields compared when present), and all of
    them are consumed.  The bound is where ReadLeb128 ∘ WriteToLeb128 stops being the identity
    (`Rtp.Model.readLebGo_writeLeb`, Rtp/Proofs/Leb128Go.lean), which the proof uses; the hypothesis
    `hleb` states the same fact and is not needed. -/
theorem c19_roundtrip_partial (hleb : Model.LebGoSpec) (v : VLA) (h : v.WF)
    (hsmall : ∀ l ∈ v.layers, ∀ k ∈ l.rates, k < 2 ^ 56) (r : VLA) :
    unmarshal r (encode v) = .ok (encode v).length v.norm :=
  unmarshal_encode_norm v h hsmall r

/-- the property as worded: every valid allocation, i.e. every non-negative Go `int` bitrate -/
def c19_roundtrip_full : Prop :=
  ∀ (v : VLA), v.WF → ∀ r : VLA, unmarshal r (encode v) = .ok (encode v).length v.norm

/-- … which the code does not meet (open finding `c19_bitrate_2p56`): 2^56 kbps is written as nine
    LEB128 bytes, of which ReadLeb128 keeps the last eight; it comes back as 2^49. -/
theorem c19_roundtrip_witness :
    (⟨0, 1, [⟨0, 0, [72057594037927936], 0, 0, 0⟩], false⟩ : VLA).WF ∧
    encode ⟨0, 1, [⟨0, 0, [72057594037927936], 0, 0, 0⟩], false⟩ =
      [0x01, 0x00, 0x80, 0x80, 0x80, 0x80, 0x80, 0x80, 0x80, 0x80, 0x01] ∧
    ∀ r : VLA, unmarshal r [0x01, 0x00, 0x80, 0x80, 0x80, 0x80, 0x80, 0x80, 0x80, 0x80, 0x01] =
      .ok 11 ⟨0, 1, [⟨0, 0, [562949953421312], 0, 0, 0⟩], false⟩ := by
  refine ⟨by decide +kernel, by decide +kernel, fun r => ?_⟩
  show unmarshal default _ = _
  decide +kernel

/-- so the round trip as worded is false of the code -/
theorem c19_roundtrip_full_false : ¬ c19_roundtrip_full := by
  intro hfull
  obtain ⟨hwf, henc, hdec⟩ := c19_roundtrip_witness
  have := hfull _ hwf default
  rw [henc, hdec default] at this
  revert this
  decide +kernel

/-- The predicate the harness evaluates on the real code (kinds c19.rt / c19.rej) holds of the
    model on every valid allocation outside the region of the open finding. -/
theorem c19_rt_partial (hleb : Model.LebGoSpec) (v r : VLA) (h : v.WF) (hsmall : bigRate v = false) :
    Pred.C19.rt v r (rtModel v r) = true := by
  have hs : ∀ l ∈ v.layers, ∀ k ∈ l.rates, k < 2 ^ 56 := by
    intro l hl k hk
    simp only [bigRate, h, decide_true, Bool.true_and] at hsmall
    rw [Bool.eq_false_iff] at hsmall
    by_cases hc : k < 2 ^ 56
    · exact hc
    · exfalso; apply hsmall
      exact List.any_eq_true.mpr ⟨l, hl, List.any_eq_true.mpr ⟨k, hk, by simp; omega⟩⟩
  simp only [Pred.C19.rt, h, if_true, rtModel, c19_encode v h, c19_roundtrip_partial hleb v h hs r]
  simp

/-- non-vacuity of the round trip: the "3 streams mid paused" vector of TestVLAUnmarshal decodes to
    a valid allocation with a paused stream, per-stream bitmasks and resolutions -/
example : unmarshal default [0x60, 0x10, 0x10, 0x10, 0x96, 0x01, 0xd0, 0x05, 0xb0, 0x09, 0x01, 0x3f, 0x00,
    0xb3, 0x1e, 0x04, 0xff, 0x02, 0xcf, 0x1e] =
    .ok 20 ⟨1, 3, [⟨0, 0, [150], 320, 180, 30⟩, ⟨2, 0, [720, 1200], 1280, 720, 30⟩], true⟩ := by decide +kernel
example : (⟨1, 3, [⟨0, 0, [150], 320, 180, 30⟩, ⟨2, 0, [720, 1200], 1280, 720, 30⟩], true⟩ : VLA).WF ∧
    bigRate ⟨1, 3, [⟨0, 0, [150], 320, 180, 30⟩, ⟨2, 0, [720, 1200], 1280, 720, 30⟩], true⟩ = false := by
  decide +kernel

/-- Unmarshal, for every receiver and every byte string: no index out of range, and the reported
    number of consumed bytes never exceeds what was given (the predicate of kinds c19.dec/dec2). -/
theorem c19_decoder_safe (r : VLA) (bs : Bytes) : Pred.C19.dec bs (unmarshal r bs) = true :=
  unmarshal_safe r bs

/-- Reuse safety: what Unmarshal returns (and leaves in the receiver on success) does not depend
    on what the receiver held before — checked against the real code with receivers that were used
    for earlier decodes or hold arbitrary values. -/
theorem c19_receiver_independent (r r' : VLA) (bs : Bytes) : unmarshal r bs = unmarshal r' bs := rfl

/-- the same, spelled out -/
theorem c19_decoder_safe_spec (r : VLA) (bs : Bytes) :
    unmarshal r bs ≠ .panic ∧
    (∀ n v, unmarshal r bs = .ok n v → n ≤ bs.length) ∧
    (∀ n e, unmarshal r bs = .fail n e → n ≤ bs.length) := by
  have h := c19_decoder_safe r bs
  refine ⟨?_, ?_, ?_⟩
  · intro hp; rw [hp] at h; simp [Pred.C19.dec] at h
  · intro n v hp; rw [hp] at h; simpa [Pred.C19.dec] using h
  · intro n e hp; rw [hp] at h; simpa [Pred.C19.dec] using h

/-- non-vacuity: a truncated resolution block is refused at offset 4 of 6, a LEB128 value that
    never ends at offset 2 of 4 -/
example : unmarshal default [0x01, 0x00, 0x96, 0x01, 0x01, 0x3f] = .fail 4 .tooShort := by decide +kernel
example : unmarshal default [0x01, 0x00, 0x96, 0x81] = .fail 2 .leb := by decide +kernel

/-- Marshal rejects: stream count ∉ 1..4, RID ∉ [0, count), a layer whose stream id ∉ [0, count),
    spatial id ∉ 0..3 or temporal layer count ∉ 1..4, and two layers in the same slot. -/
theorem c19_rejects (v : VLA) (h : mustReject v = true) : ∃ e, marshalGo v = .err e := by
  rw [c19_marshal_sections, marshal_eq, validated]
  split
  · exact ⟨_, rfl⟩
  split
  · exact ⟨_, rfl⟩
  rename_i hc hr
  cases hp : preprocess v.count v.layers [] with
  | some e => exact ⟨e, rfl⟩
  | none =>
    -- everything validation lets through contradicts `mustReject`
    exfalso
    obtain ⟨hall, hpw⟩ := (preprocess_none_iff v.count v.layers []).mp hp
    simp only [mustReject, Bool.or_eq_true, decide_eq_true_eq, List.any_eq_true] at h
    rcases h with ((((h | h) | h) | h) | ⟨l, hl, hb⟩) | h
    · omega
    · omega
    · omega
    · omega
    · have := (hall l hl).1
      unfold LayerOk at this
      simp only [beq_iff_eq] at hb
      omega
    · exact h hpw

/-- the two checks made before the layers are looked at, with the error Marshal returns -/
theorem c19_rejects_count (v : VLA) (h : v.count < 1 ∨ v.count > 4) :
    marshalGo v = .err .streamCount := by
  rw [c19_marshal_sections, marshal_eq, validated, if_pos (by omega)]

theorem c19_rejects_rid (v : VLA) (hc : 1 ≤ v.count ∧ v.count ≤ 4) (h : v.rid < 0 ∨ v.rid ≥ v.count) :
    marshalGo v = .err .streamID := by
  rw [c19_marshal_sections, marshal_eq, validated, if_neg (not_not_intro hc), if_pos (by omega)]

/-- non-vacuity: the literal cases of TestVLAMarshal -/
example : marshalGo ⟨0, 5, [default, default, default, default, default], false⟩ = .err .streamCount := by decide +kernel
example : marshalGo ⟨0, 1, [⟨0, 5, [], 0, 0, 0⟩], false⟩ = .err .spatialID := by decide +kernel
example : marshalGo ⟨0, 1, [⟨0, 0, [100, 200, 300, 400, 500], 0, 0, 0⟩], false⟩ = .err .temporal := by decide +kernel
example : marshalGo ⟨0, 1, [⟨0, 0, [100], 0, 0, 0⟩, ⟨0, 0, [200], 0, 0, 0⟩], false⟩ = .err .duplicate := by decide +kernel

/-- "No surplus bytes", spelled out: the payload of a valid allocation is one header byte, the
    per-stream bitmask block only when there is no shared bitmask (one byte for 1–2 streams, two
    for 3–4), one #tl byte per four layers, the LEB128 bitrates, and five bytes per layer when
    resolutions are present. -/
theorem c19_encode_length (v : VLA) (h : v.WF) :
    ∃ b, marshalGo v = .ok b ∧
      b.length = 1 + (if slBm v = 0 then (ns v + 1) / 2 else 0) + (v.layers.length + 3) / 4 +
        (bitrates v).length + (if v.hasRes then 5 * v.layers.length else 0) := by
  refine ⟨encode v, c19_encode v h, ?_⟩
  rw [encode, if_neg h.2.2.2.2.1, streamMasks, temporalCounts, resolutions]
  simp only [List.length_cons, List.length_append, apply_ite List.length, List.length_nil, packNibbles_length,
    pack2_length, flatMap_resRecord_length, List.length_map, List.length_range, Nat.mul_comm _ 5]
  omega

/-- The format is unambiguous on valid allocations: equal payloads come from equal allocations
    (a consequence of the round trip). -/
theorem c19_encode_injective (hleb : Model.LebGoSpec) (v w : VLA) (hv : v.WF) (hw : w.WF)
    (hvs : ∀ l ∈ v.layers, ∀ k ∈ l.rates, k < 2 ^ 56) (hws : ∀ l ∈ w.layers, ∀ k ∈ l.rates, k < 2 ^ 56)
    (he : encode v = encode w) : v.norm = w.norm := by
  have h1 := c19_roundtrip_partial hleb v hv hvs default
  have h2 := c19_roundtrip_partial hleb w hw hws default
  rw [he, h2] at h1
  injection h1 with _ h
  exact h.symm

/-- Outside `VLA.WF`: an allocation without active layers.  The code writes the header byte, the
    zero bitmask byte(s) and one zero #tl byte, and reads that back (so it round-trips in its own
    format, for every RID and stream count); the specification text prescribes the single byte 0
    for "nothing sent", which the code neither writes nor accepts.  Recorded as an interpretation
    (see obligations.d/vla.json), not as a violation: under the specification's encoding RID and NS
    could not round-trip at all. -/
theorem c19_empty_allocation :
    ∀ (count : Fin 4) (rid : Fin 4), rid.val ≤ count.val →
      marshalGo ⟨(rid.val : Int), ((count.val + 1 : Nat) : Int), [], false⟩ =
        .ok ((64 * rid.val + 16 * count.val).toUInt8 :: List.replicate (2 + count.val / 2) 0) ∧
      unmarshal default ((64 * rid.val + 16 * count.val).toUInt8 :: List.replicate (2 + count.val / 2) 0) =
        .ok (3 + count.val / 2) ⟨(rid.val : Int), ((count.val + 1 : Nat) : Int), [], false⟩ ∧
      encode ⟨(rid.val : Int), ((count.val + 1 : Nat) : Int), [], false⟩ = [0] ∧
      unmarshal default [0] = .fail 1 .tooShort := by
  decide +kernel

/-- Everything Unmarshal accepts, from any byte string, is well-formed in all but two respects:
    1–4 streams, layers in strictly ascending (stream, spatial id) order with ids in range and 1–4
    temporal layers, resolution fields representable (or zero when the block is absent).  Not
    guaranteed: RID below the stream count (the two header fields are independent bits) and
    non-negative bitrates (a ten-byte LEB128 value can exceed 2^63). -/
theorem c19_decoded_shape (r : VLA) (bs : Bytes) (n : Nat) (v : VLA) (h : unmarshal r bs = .ok n v) :
    Decoded v := unmarshal_decoded r bs n v h

/-- … so a decoded allocation whose RID is below its stream count is accepted by Marshal again. -/
theorem c19_decoded_remarshals (r : VLA) (bs : Bytes) (n : Nat) (v : VLA) (h : unmarshal r bs = .ok n v)
    (hr : v.rid < v.count) : ∃ b, marshalGo v = .ok b :=
  decoded_marshals v (unmarshal_decoded r bs n v h) hr

/-- non-vacuity, and the one asymmetry: header byte 0xC1 is RID 3 of 1 stream — Unmarshal accepts
    it, Marshal refuses to write it -/
example : unmarshal default [0xC1, 0x00, 0x05] = .ok 3 ⟨3, 1, [⟨0, 0, [5], 0, 0, 0⟩], false⟩ := by decide +kernel
example : marshalGo ⟨3, 1, [⟨0, 0, [5], 0, 0, 0⟩], false⟩ = .err .streamID := by decide +kernel

/-- A by-product: the `checkRemainingLen(in)` after ReadLeb128 in unmarshalTemporalLayers is dead
    code (ReadLeb128 never reports more bytes than its slice holds); the harness never reaches its
    body either (statement coverage of vlaextension.go is otherwise complete). -/
theorem c19_leb_length_check_dead (bs : Bytes) (todo : List Int) (off o : Nat) (h : off ≤ bs.length) :
    rdRates bs todo off ≠ .fail o .tooShort := rdRates_never_tooShort bs todo off o h

/-- Marshal never panics, whatever the allocation (valid, rejected, or accepted though not valid:
    unsorted layers, negative bitrates, out-of-range resolutions): once validation has passed, the
    buffer it sizes is filled exactly. -/
theorem c19_marshal_total (v : VLA) : marshalGo v ≠ .panic := by
  rw [c19_marshal_sections]; exact marshal_ne_panic v

/-- The predicate of kinds c19.rt / c19.rej holds of the model on EVERY input outside the region
    of the open finding: valid allocations encode per spec and round-trip, allocations that must be
    rejected are rejected, and nothing panics on the rest. -/
theorem c19_rt (hleb : Model.LebGoSpec) (v r : VLA) (hsmall : bigRate v = false) :
    Pred.C19.rt v r (rtModel v r) = true := by
  by_cases h : v.WF
  · exact c19_rt_partial hleb v r h hsmall
  · by_cases hm : mustReject v = true
    · obtain ⟨e, he⟩ := c19_rejects v hm
      simp [Pred.C19.rt, h, hm, rtModel, he, isErr]
    · have hp := c19_marshal_total v
      simp only [Pred.C19.rt, h, if_false, hm, Bool.false_eq_true, rtModel]
      cases hmv : marshalGo v with
      | panic => exact absurd hmv hp
      | err e => simp
      | ok b =>
        have := (c19_decoder_safe_spec r b).1
        simp [this]

end Rtp.Props.C19
