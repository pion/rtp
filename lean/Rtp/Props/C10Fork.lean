/-
  Rtp/Props/C10Fork.lean — C10 on FORKED histories (kind `c10.rtfork`): an H264Payloader struct copied
  by value in the middle of a stream gives two payloaders each of which, looked at on its own, is an
  ordinary payloader — the round trip of C10 holds of each copy for the calls it has received over
  its life (those made before the copy, then its own).

  The model state is an immutable value, so the model of a fork (`rtForkModel`) runs the calls before
  the fork ONCE and continues both lanes from the state reached there; `c10_fork_lane` says that
  this is the same as running each lane alone, `c10_fork_pred` that the predicate the driver
  evaluates on the real code holds of it, for every prefix, fork point and pair of continuations.
-/
import Rtp.Props.C10
import Rtp.Model.H264Fork
namespace Rtp.Props.C10.Fork
open Rtp Rtp.Pred Rtp.Model.H264 Rtp.Model.H264.Obs Rtp.Model.H264.Fork Rtp.Spec.Rfc6184

/-- a history continued from the state (payloader AND receiver) another history ended in is the
    history of the concatenated calls: for every initial state -/
theorem rtCalls_append (disable avc : Bool) (st : PayState) (buf : Bytes) (xs ys : List C10.RtCall) :
    rtCalls disable avc st buf (xs ++ ys) =
      rtCalls disable avc st buf xs ++
        rtCalls disable avc (rtAfter disable avc st buf xs).1 (rtAfter disable avc st buf xs).2 ys := by
  induction xs generalizing st buf with
  | nil => simp [rtCalls, rtAfter]
  | cons c cs ih => simp [rtCalls, rtAfter, ih]

/-- For every prefix `pre`, and every continuation `cont` run from the payloader and
    receiver state the prefix ended in (the state BOTH copies start from), the observations of the
    prefix followed by those of the continuation are the observations of ONE never-copied payloader
    given `pre ++ cont` — whatever the other copy is given in the meantime. -/
theorem c10_fork_lane (i : RtForkInput) :
    (rtForkModel i).lane0 = rtModel (i.view 0) ∧ (rtForkModel i).lane1 = rtModel (i.view 1) := by
  simp [rtForkModel, rtModel, RtForkInput.view, rtCalls_append]

/-- The predicate of `c10.rt` (no panic, RFC 6184 shape, heads, STAP-A aggregation,
    lossless round trip on well-formed streams) holds of EACH lane of every forked history: every
    prefix, every fork point, every two continuations, any interleaving of the two lanes' calls. -/
theorem c10_fork_pred (i : RtForkInput) :
    C10.rtOk (i.view 0) (rtForkModel i).lane0 = true ∧ C10.rtOk (i.view 1) (rtForkModel i).lane1 = true := by
  obtain ⟨h0, h1⟩ := c10_fork_lane i
  rw [h0, h1]
  exact ⟨c10_rt_pred _, c10_rt_pred _⟩

/-- spelled out with `c10_lossless`: when the units a copy has been given over its life (before and
    after the fork) are well formed and their parameter sets paired, its receiver reproduces exactly
    those units minus AUD/filler, in order -/
theorem c10_fork_lossless (i : RtForkInput) (k : Nat) (hw : HistWF (i.view k).calls)
    (hp : i.disable = true ∨ paired ((i.view k).calls.flatMap C10.RtCall.nals) = true) :
    (run i.avc [] (fragsCalls i.disable {} i.pre ++
        fragsCalls i.disable (rtAfter i.disable i.avc {} [] i.pre).1 (i.cont k))).1.flatMap C10.resBytes =
      frame i.avc (((i.view k).calls.flatMap C10.RtCall.nals).filter (fun n => !isDropped n)) := by
  have happ : ∀ (st : PayState) (buf : Bytes) (xs ys : List C10.RtCall),
      fragsCalls i.disable st (xs ++ ys) =
        fragsCalls i.disable st xs ++ fragsCalls i.disable (rtAfter i.disable i.avc st buf xs).1 ys := by
    intro st buf xs ys
    induction xs generalizing st buf with
    | nil => simp [fragsCalls, rtAfter]
    | cons c cs ih => simp [fragsCalls, rtAfter, ← ih]
  have := c10_lossless i.disable i.avc (i.view k).calls hw hp
  simpa [payloads, RtForkInput.view, happ {} []] using this

/-- non-vacuity: SPS and PPS are held back when the struct is copied (one call before the fork);
    copy 0 is given an IDR slice, copy 1 a P slice (interleaved 1, 0); each sends the STAP-A with
    the parameter sets in front of its own slice -/
def exampleFork : RtForkInput :=
  { disable := false, avc := false, fork := 1,
    calls := [(0, { mtu := 1200, bare := false, units := [(true, [0x67, 1, 2]), (false, [0x68, 3])] }),
              (1, { mtu := 1200, bare := false, units := [(false, [0x41, 9])] }),
              (0, { mtu := 1200, bare := false, units := [(true, [0x65, 7, 8])] })] }

example : (C10.RtInput.wf (exampleFork.view 0) && C10.RtInput.wf (exampleFork.view 1)) = true := by decide
example : (rtForkModel exampleFork).lane0.pkts.map (·.payload) =
    [[0x78, 0, 3, 0x67, 1, 2, 0, 2, 0x68, 3], [0x65, 7, 8]] := by decide +kernel
example : (rtForkModel exampleFork).lane1.pkts.map (·.payload) =
    [[0x78, 0, 3, 0x67, 1, 2, 0, 2, 0x68, 3], [0x41, 9]] := by decide +kernel

/-- copy 0 sending an SPS overwritten by the other copy's (what sharing the retained slices would do): refused -/
example : C10.rtOk (exampleFork.view 0)
    { panicked := false,
      calls := [[], [{ payload := [0x78, 0, 3, 0x67, 0xEE, 2, 0, 2, 0x68, 3], head := true,
                       res := .ok [0, 0, 0, 1, 0x67, 0xEE, 2, 0, 0, 0, 1, 0x68, 3] },
                     { payload := [0x65, 7, 8], head := true, res := .ok [0, 0, 0, 1, 0x65, 7, 8] }]] } = false := by
  decide +kernel

end Rtp.Props.C10.Fork
