/-
  Rtp/Props/C18.lean — C18: NTP time mapping and send-time estimation recover the original instant.
  Property theorems only; helper lemmas live in Rtp/Proofs/Ntp.lean.

  Instants and durations are `Int64` nanoseconds (what crosses the harness boundary as
  `time.Unix(0, ns)` / `.UnixNano()` / `time.Duration`); the ranges are exactly those of the property
  text (Rtp/Pred/C18.lean).
-/
import Rtp.Proofs.Ntp
import Rtp.Props.C17
namespace Rtp.Props.C18
open Rtp Rtp.Model.Ntp Rtp.Model.ExtCodecs Rtp.Pred.C18 Rtp.Pred.C17 Rtp.Spec.ExtLayouts Rtp.Proofs.Ntp Rtp.Proofs.ExtCodecs

/-- the shape of the three driver predicates: nothing is claimed outside the range `wf` -/
theorem guarded (wf inner : Bool) (h : wf = true → inner = true) : (!wf || inner) = true := by
  cases wf with
  | false => rfl
  | true => exact h rfl

/-- every instant from 1970-01-01 up to the end of the NTP era:
    `NewAbsCaptureTimeExtension(t).CaptureTime()` is `t` or `t − 1 ns` -/
theorem c18_capture_spec (t : Int64) (h : instantOk t.toInt = true) :
    0 ≤ t.toInt - (captureTime (captureTimestamp t)).toInt ∧
    t.toInt - (captureTime (captureTimestamp t)).toInt ≤ 1 := by
  rw [capture_eq t h]
  have := down_up t.toInt.toNat
  rw [instantOk_iff] at h
  omega

/-- the predicate the driver evaluates on the real code holds of the model, for every `int64` instant -/
theorem c18_capture (t : Int64) :
    captureOk t ⟨captureTimestamp t, captureTime (captureTimestamp t)⟩ = true := by
  simp only [captureOk]
  refine guarded _ _ fun h => ?_
  have := c18_capture_spec t h
  simp only [capture, Bool.and_eq_true, decide_eq_true_eq]
  omega

/-- non-vacuity: 2019-03-27 13:39:30.008675309 -05:00 (a value of TestNtpConversion) maps to the NTP
    time pinned by the test and comes back one nanosecond early; the last nanosecond of the era is in range -/
example : captureTimestamp 1553711970008675309 = 0xe04641e202388b88 ∧
    captureTime 0xe04641e202388b88 = 1553711970008675308 ∧
    instantOk (1553711970008675309 : Int64).toInt = true ∧
    instantOk (2085978495999999999 : Int64).toInt = true ∧ instantOk (2085978496000000000 : Int64).toInt = false := by
  decide +kernel

/-- every send instant of the era and every delay in [0, 64 s − 2^-18 s): `Estimate(send + delay)` applied to
    the 24-bit abs-send-time of the send instant is the send instant rounded down to the field's grid —
    at most 3815 ns (⌈2^-18 s⌉) early, never late — whether or not the field wrapped in between, and
    also when the receive instant lies beyond the end of the NTP era -/
theorem c18_estimate_spec (send delay : Int64) (h : estimateWF send delay = true) :
    0 ≤ send.toInt - (estimateNs (sendTimestamp send &&& 0xFFFFFF) (send + delay)).toInt ∧
    send.toInt - (estimateNs (sendTimestamp send &&& 0xFFFFFF) (send + delay)).toInt ≤ 3815 := by
  rw [estimateNs_eq_gridNs send delay h]
  have := gridNs_bounds send.toInt.toNat
  simp only [estimateWF, Bool.and_eq_true, instantOk_iff] at h
  omega

/-- the estimate does not depend on the delay: any two receive instants in range of the same send instant
    (before or after a wrap of the field) yield the same result -/
theorem c18_estimate_independent_of_delay (send d1 d2 : Int64)
    (h1 : estimateWF send d1 = true) (h2 : estimateWF send d2 = true) :
    estimateNs (sendTimestamp send &&& 0xFFFFFF) (send + d1) = estimateNs (sendTimestamp send &&& 0xFFFFFF) (send + d2) :=
  Int64.toInt_inj.mp (by rw [estimateNs_eq_gridNs send d1 h1, estimateNs_eq_gridNs send d2 h2])

/-- the predicate the driver evaluates on the real code holds of the model, for every pair of `int64`s -/
theorem c18_estimate (send delay : Int64) :
    estimateOk send delay
      ⟨sendTimestamp send &&& 0xFFFFFF, estimateNs (sendTimestamp send &&& 0xFFFFFF) (send + delay)⟩ = true := by
  simp only [estimateOk]
  refine guarded _ _ fun h => ?_
  have := c18_estimate_spec send delay h
  simp only [Pred.C18.estimate, Bool.and_eq_true, decide_eq_true_eq]
  omega

/-- non-vacuity: the two cases of TestAbsSendTimeExtension_Estimate ("not carried", "carried during
    transmission": send 63.99… s into a period, receive 1 s later) as Unix nanoseconds, the largest
    admissible delay, and the first inadmissible one -/
example : estimateWF 488365200000000000 3000000 = true ∧
    estimateNs (sendTimestamp 488365200000000000 &&& 0xFFFFFF) (488365200000000000 + 3000000) = 488365200000000000 ∧
    estimateWF 488365246999999999 1000000001 = true ∧
    estimateNs (sendTimestamp 488365246999999999 &&& 0xFFFFFF) (488365246999999999 + 1000000001)
      = 488365246999996185 ∧
    estimateWF 0 63999996185 = true ∧ estimateWF 0 63999996186 = false := by
  decide +kernel

/-- every offset of magnitude below 2^31 s: the duration recovered by `EstimatedCaptureClockOffsetDuration`
    from the Q32.32 value stored by `NewAbsCaptureTimeExtensionWithCaptureClockOffset` is the given one or
    one nanosecond closer to zero; the sign is never flipped -/
theorem c18_offset_spec (d : Int64) (h : offsetOk d.toInt = true) :
    (0 ≤ d.toInt → 0 ≤ (decodeOffset (encodeOffset d)).toInt ∧ (decodeOffset (encodeOffset d)).toInt ≤ d.toInt ∧
        d.toInt - (decodeOffset (encodeOffset d)).toInt ≤ 1) ∧
    (d.toInt < 0 → (decodeOffset (encodeOffset d)).toInt ≤ 0 ∧ d.toInt ≤ (decodeOffset (encodeOffset d)).toInt ∧
        (decodeOffset (encodeOffset d)).toInt - d.toInt ≤ 1) := by
  rw [offset_roundtrip d h]
  have := down_up d.toInt.natAbs
  split <;> omega

theorem offset_within (d : Int64) (h : offsetOk d.toInt = true) :
    Pred.C18.offset d.toInt (decodeOffset (encodeOffset d)).toInt = true := by
  have := c18_offset_spec d h
  simp only [Pred.C18.offset, Bool.and_eq_true, Bool.or_eq_true, Bool.not_eq_true', decide_eq_true_eq,
    decide_eq_false_iff_not]
  omega

/-- the predicate the driver evaluates on the real code holds of the model, for every `int64` duration -/
theorem c18_offset (d : Int64) :
    offsetOkObs d ⟨encodeOffset d, decodeOffset (encodeOffset d), some (decodeOffset (encodeOffset d))⟩ = true := by
  simp only [offsetOkObs]
  exact guarded _ _ (offset_within d)

/-- non-vacuity: the two offsets of TestAbsCaptureTimeExtension_Roundtrip come back exactly, 1 ns is lost
    (0x00000000_00000004 → 0 ns), the bounds of the range are as stated -/
example : decodeOffset (encodeOffset 1250000000) = 1250000000 ∧ decodeOffset (encodeOffset (-250000000)) = -250000000 ∧
    encodeOffset 1 = 4 ∧ decodeOffset 4 = 0 ∧
    offsetOk (2147483647999999999 : Int64).toInt = true ∧ offsetOk (-2147483647999999999 : Int64).toInt = true ∧
    offsetOk (2147483648000000000 : Int64).toInt = false := by
  decide +kernel

/-! ### what the three conversions compute, for ALL 64-bit arguments (wrap-around included)

  Written with literals: 4294967296 = 2^32, 18446744073709551616 = 2^64, 262144 = 2^18, 16777216 = 2^24,
  18446744071500562816 = 2^64 − 2208988800 (subtracting the epoch offset modulo 2^64). -/

/-- `toNtpTime`: the instant in units of 2^-32 s, rounded down, plus the 1900→1970 offset, modulo 2^64 -/
theorem c18_toNtp_is_floor (u : UInt64) :
    (toNtpTime u).toNat =
      (u.toNat * 4294967296 / 1000000000 + 2208988800 * 4294967296) % 18446744073709551616 :=
  (toNtpTime_toNat u).trans (ntpNat_eq _)

/-- `toTime`: the NTP time in nanoseconds, rounded down, minus the offset, modulo 2^64 -/
theorem c18_toTime_is_floor (t : UInt64) :
    (toTime t).toNat =
      (t.toNat * 1000000000 / 4294967296 + 18446744071500562816 * 1000000000) % 18446744073709551616 :=
  (toTime_toNat t).trans (timeNat_eq _)

/-- the 24 bits that `NewAbsSendTimeExtension(t)` puts on the wire: the instant as a 6.18 fixed-point
    number of seconds, rounded down, modulo 64 s (the epoch offset is a multiple of 64 s and drops out) -/
theorem c18_abs_send_time_is_6_18 (u : UInt64) :
    (newAbsSendTime u &&& 0xFFFFFF).toNat = u.toNat * 262144 / 1000000000 % 16777216 :=
  abs_send_time_floor u

/-! ### the stated ranges and tolerances are tight -/

/-- the tolerance 3815 ns is attained (so 3814 ns, i.e. ⌊2^-18 s⌋, would be false), with no delay at all -/
theorem c18_estimate_tolerance_attained :
    estimateWF 1700000000000007629 0 = true ∧
    (1700000000000007629 : Int64).toInt -
      (estimateNs (sendTimestamp 1700000000000007629 &&& 0xFFFFFF) (1700000000000007629 + 0)).toInt = 3815 := by
  decide +kernel

/-- one nanosecond beyond the delay range the estimate can be a whole period (64 s) off -/
theorem c18_estimate_delay_bound_tight :
    delayOk 63999996185 = true ∧ delayOk 63999996186 = false ∧
    estimateNs (sendTimestamp 1700000000000003814 &&& 0xFFFFFF) (1700000000000003814 + 63999996186)
      = 1700000064000000000 := by
  decide +kernel

/-- at the end of the era the timestamp's seconds wrap: the first instant outside the range comes back as
    the 1900 epoch expressed in Unix time, 136 years off -/
theorem c18_capture_era_bound_tight :
    instantOk (2085978496000000000 : Int64).toInt = false ∧ captureTimestamp 2085978496000000000 = 0 ∧
    captureTime (captureTimestamp 2085978496000000000) = -2208988800000000000 := by
  decide +kernel

/-- at 2^31 s the seconds of the offset reach the sign bit of the Q32.32 value: −2^31 s, and 2^31 s + 1 ns,
    come back with the opposite sign -/
theorem c18_offset_bound_tight :
    offsetOk (-2147483648000000000 : Int64).toInt = false ∧
    decodeOffset (encodeOffset (-2147483648000000000)) = 2147483648000000000 ∧
    offsetOk (2147483648000000001 : Int64).toInt = false ∧
    decodeOffset (encodeOffset 2147483648000000001) = -2147483647999999999 := by
  decide +kernel

/-! ### the same through the wire (Marshal, then Unmarshal into any receiver): C17 ∘ C18 -/

/-- what arrives of `NewAbsSendTimeExtension(send)`: its low 24 bits -/
theorem abssend_wire (ts : UInt64) (r : AbsSendTime) :
    ∃ b, absSendMarshal ⟨ts⟩ = .ok b ∧ absSendUnmarshal r b = ⟨.ok (), ⟨ts &&& 0xFFFFFF⟩⟩ := by
  refine ⟨_, absSend_marshal_layout ts, ?_⟩
  have hm := u64_and_mask ts 0xFFFFFF 24 rfl
  have hlt : ts &&& 0xFFFFFF < 16777216 := by
    rw [UInt64.lt_iff_toNat_lt, hm]
    exact Nat.mod_lt _ (by decide)
  have e : (ts &&& 0xFFFFFF).toNat % 2 ^ 24 = ts.toNat % 2 ^ 24 := by
    rw [hm, Nat.mod_mod]
  rw [← e]
  exact absSend_facts.roundtrip ⟨ts &&& 0xFFFFFF⟩ r (decide_eq_true hlt)

/-- the estimate, computed from the abs-send-time that arrives -/
theorem c18_estimate_wire (send delay : Int64) (r : AbsSendTime) (h : estimateWF send delay = true) :
    ∃ b, absSendMarshal ⟨sendTimestamp send⟩ = .ok b ∧ (absSendUnmarshal r b).res = .ok () ∧
      0 ≤ send.toInt - (estimateNs (absSendUnmarshal r b).st.ts (send + delay)).toInt ∧
      send.toInt - (estimateNs (absSendUnmarshal r b).st.ts (send + delay)).toInt ≤ 3815 := by
  obtain ⟨b, hb, hu⟩ := abssend_wire (sendTimestamp send) r
  refine ⟨b, hb, ?_⟩
  rw [hu]
  exact ⟨rfl, c18_estimate_spec send delay h⟩

/-- the capture time, read from the abs-capture-time that arrives -/
theorem c18_capture_wire (t : Int64) (r : AbsCaptureTime) (h : instantOk t.toInt = true) :
    ∃ b, absCaptureMarshal ⟨captureTimestamp t, none⟩ = .ok b ∧ (absCaptureUnmarshal r b).res = .ok () ∧
      0 ≤ t.toInt - (captureTime (absCaptureUnmarshal r b).st.ts).toInt ∧
      t.toInt - (captureTime (absCaptureUnmarshal r b).st.ts).toInt ≤ 1 := by
  refine ⟨_, absCapture_facts.layout ⟨captureTimestamp t, none⟩ rfl, ?_⟩
  rw [show absCaptureUnmarshal r _ = _ from absCapture_facts.roundtrip ⟨captureTimestamp t, none⟩ r rfl]
  exact ⟨rfl, c18_capture_spec t h⟩

/-- the clock offset that arrives with the capture time -/
theorem c18_offset_wire (t d : Int64) (r : AbsCaptureTime) (h : offsetOk d.toInt = true) :
    ∃ b, absCaptureMarshal ⟨captureTimestamp t, some (encodeOffset d)⟩ = .ok b ∧
      (absCaptureUnmarshal r b).res = .ok () ∧
      ∃ o, (absCaptureUnmarshal r b).st.off = some o ∧ Pred.C18.offset d.toInt (decodeOffset o).toInt = true := by
  refine ⟨_, absCapture_facts.layout ⟨captureTimestamp t, some (encodeOffset d)⟩ rfl, ?_⟩
  rw [show absCaptureUnmarshal r _ = _ from
    absCapture_facts.roundtrip ⟨captureTimestamp t, some (encodeOffset d)⟩ r rfl]
  exact ⟨rfl, _, rfl, offset_within d h⟩
end Rtp.Props.C18
