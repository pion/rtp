/-
  Rtp/Props/C20.lean — C20: Clone returns an equal, fully independent copy.

  The value model works on immutable values, so `pktClone p = p` and "a mutation of one value does
  not change another value" hold by the nature of that model; the theorems of the first part record
  exactly that and are short.  What C20 adds — that the two *Go* values share no memory — cannot be
  a theorem about values: it is OBSERVED on the real code by the kind `c20.clone` (pointer ranges
  of the CSRC, Payload, []Extension and extension-payload backing arrays, and the untouched side's
  fields and serialisation after each of the five mutations, in both directions).  The first part
  says what that observation must look like (`modelObs`) and that such an observation satisfies
  the predicate.  The second part (section `Memory`) models the allocations of Clone over an
  explicit heap (Rtp/Model/CloneMem.lean) and proves there that the clone shares nothing with the
  original, and independence from that.
-/
import Rtp.Pred.C20
import Rtp.Proofs.CloneMem
namespace Rtp.Props.C20
open Rtp Rtp.Model Rtp.Pred.C20

/-- Packet.Clone / Header.Clone return a value equal in every field (padding size, the deprecated
    PayloadOffset and the raw `ExtensionProfile` included), with the nil-ness of empty element
    payloads preserved (the one nil-ness `Pred.C20.equal` demands) — for every packet description. -/
theorem c20_equal (x : Input) : equal x (modelObs x) = true := by
  simp [equal, modelObs, pktCloneD, hdrCloneD, pktClone, hdrClone]

/-- in the model nothing is shared (a constant of the model, see the header comment) -/
theorem c20_disjoint (x : Input) : disjoint (modelObs x) = true := by
  simp [disjoint, modelObs]

/-- the side that is not mutated reports the original fields and serialises as before -/
theorem c20_independent (x : Input) : independent x (modelObs x) = true := by
  cases h : x.onClone <;> simp [independent, modelObs, pktCloneD, hdrCloneD, pktClone, hdrClone, h]

/-- the main theorem, in the shape of the run-time check -/
theorem c20_clone (x : Input) : pred x (modelObs x) = true := by
  simp only [pred, c20_equal, c20_disjoint, c20_independent, Bool.and_self]

/-- spelled out on values: clone `p`, then apply any single mutation `m` to one side; the other side
    still equals `p` as it was and serialises identically — in both directions. -/
theorem c20_mutation (p : Packet) (m : Mut) :
    (scenario p m true).1 = p ∧ pktMarshal (scenario p m true).1 = pktMarshal p ∧
    (scenario p m false).2 = p ∧ pktMarshal (scenario p m false).2 = pktMarshal p := by
  simp [scenario, pktClone]

/-- Header.Clone on its own -/
theorem c20_header_clone (h : Header) : hdrClone h = h := rfl

/-! ### non-vacuity: a fully populated packet; each of the five mutations really changes the
    value it is applied to (so "the other side is unchanged" is not about no-ops) -/

def ex : Packet :=
  { header := { version := 2, padding := true, extension := true, marker := true, payloadType := 111,
                seq := 65535, ts := 0xFFFFFFFF, ssrc := 0x01020304, csrc := [1, 2, 3],
                extProfile := 0xBEDE, exts := [{ id := 1, payload := [0xAA] }, { id := 2, payload := [0xBB, 0xCC] }] },
    payload := [1, 2, 3, 4, 5], paddingSize := 3 }

example : Pred.C01.wfP ex = true := by decide +kernel
example : applyMut (.payloadByte 4) ex ≠ ex := by decide +kernel
example : applyMut (.csrcEntry 2) ex ≠ ex := by decide +kernel
example : applyMut (.extByte 1 1) ex ≠ ex := by decide +kernel
example : applyMut (.setExt 3 [9]) ex ≠ ex := by decide +kernel
example : applyMut (.setExt 2 [9, 9]) ex ≠ ex := by decide +kernel
example : applyMut (.delExt 1) ex ≠ ex := by decide +kernel
example : pktMarshal (applyMut (.delExt 1) ex) ≠ pktMarshal ex := by decide +kernel
example : (scenario ex (.delExt 1) false).1 ≠ (scenario ex (.delExt 1) false).2 := by decide +kernel
example : (modelObs { p := ex, po := 12, nils := { csrc := false, payload := false, exts := false, extPl := [false, false] },
                      mutn := .delExt 1, onClone := true }).otherMarshal = pktMarshal ex := rfl  -- by the definition of `modelObs`

/-! ### the deprecated fields `Packet.Raw` / `Header.PayloadOffset` set by hand

  The theorems above already quantify over them (`x.raw`, `x.po` are fields of `Input`).  The
  ones below say how: they are irrelevant to everything C20 speaks of. -/

/-- Clone ignores the deprecated pair: whatever `Raw` and `PayloadOffset` the original carries, the
    observation differs from the one with `Raw = nil`, `PayloadOffset = 0` in the clone's
    `PayloadOffset` (copied: `clonePO` for Packet.Clone, `hPO` for Header.Clone) and nowhere else;
    in particular the clone's `Raw` is nil. -/
theorem c20_clone_ignores_raw (x : Input) (raw : Option Bytes) (po : Nat) :
    modelObs { x with raw := raw, po := po } =
      { modelObs { x with raw := none, po := 0 } with clonePO := po, hPO := po } ∧
    (modelObs { x with raw := raw, po := po }).cloneRaw = none := by
  constructor <;> rfl

/-- on the whole state of a packet variable: the clone's value, its serialisation and its size do
    not depend on the original's `Raw` / `PayloadOffset`; `PayloadOffset` is copied, `Raw` dropped -/
theorem c20_cloneD (p : Packet) (d : Deprecated) :
    (pktCloneD { pkt := p, dep := d }).pkt = p ∧
    (pktCloneD { pkt := p, dep := d }).dep = { raw := none, payloadOffset := d.payloadOffset } ∧
    pktMarshalD (pktCloneD { pkt := p, dep := d }) = pktMarshal p ∧
    pktMarshalSizeD (pktCloneD { pkt := p, dep := d }) = pktMarshalSize p ∧
    pktMarshalD { pkt := p, dep := d } = pktMarshal p :=
  ⟨rfl, rfl, rfl, rfl, rfl⟩

/-- the predicate the run-time check evaluates holds for every `Raw` / `PayloadOffset` (spelled
    out from `c20_clone`; the predicate does not read `cloneRaw`) -/
theorem c20_clone_any_raw (x : Input) (raw : Option Bytes) (po : Nat) :
    pred { x with raw := raw, po := po } (modelObs { x with raw := raw, po := po }) = true :=
  c20_clone _

/-- non-vacuity: `Raw` = the 44-byte datagram `ex` was decoded from, `PayloadOffset` = its header
    size 36 — the padded payload is NOT `Raw[PayloadOffset:]` (that still holds the 3 padding octets) -/
example : pktMarshalSize ex = 44 ∧ hdrMarshalSize ex.header = 36 := by decide +kernel
example : (match pktMarshal ex with | .ok raw => raw.drop 36 != ex.payload | _ => false) = true := by decide +kernel
example : (match pktMarshal ex with
    | .ok raw => (modelObs { p := ex, po := 36, raw := some raw, nils := default, mutn := .payloadByte 0, onClone := true }).clone
                   == Side.of ex
    | _ => false) = true := by decide +kernel

/-! ## Clone over an explicit heap (Rtp/Model/CloneMem.lean)

  The theorems above are about values.  The ones below are about MEMORY: slices are addresses of
  backing arrays, `clone := h` copies slice headers (so it shares), `make`+`copy` allocates.  They
  say that Clone as written in packet.go replaces every shared slice by a fresh one, and derive
  independence from disjointness (a frame argument) instead of from immutability.  The model of
  the allocation structure is tied to the real code by the pointer-overlap flags of `c20.clone`. -/

section Memory
open Rtp.Model.Mem Rtp.Proofs.CloneMem

/-- equal: the clone reads as the original (all fields, nil-ness of CSRC / Payload / Extensions /
    element payloads included), and cloning does not disturb the original -/
theorem c20_mem_equal (H : Heap) (p : PacketM) (hok : okPacket H p) :
    readPacket (pktCloneM H p).1 (pktCloneM H p).2 = readPacket H p ∧
    nilsOf (pktCloneM H p).1 (pktCloneM H p).2 = nilsOf H p ∧
    readPacket (pktCloneM H p).1 p = readPacket H p ∧
    nilsOf (pktCloneM H p).1 p = nilsOf H p := by
  obtain ⟨X, p', e, hc⟩ := pktCloneM_spec H p hok
  obtain ⟨f1, f2, _⟩ := readPacket_append X (okPacket_lt hok)
  rw [e]
  exact ⟨hc.read, hc.nils, f1, f2⟩

/-- disjoint: every backing array the clone reaches (CSRC, Payload, the []Extension array, every
    element payload) was allocated by Clone; none is reachable from the original -/
theorem c20_mem_disjoint (H : Heap) (p : PacketM) (hok : okPacket H p) :
    (∀ a ∈ reachPacket (pktCloneM H p).1 (pktCloneM H p).2, H.length ≤ a) ∧
    (∀ a ∈ reachPacket (pktCloneM H p).1 p, a < H.length) ∧
    (∀ a, a ∈ reachPacket (pktCloneM H p).1 (pktCloneM H p).2 → a ∈ reachPacket (pktCloneM H p).1 p → False) := by
  obtain ⟨X, p', e, hc⟩ := pktCloneM_spec H p hok
  obtain ⟨_, _, f3⟩ := readPacket_append X (okPacket_lt hok)
  rw [e]
  simp only [f3]
  have h1 : ∀ a ∈ reachPacket (H ++ X) p', H.length ≤ a := fun a ha => (hc.fresh a ha).1
  have h2 := okPacket_lt hok
  exact ⟨h1, h2, fun a ha hb => by have := h1 a ha; have := h2 a hb; omega⟩

/-- independent: let `H''` be ANY later memory that differs from the one after cloning only in
    cells the CLONE reaches or in cells allocated later (the hypothesis is `Confined` of
    Rtp/Proofs/CloneMem.lean written out) — this covers setting a payload byte, a CSRC entry, an
    extension value byte, and SetExtension / DelExtension (which write into, or reallocate, the
    clone's own []Extension array).  Then the original still reads, and serialises, as before.
    And the same with the roles exchanged. -/
theorem c20_mem_independent (H : Heap) (p : PacketM) (hok : okPacket H p) (H'' : Heap) :
    ((∀ a, a < (pktCloneM H p).1.length → a ∉ reachPacket (pktCloneM H p).1 (pktCloneM H p).2 →
        H''[a]? = (pktCloneM H p).1[a]?) →
      readPacket H'' p = readPacket H p ∧ nilsOf H'' p = nilsOf H p ∧
      pktMarshal (readPacket H'' p) = pktMarshal (readPacket H p)) ∧
    ((∀ a, a < (pktCloneM H p).1.length → a ∉ reachPacket (pktCloneM H p).1 p →
        H''[a]? = (pktCloneM H p).1[a]?) →
      readPacket H'' (pktCloneM H p).2 = readPacket H p ∧ nilsOf H'' (pktCloneM H p).2 = nilsOf H p ∧
      pktMarshal (readPacket H'' (pktCloneM H p).2) = pktMarshal (readPacket H p)) := by
  obtain ⟨heq1, heq2, heq3, heq4⟩ := c20_mem_equal H p hok
  obtain ⟨hd1, hd2, hd3⟩ := c20_mem_disjoint H p hok
  obtain ⟨X, p', e, hc⟩ := pktCloneM_spec H p hok
  simp only [e] at heq1 heq2 heq3 heq4 hd1 hd2 hd3 ⊢
  have hlen : H.length ≤ (H ++ X).length := by simp
  constructor
  · intro hconf
    have hs : Same (H ++ X) H'' (reachPacket (H ++ X) p) := by
      intro a ha
      exact hconf a (by have := hd2 a ha; omega) (fun hb => hd3 a hb ha)
    obtain ⟨f1, f2, _⟩ := frame_packet p hs
    exact ⟨by rw [f1, heq3], by rw [f2, heq4], by rw [f1, heq3]⟩
  · intro hconf
    have hs : Same (H ++ X) H'' (reachPacket (H ++ X) p') := by
      intro a ha
      exact hconf a (hc.fresh a ha).2 (fun hb => hd3 a ha hb)
    obtain ⟨f1, f2, _⟩ := frame_packet p' hs
    exact ⟨by rw [f1, heq1], by rw [f2, heq2], by rw [f1, heq1]⟩

/-- an in-place store into a cell one side reaches is such a change -/
theorem c20_mem_store_confined (H' : Heap) (R : List Nat) (a : Nat) (c : Cell) (ha : a ∈ R) :
    ∀ b, b < H'.length → b ∉ R → (H'.set a c)[b]? = H'[b]? :=
  (Confined.refl H' R).set a c (Or.inl ha)

/-- and so is an allocation -/
theorem c20_mem_alloc_confined (H' X : Heap) (R : List Nat) :
    ∀ b, b < H'.length → b ∉ R → (H' ++ X)[b]? = H'[b]? :=
  (Confined.refl H' R).alloc (Nat.le_refl _) X

/-- the five mutations of the property, spelled out: clone, then apply any of them (set a payload
    byte, a CSRC entry, an extension value byte, SetExtension, DelExtension — as heap operations,
    `applyMutM`) to the clone: the original reads, shows nil-ness and serialises as before; apply
    it to the original instead: the clone does. -/
theorem c20_mem_mutations (H : Heap) (p : PacketM) (hok : okPacket H p) (m : MutM) :
    (readPacket (applyMutM (pktCloneM H p).1 (pktCloneM H p).2 m).1 p = readPacket H p ∧
     nilsOf (applyMutM (pktCloneM H p).1 (pktCloneM H p).2 m).1 p = nilsOf H p ∧
     pktMarshal (readPacket (applyMutM (pktCloneM H p).1 (pktCloneM H p).2 m).1 p) = pktMarshal (readPacket H p)) ∧
    (readPacket (applyMutM (pktCloneM H p).1 p m).1 (pktCloneM H p).2 = readPacket H p ∧
     nilsOf (applyMutM (pktCloneM H p).1 p m).1 (pktCloneM H p).2 = nilsOf H p ∧
     pktMarshal (readPacket (applyMutM (pktCloneM H p).1 p m).1 (pktCloneM H p).2) = pktMarshal (readPacket H p)) :=
  -- `Confined H' R H''` unfolds to the hypothesis of `c20_mem_independent`
  ⟨(c20_mem_independent H p hok _).1 (applyMutM_confined _ _ m),
   (c20_mem_independent H p hok _).2 (applyMutM_confined _ _ m)⟩

/-- Header.Clone on its own, over the heap: same value, nil-ness preserved, every backing array new -/
theorem c20_mem_header_clone (H : Heap) (h : HeaderM) (hok : okHeader H h) :
    readHeader (hdrCloneM H h).1 (hdrCloneM H h).2 = readHeader H h ∧
    (hdrCloneM H h).2.csrc.isNil = h.csrc.isNil ∧ (hdrCloneM H h).2.exts.isNil = h.exts.isNil ∧
    (∀ a ∈ reachHeader (hdrCloneM H h).1 (hdrCloneM H h).2, H.length ≤ a) ∧
    (∀ a ∈ reachHeader H h, a < H.length) := by
  obtain ⟨X, h', e, hc⟩ := hdrCloneM_spec H h hok
  rw [e]
  exact ⟨hc.read, hc.nilCsrc, hc.nilExts, fun a ha => (hc.fresh a ha).1, okHeader_lt hok⟩

/-- the link to the value-level model: what the heap-level clone reads as is `pktClone` of what
    the original reads as -/
theorem c20_mem_refines (H : Heap) (p : PacketM) (hok : okPacket H p) :
    readPacket (pktCloneM H p).1 (pktCloneM H p).2 = pktClone (readPacket H p) :=
  (c20_mem_equal H p hok).1

/-! non-vacuity: a heap holding a packet with CSRCs, a payload, two elements (one with a nil
    payload); Clone allocates four new cells (the nil payload needs none); overwriting the
    clone's first element payload leaves the original alone, while the same store on a header-copy
    (`clone := h` without the deep copies) would not -/
def exHeap : Heap :=
  [.words [7, 8], .bytes [1, 2, 3], .bytes [0xAA], .exts [{ id := 1, payload := .at 2 }, { id := 2, payload := .nil }]]
def exPkt : PacketM :=
  { header := { scalars := { version := 2, extension := true, extProfile := 0x1000 }, csrc := .at 0, exts := .at 3 },
    payload := .at 1, paddingSize := 0 }

-- okPacket = (okWords csrc ∧ okExts exts) ∧ okBytes payload; okExts: the cell and its element payloads
example : okPacket exHeap exPkt :=
  ⟨⟨⟨_, rfl⟩, ⟨_, rfl, by
      intro c hc
      simp only [List.mem_cons, List.mem_nil_iff, or_false] at hc
      rcases hc with rfl | rfl
      · exact ⟨_, rfl⟩
      · trivial⟩⟩, ⟨_, rfl⟩⟩
example : (readPacket exHeap exPkt).header.exts = [{ id := 1, payload := [0xAA] }, { id := 2, payload := [] }] := by decide +kernel
example : (pktCloneM exHeap exPkt).1.length = 8 := by decide +kernel
example : reachPacket (pktCloneM exHeap exPkt).1 (pktCloneM exHeap exPkt).2 = [4, 6, 5, 7] := by decide +kernel
example : reachPacket (pktCloneM exHeap exPkt).1 exPkt = [0, 3, 2, 1] := by decide +kernel
example : nilsOf (pktCloneM exHeap exPkt).1 (pktCloneM exHeap exPkt).2 = (false, false, false, [false, true]) := by decide +kernel
example : readPacket ((pktCloneM exHeap exPkt).1.set 5 (.bytes [0x55])) (pktCloneM exHeap exPkt).2
    ≠ readPacket exHeap exPkt := by decide +kernel
example : readPacket ((pktCloneM exHeap exPkt).1.set 5 (.bytes [0x55])) exPkt = readPacket exHeap exPkt := by decide +kernel
/-- the five heap mutations (SetExtension with the id present and absent) do change the side they
    are applied to -/
example : ∀ m ∈ [MutM.payloadByte 1, .csrcEntry 0, .extByte 0 0, .setExt 1 [9], .setExt 3 [9], .delExt 2],
    readPacket (applyMutM (pktCloneM exHeap exPkt).1 (pktCloneM exHeap exPkt).2 m).1
        (applyMutM (pktCloneM exHeap exPkt).1 (pktCloneM exHeap exPkt).2 m).2 ≠ readPacket exHeap exPkt := by
  decide +kernel
/-- a shallow copy (the struct assignment alone) is NOT independent: the model distinguishes -/
example : readPacket (exHeap.set 2 (.bytes [0x55])) exPkt ≠ readPacket exHeap exPkt := by decide +kernel

/-- over the heap, too, Clone ignores the deprecated pair: whatever slice `Raw` is (nil, an array of
    its own, or the very array the payload or an extension value lives in) and whatever
    `PayloadOffset` holds, the heap after cloning and the clone are those of `pktCloneM` — so all
    of `c20_mem_equal` / `c20_mem_disjoint` / `c20_mem_independent` / `c20_mem_mutations` apply
    unchanged; the clone's `Raw` is nil (it reaches no array through it), `PayloadOffset` is copied -/
theorem c20_mem_clone_ignores_raw (H : Heap) (p : PacketM) (raw : Sl) (po : Nat) :
    (pktCloneMD H { pkt := p, raw := raw, payloadOffset := po }).1 = (pktCloneM H p).1 ∧
    (pktCloneMD H { pkt := p, raw := raw, payloadOffset := po }).2 =
      { pkt := (pktCloneM H p).2, raw := .nil, payloadOffset := po } :=
  ⟨rfl, rfl⟩

/-- non-vacuity: `Raw` aliasing the payload's array -/
example : (pktCloneMD exHeap { pkt := exPkt, raw := .at 1, payloadOffset := 12 }).2.raw = .nil ∧
    reachPacket (pktCloneMD exHeap { pkt := exPkt, raw := .at 1, payloadOffset := 12 }).1
      (pktCloneMD exHeap { pkt := exPkt, raw := .at 1, payloadOffset := 12 }).2.pkt = [4, 6, 5, 7] := by decide

end Memory

end Rtp.Props.C20
