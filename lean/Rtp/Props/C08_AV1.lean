/-
  Rtp/Props/C08_AV1.lean — the AV1 part of C08: AV1Payloader respects the MTU, never panics, returns
  non-empty fragments, for every MTU 0 … 65535, every input and every history of calls.
  In this value-level model the input is an immutable value and the payloader has no state; that
  the returned payloads are new arrays is proved on the provenance model
  (Rtp/Props/C08_Prov2.lean: `c08_prov_av1_owned`, `c08_prov_av1_alias_witness`).
-/
import Rtp.Proofs.AV1Pay
import Rtp.Proofs.AV1PaySim
import Rtp.Proofs.AV1PayIdx
import Rtp.Proofs.Lib.CallOk
import Rtp.Proofs.Lib.UInt
namespace Rtp.Props.C08.AV1
open Rtp Rtp.Model Rtp.Model.AV1

/-- every MTU and every input: each returned payload is at most MTU bytes long and not empty -/
theorem c08_av1_bound (mtu : UInt16) (data : Bytes) :
    ∀ f ∈ AV1.payload mtu data, f.length ≤ mtu.toNat ∧ f ≠ [] := by
  intro f hf
  unfold AV1.payload at hf
  split at hf
  · simp at hf
  · rename_i hc
    simp only [Bool.or_eq_true, decide_eq_true_eq, not_or, Nat.not_le] at hc
    simp only [List.mem_map] at hf
    obtain ⟨p, hp, rfl⟩ := hf
    have hs := u16_toNat_le mtu
    obtain ⟨us, hfin⟩ := payloadPks_spec mtu.toNat (by omega) hs data
    exact ⟨by rw [Pk.encode_length]; exact hfin.size p hp,
           by simp [Pk.encode]⟩

/-- kind `c08.av1`: the shared C08 predicate holds of the model for every history of calls
    (nil and empty inputs, MTU 0 and 1 included) -/
theorem c08_av1 (calls : List (UInt16 × Option Bytes)) :
    Pred.C08.histOk false calls (c08Obs calls) = true := by
  induction calls with
  | nil => simp [c08Obs, Pred.C08.histOk]
  | cons c cs ih =>
    obtain ⟨m, i⟩ := c
    simp only [c08Obs, payObs, AV1B.payloadC_eq, List.map_cons, Pred.C08.histOk, Bool.and_eq_true,
      AV1B.payloadB_eq]
    refine ⟨?_, by simpa [c08Obs, payObs, AV1B.payloadC_eq, AV1B.payloadB_eq] using ih⟩
    exact Pred.C08.callOk_frags m i _ (c08_av1_bound m (i.getD []))

/-- the byte-level transcription of Payload with every index and slice expression CHECKED
    (`payload[offset:]`, `payload[offset:offset+obuSize]`, `obuPayload[:toWrite]`,
    `payloads[currentPayload][0]`, `payloads[currentPayload-1][0]`, …) never fails a check, for every
    MTU and every input, and computes the payloads of the model the theorems are about -/
theorem c08_av1_slices_in_range (mtu : UInt16) (data : Bytes) :
    AV1B.payloadC mtu data = some (AV1.payload mtu data) := by
  rw [AV1B.payloadC_eq, AV1B.payloadB_eq]

/-- non-vacuity: two OBUs at MTU 5 — the second is fragmented; every payload is within 5 bytes -/
example : AV1.payload 5 [0x32, 0x01, 0xAA, 0x30, 0x01, 0x02, 0x03, 0x04, 0x05] =
    [[0x60, 0x02, 0x30, 0xAA, 0x30], [0xD0, 0x01, 0x02, 0x03, 0x04], [0x90, 0x05]] := by
  decide +kernel

end Rtp.Props.C08.AV1
