/-
  Rtp/Props/C05Closed.lean — C05's wire theorems with C01's header round trip plugged in.
-/
import Rtp.Props.C01
import Rtp.Props.C05
namespace Rtp.Props.C05
open Rtp Rtp.Model Rtp.Pred Rtp.Pred.C05 Rtp.Proofs.HeaderExt
open Rtp.Spec.OrderedMap (Op)

/-- `HeaderRoundTrip` is `c01_header_roundtrip_all` without its length conjunct -/
theorem headerRoundTrip : HeaderRoundTrip := fun h hwf =>
  let ⟨bs, hm, _, hall⟩ := Rtp.Props.C01.c01_header_roundtrip_all h hwf
  ⟨bs, hm, hall⟩

theorem c05_pred_model_closed (s : Start) (ops : List Op) (hwf : wf s = true) (hfw : finalWf s ops = true) :
    Pred.C05.pred s ops (Pred.C05.modelObs s ops) = true :=
  c05_pred_model headerRoundTrip s ops hwf hfw

theorem c05_pred_model_partial_closed (s : Start) (ops : List Op)
    (hc : startCovered s = true) (hsz : sizeOk s ops = true) :
    Pred.C05.pred s ops (Pred.C05.modelObs s ops) = true :=
  c05_pred_model_partial headerRoundTrip s ops hc hsz

theorem c05_wire_closed (h : Header) (id : UInt8) (v : Bytes) (h' : Header)
    (hl : legal h = true) (hs : setExtension h id v = (none, h'))
    (hfix : h.version.toNat < 4 ∧ h.payloadType.toNat < 128 ∧ h.csrc.length ≤ 15)
    (hsize : extBodySize h' ≤ 65535 * 4)
    (hleg : isLegacy h'.extProfile = true → v.length % 4 = 0) :
    ∃ bs, hdrMarshal h' = .ok bs ∧
      ∀ r : Header, ∃ h'', hdrUnmarshal r bs = .ok (h'', bs.length) ∧
        (∀ k, getExtension h'' k = getExtension h' k) ∧ getExtension h'' id = some v :=
  c05_wire_inv headerRoundTrip h id v h' hl hs hfix hsize hleg

end Rtp.Props.C05
