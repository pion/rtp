/-
  Rtp/Model/Sequencer.lean — what /repo/sequencer.go DOES.

    type sequencer struct { sequenceNumber uint16; rollOverCount uint64; mutex sync.Mutex }
    NewFixedSequencer(s)   = &sequencer{sequenceNumber: s - 1}
    NewRandomSequencer()   = &sequencer{sequenceNumber: uint16(Intn(1<<15 - 1))}
    NextSequenceNumber()   = lock; defer unlock; seq++ ; if seq == 0 { roc++ } ; return seq
    RollOverCount()        = lock; defer unlock; return roc

  First the *sequential* model (one caller, or: what happens inside one critical section), then the
  interleaving semantics of several callers (`SeqConc`).
  Core Lean only (linked into rtpmodel).
-/
import Rtp.Go.Prim
import Rtp.Spec.Counter
namespace Rtp.Model

/-- the two fields guarded by `sequencer.mutex` -/
structure SeqState where
  seq : UInt16
  roc : UInt64
  deriving DecidableEq, Repr, Inhabited

namespace SeqState

/-- `maxInitialRandomSequenceNumber = 1<<15 - 1` (sequencer.go:21) -/
def maxInitialRandom : Nat := 32767

/-- `NewFixedSequencer(s)`: the stored value is `s - 1` (uint16 wrap-around) so that the first
    issued value is `s`. -/
def newFixed (s : UInt16) : SeqState := { seq := s - 1, roc := 0 }

/-- `NewRandomSequencer()` where `r` is what `Intn(maxInitialRandomSequenceNumber)` returned
    (`0 ≤ r < 32767`, randutil's contract: trusted base). -/
def newRandom (r : Nat) : SeqState := { seq := r.toUInt16, roc := 0 }

/-- `NextSequenceNumber`: returns the issued value and the new state. -/
def next (s : SeqState) : UInt16 × SeqState :=
  let q := s.seq + 1
  (q, { seq := q, roc := if q == 0 then s.roc + 1 else s.roc })

/-- `RollOverCount` -/
def rollOverCount (s : SeqState) : UInt64 := s.roc

end SeqState

/-- the two methods of the `Sequencer` interface (vocabulary shared with the spec) -/
abbrev SeqOp := Spec.Counter.Op

/-- what a call returned (as a `Nat`: a `uint16` for `next`, a `uint64` for `roc`) -/
def SeqState.step (s : SeqState) : SeqOp → Nat × SeqState
  | .next => let (v, s') := s.next; (v.toNat, s')
  | .roc => (s.rollOverCount.toNat, s)

/-- results of a sequential run of `ops` from `s` (structural; used by the theorems) -/
def SeqState.run (s : SeqState) : List SeqOp → List Nat
  | [] => []
  | op :: ops => let (v, s') := s.step op; v :: s'.run ops

/-- final state of a sequential run -/
def SeqState.exec (s : SeqState) : List SeqOp → SeqState
  | [] => s
  | op :: ops => (s.step op).2.exec ops

/-- tail-recursive version for the driver (histories of 10^5 and more calls) -/
def SeqState.runTR (s : SeqState) (ops : List SeqOp) : List Nat :=
  go s ops #[]
where
  go (s : SeqState) : List SeqOp → Array Nat → List Nat
    | [], acc => acc.toList
    | op :: ops, acc => let (v, s') := s.step op; go s' ops (acc.push v)

theorem SeqState.runTR_go_eq (s : SeqState) (ops : List SeqOp) (acc : Array Nat) :
    SeqState.runTR.go s ops acc = acc.toList ++ s.run ops := by
  induction ops generalizing s acc with
  | nil => simp [SeqState.runTR.go, SeqState.run]
  | cons op ops ih =>
    simp only [SeqState.runTR.go, SeqState.run]
    rw [ih]; simp

@[csimp] theorem SeqState.run_eq_runTR : @SeqState.run = @SeqState.runTR := by
  funext s ops; simp [SeqState.runTR, SeqState.runTR_go_eq]

/-! ### several callers: small-step interleaving semantics

  N threads (indexed by `Nat`; any number, `thr i` with an empty program never moves), each
  running its own list of method calls.  A call is executed as micro-steps

      draw ticket `before` · Lock() · body under the lock · Unlock() (deferred) · return, draw ticket `after`

  where the body of `NextSequenceNumber` is  read sequenceNumber · write sequenceNumber+1 ·
  read it again and test it against 0 · [read rollOverCount · write rollOverCount+1] · read
  sequenceNumber for the return value  (one micro-step per access to a shared field),  and the
  body of `RollOverCount` is one read.  Any thread whose next micro-step is enabled may take it (`step s i`); `Lock()` is enabled
  only while the mutex is free.  What `sync.Mutex` and the Go memory model are ASSUMED to provide
  is exactly this: mutual exclusion, and that the fields are read and written atomically and
  in program order by the lock holder.

  The two ticket draws model the harness' global atomic counter (kind `c07.hist`); `lin` is a
  ghost log: an entry is appended when a call unlocks, its `after` ticket is filled in when the
  call returns. -/

/-- one completed call of a concurrent history -/
structure SeqCall where
  g : Nat          -- goroutine / thread
  op : SeqOp
  before : Nat     -- global ticket drawn just before the call
  after : Nat      -- global ticket drawn just after the call returned (0: not yet returned)
  res : Nat        -- what the call returned
  deriving DecidableEq, Repr, Inhabited

namespace SeqConc

/-- where a thread is inside a call (`b` = its `before` ticket).  The body of
    `NextSequenceNumber` is split into every single read and write of a shared field:
    `s.sequenceNumber++` (read, write), `if s.sequenceNumber == 0` (read), `s.rollOverCount++`
    (read, write), `return s.sequenceNumber` (read). -/
inductive PC where
  | idle                            -- between calls
  | called (b : Nat)                -- ticket drawn, about to Lock()
  | locked (b : Nat)                -- holds the mutex, body not started
  | gotSeq (b : Nat) (t : UInt16)   -- next: has read sequenceNumber = t
  | wrote (b : Nat)                 -- next: has written sequenceNumber (read value + 1), about to test it
  | rocRead (b : Nat)               -- next: the test found 0, about to read rollOverCount
  | rocGot (b : Nat) (t : UInt64)   -- next: has read rollOverCount = t, about to write t + 1
  | retRead (b : Nat)               -- next: about to read sequenceNumber for the return value
  | ready (b : Nat) (res : Nat)     -- return value evaluated, about to Unlock()
  | unlocked (k : Nat)              -- mutex released (log entry k), about to return
  deriving DecidableEq, Repr

structure Thread where
  pc : PC
  todo : List SeqOp                 -- calls still to make; the head is the one in progress
  deriving Repr

structure Sys where
  st : SeqState                     -- the two shared fields
  holder : Option Nat               -- the mutex
  clock : Nat                       -- the global ticket counter
  thr : Nat → Thread
  lin : List SeqCall                -- ghost log, in unlock order

def Sys.setThr (s : Sys) (i : Nat) (t : Thread) : Nat → Thread := fun j => if j = i then t else s.thr j

/-- thread `i` takes its next micro-step, if it is enabled -/
def Sys.step (s : Sys) (i : Nat) : Option Sys :=
  match (s.thr i).pc, (s.thr i).todo with
  | .idle, op :: rest =>
    some { s with clock := s.clock + 1, thr := s.setThr i { pc := .called (s.clock + 1), todo := op :: rest } }
  | .called b, op :: rest =>
    if s.holder = none then some { s with holder := some i, thr := s.setThr i { pc := .locked b, todo := op :: rest } }
    else none
  | .locked b, .next :: rest =>
    some { s with thr := s.setThr i { pc := .gotSeq b s.st.seq, todo := .next :: rest } }
  | .locked b, .roc :: rest =>
    some { s with thr := s.setThr i { pc := .ready b s.st.roc.toNat, todo := .roc :: rest } }
  | .gotSeq b t, todo =>
    some { s with st := { s.st with seq := t + 1 }, thr := s.setThr i { pc := .wrote b, todo := todo } }
  | .wrote b, todo =>
    some { s with thr := s.setThr i { pc := if s.st.seq == 0 then .rocRead b else .retRead b, todo := todo } }
  | .rocRead b, todo =>
    some { s with thr := s.setThr i { pc := .rocGot b s.st.roc, todo := todo } }
  | .rocGot b t, todo =>
    some { s with st := { s.st with roc := t + 1 }, thr := s.setThr i { pc := .retRead b, todo := todo } }
  | .retRead b, todo =>
    some { s with thr := s.setThr i { pc := .ready b s.st.seq.toNat, todo := todo } }
  | .ready b res, op :: rest =>
    some { s with holder := none,
                  lin := s.lin ++ [{ g := i, op := op, before := b, after := 0, res := res }],
                  thr := s.setThr i { pc := .unlocked s.lin.length, todo := rest } }
  | .unlocked k, todo =>
    some { s with clock := s.clock + 1,
                  lin := s.lin.modify k (fun c => { c with after := s.clock + 1 }),
                  thr := s.setThr i { pc := .idle, todo := todo } }
  | _, _ => none

/-- the system before anything happened: thread `i` is to run `prog i` -/
def Sys.init (s0 : SeqState) (prog : Nat → List SeqOp) : Sys :=
  { st := s0, holder := none, clock := 0, thr := fun i => { pc := .idle, todo := prog i }, lin := [] }

/-- run a schedule (a list of thread ids); `none` if it names a thread that cannot move -/
def Sys.run (s : Sys) : List Nat → Option Sys
  | [] => some s
  | i :: is => match s.step i with
    | some s' => s'.run is
    | none => none

/-- no call is in flight -/
def Sys.Quiescent (s : Sys) : Prop := ∀ i, (s.thr i).pc = .idle

/-- every thread has finished its program -/
def Sys.Complete (s : Sys) : Prop := ∀ i, (s.thr i).pc = .idle ∧ (s.thr i).todo = []

end SeqConc

end Rtp.Model
