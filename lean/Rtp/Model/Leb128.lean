/-
  Rtp/Model/Leb128.lean — codecs/av1/obu/leb128.go (also reached through pkg/obu).

  `writeLeb`      WriteToLeb128 (the argument is a Go `uint`, i.e. 64 bits; modelled on `Nat`
                  below 2^64, where the 10-byte buffer always suffices)
  `readLebSpec`   what LEB128 means: little-endian base-128, unbounded
  `readLebGo`     ReadLeb128 exactly: a 64-bit accumulator of the raw bytes (so bytes beyond the
                  last eight are silently shifted out) followed by decodeLEB128
-/
import Rtp.Go.Prim
namespace Rtp.Model
open Rtp

/-- WriteToLeb128 -/
def writeLeb (n : Nat) : Bytes :=
  if h : n < 128 then [n.toUInt8] else (n % 128 + 128).toUInt8 :: writeLeb (n / 128)
termination_by n
decreasing_by omega

/-- LEB128 as specified: value and number of bytes consumed; `none` if the input ends first. -/
def readLebSpec : Bytes → Option (Nat × Nat)
  | [] => none
  | b :: rest =>
    if b.toNat < 128 then some (b.toNat, 1)
    else match readLebSpec rest with
      | none => none
      | some (v, k) => some (b.toNat % 128 + 128 * v, k + 1)

/-- decodeLEB128: peel 7-bit groups off a 64-bit word, least significant *byte* first
    (= most significant group first).  Eight rounds exhaust a 64-bit word. -/
def decodeLeb128Go : Nat → UInt64 → UInt64 → UInt64
  | 0, _, out => out
  | fuel + 1, inp, out =>
    let out := out ||| (inp &&& 0x7f)
    let inp := inp >>> 8
    if inp == 0 then out else decodeLeb128Go fuel inp (out <<< 7)

/-- the accumulation loop of ReadLeb128; `i` = bytes consumed so far -/
def readLebGoLoop : Bytes → UInt64 → Nat → Option (UInt64 × Nat)
  | [], _, _ => none
  | b :: rest, acc, i =>
    let acc := acc ||| b.toUInt64
    if b &&& 0x80 == 0 then some (decodeLeb128Go 9 acc 0, i + 1)
    else readLebGoLoop rest (acc <<< 8) (i + 1)

/-- ReadLeb128: (value, bytes read) or ErrFailedToReadLEB128 -/
def readLebGo (inp : Bytes) : Option (UInt64 × Nat) := readLebGoLoop inp 0 0

/-- ReadLeb128 agrees with the specification on everything WriteToLeb128 produces for values that
    fit eight LEB128 bytes (beyond that the 64-bit accumulator of ReadLeb128 drops bytes).
    Proved as `Rtp.Model.readLebGo_writeLeb` in Rtp/Proofs/Leb128Go.lean; some theorems of
    Props/C13.lean and Props/C19.lean carry `(hleb : LebGoSpec)` in their statements. -/
def LebGoSpec : Prop :=
  ∀ (n : Nat) (rest : Bytes), n < 2 ^ 56 →
    readLebGo (writeLeb n ++ rest) = some (n.toUInt64, (writeLeb n).length)

/-- number of bytes WriteToLeb128 produces (av1_packet.go leb128Size is a separate function) -/
def lebLen (n : Nat) : Nat := (writeLeb n).length

end Rtp.Model
