/-
  Rtp/Pred/C07.lean — C07 as executable predicates over (input, observation).

  * `runOk`        one caller: the values issued are consecutive mod 2^16 (65535 is followed by
                   0), the first one is the start value (fixed) / below 2^15 (random), every
                   `RollOverCount` read equals the number of zeros issued before it.
  * `isLinearization` / `linearizable`   many callers: the recorded history (every call stamped
                   with a global ticket before and after) is a permutation of a sequential run
                   that respects real-time order.

  Core Lean only (linked into rtpmodel).
-/
import Rtp.Model.Sequencer
namespace Rtp.Pred.C07
open Rtp Rtp.Model Rtp.Spec.Counter

/-! ### sequential runs (`c07.run`) -/

/-- how the sequencer under test was made -/
inductive Start where
  | fixed (s : UInt16)     -- NewFixedSequencer(s)
  | random (r : Nat)       -- NewRandomSequencer(); `r` = the stored initial value (first issue − 1)
  deriving DecidableEq, Repr

def Start.state : Start → SeqState
  | .fixed s => SeqState.newFixed s
  | .random r => SeqState.newRandom r

/-- the randutil contract: `Intn(1<<15 - 1)` is in `[0, 32767)` -/
def Start.wf : Start → Bool
  | .fixed _ => true
  | .random r => decide (r < SeqState.maxInitialRandom)

/-- what the property says about the very first value issued -/
def firstOk : Start → Nat → Bool
  | .fixed s, v => v == s.toNat
  | .random _, v => decide (v < 32768)

/-- walk along a run.  `last` = the previous value issued (none yet: `none`), `zeros` = how many
    times the value 0 has been issued so far. -/
def walk (st : Start) : Option Nat → Nat → List Op → List Nat → Bool
  | _, _, [], [] => true
  | last, zeros, .next :: ops, v :: vs =>
    decide (v < 65536) &&
    (match last with
     | none => firstOk st v
     | some l => v == (l + 1) % 65536) &&
    walk st (some v) (if v == 0 then zeros + 1 else zeros) ops vs
  | last, zeros, .roc :: ops, r :: vs =>
    r == zeros % 2 ^ 64 && walk st last zeros ops vs
  | _, _, _, _ => false

/-- the property on one sequential run -/
def runOk (st : Start) (ops : List Op) (obs : List Nat) : Bool := walk st none 0 ops obs

/-! ### concurrent histories (`c07.hist`) -/

/-- one completed call of a concurrent history (defined with the model) -/
abbrev Call := Model.SeqCall

/-- the results are those of the sequential run of the calls in this order -/
def replayOk (s : SeqState) : List Call → Bool
  | [] => true
  | c :: cs => let (v, s') := s.step c.op; c.res == v && replayOk s' cs

/-- real-time order is respected by the list order: no call has returned (ticket `after`) before a
    call placed earlier in the list was even invoked (ticket `before`).  `maxB` is the largest
    `before` ticket seen so far (tickets start at 1). -/
def rtOk (maxB : Nat) : List Call → Bool
  | [] => true
  | c :: cs => decide (maxB < c.after) && rtOk (max maxB c.before) cs

/-- `L` (a list of completed calls *in the proposed linearization order*) is a legal sequential
    history of a sequencer started in state `s` that respects real-time order -/
def isLinearization (s : SeqState) (L : List Call) : Bool :=
  L.all (fun c => decide (c.before < c.after)) && replayOk s L && rtOk 0 L

/-- the declarative statement: some permutation of the history is a linearization -/
def Linearizable (s : SeqState) (H : List Call) : Prop :=
  ∃ L : List Call, L.Perm H ∧ isLinearization s L = true

/-! #### finding the linearization

  Greedy search, proved sound AND complete in Rtp/Proofs/Linearize.lean (stated in Rtp/Props/C07.lean as
  `c07_linearizable_iff`): it
  finds a linearization whenever one exists, so the check never raises a false alarm.

  The calls not yet placed, `R`, are kept sorted by `before`.  A call can be placed next only if no
  other remaining call has returned before it was invoked, i.e. its `before` is smaller than every
  remaining `after`; those calls are a prefix of `R`, the `window`.  If the window contains a
  `RollOverCount` read that agrees with the current state it is placed (a read can always go
  first).  Otherwise the window's `NextSequenceNumber` call returning the next value is placed —
  the one with the smallest `after` if there are several (values repeat every 65536 calls): by an
  exchange argument neither choice loses a linearization. -/

/-- longest prefix in which every call was invoked before all the earlier ones returned -/
def windowAux (m : Nat) : List Call → List Call
  | [] => []
  | c :: cs => if c.before < m then c :: windowAux (min m c.after) cs else []

/-- the calls of `R` (sorted by `before`) that may be linearized next -/
def window : List Call → List Call
  | [] => []
  | c :: cs => c :: windowAux c.after cs

def rocMatch (s : SeqState) (c : Call) : Bool := c.op == .roc && c.res == s.roc.toNat
def nextMatch (s : SeqState) (c : Call) : Bool := c.op == .next && c.res == s.next.1.toNat

/-- a call with the smallest `after` -/
def pickMinAfter : List Call → Option Call
  | [] => none
  | c :: cs => match pickMinAfter cs with
    | none => some c
    | some d => if c.after ≤ d.after then some c else some d

/-- the greedy search; `fuel` ≥ the number of calls -/
def greedy : Nat → SeqState → List Call → Option (List Call)
  | _, _, [] => some []
  | 0, _, _ :: _ => none
  | fuel + 1, s, c0 :: R0 =>
    let W := window (c0 :: R0)
    match W.find? (rocMatch s) with
    | some c => (greedy fuel s ((c0 :: R0).erase c)).map (c :: ·)
    | none =>
      match pickMinAfter (W.filter (nextMatch s)) with
      | some c => (greedy fuel s.next.2 ((c0 :: R0).erase c)).map (c :: ·)
      | none => none

/-- tail-recursive version for the driver (histories of 10^5 calls) -/
def greedyTR : Nat → SeqState → List Call → Array Call → Option (List Call)
  | _, _, [], acc => some acc.toList
  | 0, _, _ :: _, _ => none
  | fuel + 1, s, c0 :: R0, acc =>
    let W := window (c0 :: R0)
    match W.find? (rocMatch s) with
    | some c => greedyTR fuel s ((c0 :: R0).erase c) (acc.push c)
    | none =>
      match pickMinAfter (W.filter (nextMatch s)) with
      | some c => greedyTR fuel s.next.2 ((c0 :: R0).erase c) (acc.push c)
      | none => none

theorem greedyTR_eq (fuel : Nat) (s : SeqState) (R : List Call) (acc : Array Call) :
    greedyTR fuel s R acc = (greedy fuel s R).map (acc.toList ++ ·) := by
  induction fuel generalizing s R acc with
  | zero => cases R <;> simp [greedyTR, greedy]
  | succ fuel ih =>
    cases R with
    | nil => simp [greedyTR, greedy]
    | cons c0 R0 =>
      simp only [greedyTR, greedy]
      split
      · rw [ih]; simp [Option.map_map, Function.comp_def]
      · split
        · rw [ih]; simp [Option.map_map, Function.comp_def]
        · rfl

def byBefore (a b : Call) : Bool := a.before ≤ b.before

/-- the linearization found, if any -/
def findLin (s : SeqState) (H : List Call) : Option (List Call) :=
  greedyTR H.length s (H.mergeSort byBefore) #[]

/-- the executable check run on recorded histories -/
def linearizable (s : SeqState) (H : List Call) : Bool :=
  match findLin s H with
  | some L => isLinearization s L
  | none => false

/-- for the reference implementation `linearizableBrute` below: try every permutation (used only to
    cross-check `linearizable` on tiny histories, kind `c07.synthsmall`) -/
def insertEverywhere (c : Call) : List Call → List (List Call)
  | [] => [[c]]
  | d :: ds => (c :: d :: ds) :: (insertEverywhere c ds).map (d :: ·)

def perms : List Call → List (List Call)
  | [] => [[]]
  | c :: cs => (perms cs).flatMap (insertEverywhere c)

def linearizableBrute (s : SeqState) (H : List Call) : Bool :=
  (perms H).any (isLinearization s)

/-- the facts the go/ast extractor reports about sequencer.go (`c07.facts`) -/
structure Facts where
  nextLocksFirst : Bool      -- NextSequenceNumber's body starts with s.mutex.Lock()
  nextDefersUnlock : Bool    -- … and releases it by `defer s.mutex.Unlock()` as the next statement, or by
                             -- one top-level Unlock() after the last access to the fields, no return before it
  rocLocksFirst : Bool       -- the same for RollOverCount (RLock/RUnlock accepted: it only reads)
  rocDefersUnlock : Bool
  noOtherLockOps : Bool      -- no other use of the mutex, no func literal, no go statement in either body
  fieldsPrivate : Bool       -- sequenceNumber / rollOverCount are touched only by the two methods
                             -- (and initialised in the two constructors' literals)
  maxInitialRandom : Nat     -- value of the constant maxInitialRandomSequenceNumber
  deriving DecidableEq, Repr

/-- `c07.randstart`: what was seen of `n` fresh random sequencers' first values -/
structure RandStart where
  n : Nat
  minFirst : Nat
  maxFirst : Nat
  deriving DecidableEq, Repr

/-- "a random sequencer starts below 2^15" -/
def randStartOk (o : RandStart) : Bool := decide (o.maxFirst < 32768)

def factsOk (f : Facts) : Bool :=
  f.nextLocksFirst && f.nextDefersUnlock && f.rocLocksFirst && f.rocDefersUnlock &&
  f.noOtherLockOps && f.fieldsPrivate && f.maxInitialRandom == SeqState.maxInitialRandom

end Rtp.Pred.C07
